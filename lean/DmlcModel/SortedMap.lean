import DmlcModel.Basic

/-!
`std::map<std::string, α>` as an association list sorted by key: what `m[k] = v` does, for any function that
satisfies the two insertion equations (`Json.mapInsert` and `Param.mapInsert` test in a different order; both are
instances).
-/
namespace DmlcModel
variable {α : Type}

abbrev KeySorted (m : List (Bytes × α)) : Prop := m.Pairwise (fun a b => a.1 < b.1)

structure SortedInsert (ins : Bytes → α → List (Bytes × α) → List (Bytes × α)) : Prop where
  nil : ∀ k v, ins k v [] = [(k, v)]
  cons : ∀ k v kv m, ins k v (kv :: m) =
    if k = kv.1 then (k, v) :: m else if k < kv.1 then (k, v) :: kv :: m else kv :: ins k v m

namespace SortedInsert
variable {ins : Bytes → α → List (Bytes × α) → List (Bytes × α)} (h : SortedInsert ins)
include h

theorem mem (k : Bytes) (v : α) : ∀ (m : List (Bytes × α)) (b : Bytes × α), b ∈ ins k v m → b = (k, v) ∨ b ∈ m
  | [], b, hb => Or.inl (by simpa [h.nil] using hb)
  | kv :: m, b, hb => by
    rw [h.cons] at hb
    split at hb
    · exact (List.mem_cons.mp hb).imp_right (List.mem_cons_of_mem _)
    · split at hb
      · exact List.mem_cons.mp hb
      · rcases List.mem_cons.mp hb with rfl | hb
        · exact Or.inr List.mem_cons_self
        · exact (mem k v m b hb).imp_right (List.mem_cons_of_mem _)

theorem sorted (k : Bytes) (v : α) : ∀ (m : List (Bytes × α)), KeySorted m → KeySorted (ins k v m) := by
  intro m
  induction m with
  | nil => intro _; simp [h.nil]
  | cons kv m ih =>
    intro hm
    have h' := List.pairwise_cons.mp hm
    rw [h.cons]
    split
    · next hk => exact List.pairwise_cons.mpr ⟨fun b hb => hk ▸ h'.1 b hb, h'.2⟩
    · next hk =>
      split
      · next hlt =>
        refine List.pairwise_cons.mpr ⟨fun b hb => ?_, hm⟩
        rcases List.mem_cons.mp hb with rfl | hb
        · exact hlt
        · exact List.lt_trans hlt (h'.1 b hb)
      · next hlt =>
        refine List.pairwise_cons.mpr ⟨fun b hb => ?_, ih h'.2⟩
        rcases h.mem k v m b hb with rfl | hb
        · exact Decidable.not_not.mp fun hgt => hk (List.le_antisymm hgt hlt)
        · exact h'.1 b hb

theorem perm (k : Bytes) (v : α) : ∀ (m : List (Bytes × α)), (∀ a ∈ m, a.1 ≠ k) → (ins k v m).Perm ((k, v) :: m) := by
  intro m
  induction m with
  | nil => intro _; rw [h.nil]
  | cons kv m ih =>
    intro hm
    have hk : ¬ k = kv.1 := fun e => hm kv (by simp) e.symm
    rw [h.cons, if_neg hk]
    split
    · exact List.Perm.refl _
    · exact ((ih fun a ha => hm a (by simp [ha])).cons kv).trans (List.Perm.swap _ _ _)

theorem foldl_sorted : ∀ (kvs acc : List (Bytes × α)), KeySorted acc →
    KeySorted (kvs.foldl (fun m kv => ins kv.1 kv.2 m) acc)
  | [], _, ha => ha
  | kv :: kvs, acc, ha => foldl_sorted kvs _ (h.sorted kv.1 kv.2 acc ha)

/-- with pairwise distinct keys nothing is overwritten -/
theorem foldl_perm : ∀ (kvs acc : List (Bytes × α)), kvs.Pairwise (fun a b => a.1 ≠ b.1) →
    (∀ a ∈ acc, ∀ b ∈ kvs, a.1 ≠ b.1) → (kvs.foldl (fun m kv => ins kv.1 kv.2 m) acc).Perm (acc ++ kvs)
  | [], acc, _, _ => by simp
  | kv :: kvs, acc, hd, hx => by
    rw [List.pairwise_cons] at hd
    refine (foldl_perm kvs (ins kv.1 kv.2 acc) hd.2 ?_).trans ?_
    · intro a ha b hb
      rcases h.mem kv.1 kv.2 acc a ha with rfl | ha
      · exact hd.1 b hb
      · exact hx a ha b (by simp [hb])
    · exact ((h.perm kv.1 kv.2 acc fun a ha => hx a ha kv (by simp)).append_right kvs).trans List.perm_middle.symm

end SortedInsert
end DmlcModel
