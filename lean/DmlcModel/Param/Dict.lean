import DmlcModel.Param.EntryMap
import DmlcModel.Param.Literal
import DmlcModel.Json.Canon
/-!
Dictionary / JSON forms: a printed field is a literal of its type, and the dictionary has strictly increasing keys, so
C16's round trip applies.
-/
namespace DmlcModel.Param
open DmlcModel

theorem getDictAux_spec {ops : FloatOps} {st : Struct} :
    ∀ {L : List (Bytes × Nat × Field)} {kvs : List KV}, getDictAux ops st L = .ok kvs →
      kvs.map (·.1) = L.map (·.1) ∧
      ∀ kv ∈ kvs, ∃ e ∈ L, e.1 = kv.1 ∧ getString ops e.2.2 (st e.2.1) = .ok kv.2
  | [], kvs, h => by cases h; simp
  | (k, i, f) :: rest, kvs, h => by
    unfold getDictAux at h
    split at h
    · cases h
    · next s hs =>
      split at h
      · cases h
      · next r hr =>
        cases h
        obtain ⟨h1, h2⟩ := getDictAux_spec hr
        refine ⟨by simp [h1], fun kv hkv => ?_⟩
        rcases List.mem_cons.mp hkv with rfl | hkv
        · exact ⟨_, List.mem_cons_self .., rfl, hs⟩
        · obtain ⟨e, he, h⟩ := h2 kv hkv
          exact ⟨e, List.mem_cons_of_mem _ he, h⟩

theorem enumName_mem {enums : List (Bytes × Int)} {x : Int} {n : Bytes}
    (h : enumName enums x = some n) : (n, x) ∈ enums := by
  unfold enumName at h
  split at h
  · next n' x' hf =>
    cases h
    cases (by simpa using List.find?_some hf : x' = x)
    exact List.mem_of_find?_eq_some hf
  · cases h

theorem lookupEnum_of_mem : ∀ {enums : List (Bytes × Int)} {n : Bytes} {x : Int},
    (enums.map (·.1)).Nodup → (n, x) ∈ enums → lookupEnum enums n = some x
  | (n', x') :: rest, n, x, hnd, hm => by
    rw [List.map_cons, List.nodup_cons] at hnd
    rcases List.mem_cons.mp hm with h | h
    · cases h; simp [lookupEnum]
    · have hne : n' ≠ n := fun heq => hnd.1 (heq ▸ List.mem_map_of_mem (f := (·.1)) h)
      have := lookupEnum_of_mem hnd.2 h
      simp only [lookupEnum, List.find?, beq_eq_false_iff_ne.mpr hne] at this ⊢
      exact this

/-- every kind but float / double, whose printing is a parameter -/
theorem literal_getString (ops : FloatOps) {f : Field} (hN : EnumNamesOk f) {v : Val}
    (hnf : f.ty ≠ .float ∧ f.ty ≠ .double) (hwt : WellTyped f v) {s : Bytes} (hs : getString ops f v = .ok s) :
    literal ops f s = some v := by
  unfold literal
  unfold getString at hs
  unfold WellTyped at hwt
  -- the pairs (type, value) that are not well typed go here: `hwt` is `False`
  cases hty : f.ty <;> rw [hty] at hs hwt <;> simp only <;> cases v <;> simp only at hs hwt
  case float.flt => exact absurd hty hnf.1
  case double.flt => exact absurd hty hnf.2
  case int.int x => cases hs; simp [intLit_decimal .i32 x hwt]
  case uint.int x => cases hs; simp [intLit_decimal .u32 x hwt]
  case int64.int x => cases hs; simp [intLit_decimal .i64 x hwt]
  case bool.bool b => cases hs; cases b <;> decide
  case string.str t => cases hs; rfl
  case enumInt.int x =>
    cases hn : enumName f.enums x with
    | none => simp [hn] at hs
    | some n =>
      simp only [hn, Except.ok.injEq] at hs
      subst hs
      simp [lookupEnum_of_mem hN.1 (enumName_mem hn)]
  case optInt.oint o =>
    cases o with
    | none => simp only at hs; cases hs; decide
    | some x => simp only at hs hwt; cases hs; simp [optIntLit_decimal x hwt]
  case optEnum.oint o =>
    cases o with
    | none => simp only at hs; cases hs; simp
    | some x =>
      simp only at hs
      cases hn : enumName f.enums x with
      | none => simp [hn] at hs
      | some n =>
        simp only [hn, Except.ok.injEq] at hs
        subst hs
        have hm := enumName_mem hn
        simp [hN.2 _ hm, lookupEnum_of_mem hN.1 hm]
  case optBool.obool o =>
    cases o with
    | none => simp only at hs; cases hs; decide
    | some b => simp only at hs; cases hs; cases b <;> decide

theorem chainK_iff (lb : Bytes) : ∀ ks : List Bytes, chainK lb ks ↔ (lb :: ks).Pairwise (· < ·)
  | [] => by simp [chainK]
  | k :: ks => by
    rw [chainK, chainK_iff k ks, bytesLt_iff, List.pairwise_cons (a := lb), List.pairwise_cons]
    refine ⟨fun ⟨h1, h2⟩ => ⟨fun c hc => ?_, h2⟩, fun ⟨h1, h2⟩ => ⟨h1 k (by simp), h2⟩⟩
    rcases List.mem_cons.mp hc with rfl | hc
    · exact h1
    · exact List.lt_trans h1 (h2.1 c hc)

theorem incK_iff : ∀ ks : List Bytes, incK ks ↔ ks.Pairwise (· < ·)
  | [] => by simp [incK]
  | k :: ks => chainK_iff k ks

theorem entryMap_incK (S : Schema) : incK ((entryMap S).map (·.1)) := by
  rw [incK_iff, List.pairwise_map]
  exact mapInsert_ins.foldl_sorted (allEntries 0 S) [] .nil

theorem dict_incK {ops : FloatOps} {S : Schema} {st : Struct} {kvs : List KV} (h : dict ops S st = .ok kvs) :
    incK (kvs.map (·.1)) := by
  rw [(getDictAux_spec h).1]
  exact entryMap_incK S

theorem toJson_keysIncreasing (kvs : List KV) (h : incK (kvs.map (·.1))) :
    Json.keysIncreasing (kvs.map fun kv => (kv.1, Json.Val.str kv.2)) = true := by
  rw [incK_iff, List.pairwise_map] at h
  rwa [Json.keysIncreasing_iff, List.pairwise_map]

theorem ofJson_toJson (kvs : List KV) : ofJson (toJson kvs) = some kvs := by
  unfold toJson ofJson
  induction kvs with
  | nil => rfl
  | cons e rest ih => simp [ofJsonPairs, ofJsonStr, ih]

end DmlcModel.Param
