import DmlcModel.Param.Lemmas
import DmlcModel.BasicLemmas
/-!
Each `Set` against its recogniser, through `Accepts`; for the integer kinds the extraction of `Param/IStream.lean` is
first put in closed form (`extractNum_eq`).
-/
namespace DmlcModel.Param
open DmlcModel

theorem skipWs_eq : ∀ s : Bytes, skipWs s = s.dropWhile cIsSpace
  | [] => rfl
  | c :: cs => by by_cases h : cIsSpace c = true <;> simp [skipWs, List.dropWhile, h, skipWs_eq cs]

theorem wsRest_eq : ∀ s : Bytes, wsRest s = s.all (fun c => Gen.Param.dmlcIsSpace c.toNat)
  | [] => rfl
  | c :: cs => by by_cases h : Gen.Param.dmlcIsSpace c.toNat = true <;> simp [wsRest, h, wsRest_eq cs]

/-- `9 ≤ max`: the loop tests `acc * 10 > max - d` with a truncating `-`, which is `acc * 10 + d > max` only when the
digit `d ≤ max` -/
theorem digitsLoop_spec (max : Nat) (hmax : 9 ≤ max) :
    ∀ (s : Bytes) (acc : Nat) (ovf : Bool) (n tv : Nat), (ovf = true ↔ max < tv) → (tv ≤ max → acc = tv) →
      ((digitsLoop max acc ovf n s).2.1 = true ↔ max < digitsVal tv (s.takeWhile isDigit)) ∧
      (digitsVal tv (s.takeWhile isDigit) ≤ max → (digitsLoop max acc ovf n s).1 = digitsVal tv (s.takeWhile isDigit)) ∧
      (digitsLoop max acc ovf n s).2.2.1 = n + (s.takeWhile isDigit).length ∧
      (digitsLoop max acc ovf n s).2.2.2 = s.dropWhile isDigit
  | [], acc, ovf, n, tv, h1, h2 => ⟨h1, h2, rfl, rfl⟩
  | c :: cs, acc, ovf, n, tv, h1, h2 => by
    rw [digitsLoop]
    by_cases hd : isDigit c = true
    · have hc : 48 ≤ c.toNat ∧ c.toNat ≤ 57 := by simpa [isDigit] using hd
      simp only [hd, if_true, List.takeWhile_cons_of_pos, List.dropWhile_cons_of_pos, List.length_cons,
        digitsVal, List.foldl_cons]
      split
      · have := digitsLoop_spec max hmax cs acc true (n + 1) (tv * 10 + (c.toNat - 48))
          (by simp; omega) (by omega)
        simpa [digitsVal, Nat.add_assoc, Nat.add_comm 1] using this
      · have := digitsLoop_spec max hmax cs (acc * 10 + (c.toNat - 48)) (ovf || decide (acc * 10 > max - (c.toNat - 48)))
          (n + 1) (tv * 10 + (c.toNat - 48)) (by simp [h1]; omega) (by omega)
        simpa [digitsVal, Nat.add_assoc, Nat.add_comm 1] using this
    · simpa [hd, digitsVal] using And.intro h1 h2


theorem extractNum_eq (signed : Bool) (bits : Nat) (hmax : ∀ neg, 9 ≤ extractMax signed bits neg) (s : Bytes) :
    extractNum signed bits s =
      ((if (splitSign s).2.takeWhile isDigit = [] then 0
        else if extractMax signed bits (splitSign s).1 < digitsVal 0 ((splitSign s).2.takeWhile isDigit) then
          (if signed && (splitSign s).1 then - ((2 ^ (bits - 1) : Nat) : Int) else (extractMax signed bits (splitSign s).1 : Int))
        else if (splitSign s).1 then
          (if signed then - (digitsVal 0 ((splitSign s).2.takeWhile isDigit) : Int)
           else (((2 ^ bits - digitsVal 0 ((splitSign s).2.takeWhile isDigit)) % 2 ^ bits : Nat) : Int))
        else (digitsVal 0 ((splitSign s).2.takeWhile isDigit) : Int)),
       decide ((splitSign s).2.takeWhile isDigit = [] ∨
         extractMax signed bits (splitSign s).1 < digitsVal 0 ((splitSign s).2.takeWhile isDigit)),
       (splitSign s).2.dropWhile isDigit) := by
  obtain ⟨hovf, hacc, hn, hrest⟩ := digitsLoop_spec _ (hmax (splitSign s).1) (splitSign s).2 0 false 0 0
    (by simp) (fun _ => rfl)
  simp only [extractNum, hrest, hn, Nat.zero_add, beq_iff_eq, List.length_eq_zero_iff]
  split
  · simp [*]
  · by_cases ho : extractMax signed bits (splitSign s).1 < digitsVal 0 ((splitSign s).2.takeWhile isDigit)
    · simp [*, hovf.2 ho]
    · have := hacc (Nat.le_of_not_lt ho)
      have hf : (digitsLoop (extractMax signed bits (splitSign s).1) 0 false 0 (splitSign s).2).2.1 = false := by
        simpa using mt hovf.1 ho
      simp [*]
      split <;> rfl

theorem extractAfterSentry_spec (k : IntKind) (s : Bytes) :
    (extractAfterSentry k s).2 =
      ((if (splitSign s).2.takeWhile isDigit = [] then none
        else intDenote k (splitSign s).1 (digitsVal 0 ((splitSign s).2.takeWhile isDigit))).isNone,
       (splitSign s).2.dropWhile isDigit) ∧
    ∀ v, (if (splitSign s).2.takeWhile isDigit = [] then none
        else intDenote k (splitSign s).1 (digitsVal 0 ((splitSign s).2.takeWhile isDigit))) = some v →
      (extractAfterSentry k s).1 = v := by
  have h64 := extractNum_eq true 64 (by decide) s
  have h32 := extractNum_eq false 32 (by decide) s
  generalize digitsVal 0 ((splitSign s).2.takeWhile isDigit) = m at *
  generalize (splitSign s).2.takeWhile isDigit = ds at *
  generalize (splitSign s).2.dropWhile isDigit = rest at *
  generalize (splitSign s).1 = neg at *
  by_cases hds : ds = []
  · cases k <;> simp [extractAfterSentry, h64, h32, hds]
  · cases k <;> cases neg <;>
      simp only [extractAfterSentry, h64, h32, hds, intDenote, extractMax, if_false, if_true, false_or, Bool.and_true,
        Bool.and_false, Bool.false_eq_true, Nat.reducePow, Nat.reduceSub] <;>
      -- for `int` (LWG 696): a `long` clamped to `int` afterwards fails and stores the same extreme as a test against the `int` range
      grind

def Accepts {α : Type} (lit : Option α) (c : α → Val) (e : ErrKind) (r : Val × Option ErrKind) : Prop :=
  match lit with
  | some v => r = (c v, none)
  | none => r.2 = some e

theorem extract_spec (k : IntKind) (text : Bytes) :
    match intParts text with
    | none => ∀ r, extract k text = some r → r.2.1 = true
    | some (neg, m, rest) =>
      ∃ v, extract k text = some (v, (intDenote k neg m).isNone, rest) ∧ ∀ w, intDenote k neg m = some w → v = w := by
  unfold extract intParts
  rw [skipWs_eq]
  cases text.dropWhile cIsSpace with
  | nil => simp
  | cons c cs =>
    obtain ⟨h2, h1⟩ := extractAfterSentry_spec k (c :: cs)
    by_cases hds : (splitSign (c :: cs)).2.takeWhile isDigit = []
    · simp_all
    · simp only [hds, if_false, reduceCtorEq, false_or] at h1 h2 ⊢
      exact ⟨_, congrArg some (Prod.ext rfl h2), h1⟩

theorem setInt_spec (k : IntKind) (old : Val) (text : Bytes) :
    Accepts (intLit k text) .int .format (setInt k old text) := by
  have hx := extract_spec k text
  unfold Accepts setInt intLit
  cases hp : intParts text with
  | none =>
    simp only [hp] at hx ⊢
    cases he : extract k text with
    | none => rfl
    | some r => simp [hx r he]
  | some p =>
    obtain ⟨neg, m, rest⟩ := p
    simp only [hp] at hx ⊢
    obtain ⟨v, he, hv⟩ := hx
    simp only [he, wsRest_eq]
    cases hd : intDenote k neg m with
    | none => simp
    | some w => cases hv w hd; cases List.all _ _ <;> rfl

/-! ### `os << v` followed by `is >> v` -/

theorem digitsVal_append (tv : Nat) (xs : Bytes) (d : Byte) :
    digitsVal tv (xs ++ [d]) = digitsVal tv xs * 10 + (d.toNat - 48) := by
  simp [digitsVal, List.foldl_append]

theorem digit_toNat (n : Nat) (h : n < 10) : (UInt8.ofNat (48 + n)).toNat = 48 + n := by
  simp [UInt8.toNat_ofNat']
  omega

theorem natDigitsF_spec : ∀ (fuel n : Nat), n < fuel →
    (natDigitsF fuel n).all isDigit = true ∧ natDigitsF fuel n ≠ [] ∧ digitsVal 0 (natDigitsF fuel n) = n
  | fuel + 1, n, h => by
    unfold natDigitsF
    split
    · next hn =>
      have := digit_toNat n hn
      exact ⟨by simp [isDigit]; omega, by simp, by simp [digitsVal]; omega⟩
    · obtain ⟨h1, h2, h3⟩ := natDigitsF_spec fuel (n / 10) (by omega)
      have hd := digit_toNat (n % 10) (by omega)
      refine ⟨by simp [List.all_append, h1, isDigit]; omega, by simp, ?_⟩
      rw [digitsVal_append, h3, hd]
      omega

theorem natDigits_cons (n : Nat) : ∃ c cs, natDigitsF (n + 1) n = c :: cs ∧ 48 ≤ c.toNat ∧ c.toNat ≤ 57 := by
  obtain ⟨hall, hne, _⟩ := natDigitsF_spec (n + 1) n (by omega)
  cases hl : natDigitsF (n + 1) n with
  | nil => exact absurd hl hne
  | cons c cs =>
    rw [hl, List.all_cons, Bool.and_eq_true] at hall
    exact ⟨c, cs, rfl, by simpa [isDigit] using hall.1⟩

theorem intParts_decimal (v : Int) : intParts (decimal v) = some (decide (v < 0), v.natAbs, []) := by
  obtain ⟨hall, hne, hval⟩ := natDigitsF_spec (v.natAbs + 1) v.natAbs (by omega)
  have htw := takeWhile_all isDigit _ (List.all_eq_true.mp hall)
  have hdw := dropWhile_all isDigit _ (List.all_eq_true.mp hall)
  unfold decimal natDigits
  split
  · next hneg => simp [intParts, List.dropWhile, cIsSpace, splitSign, htw, hdw, hval, hne, hneg]
  · next hneg =>
    obtain ⟨c, cs, hl, hc⟩ := natDigits_cons v.natAbs
    rw [hl] at htw hdw hval ⊢
    have hsp : (c :: cs).dropWhile cIsSpace = c :: cs := by
      have : cIsSpace c = false := by simp [cIsSpace]; omega
      simp [List.dropWhile, this]
    have hss : splitSign (c :: cs) = (false, c :: cs) := by
      have h1 : (c.toNat == 45) = false := by simp; omega
      have h2 : (c.toNat == 43) = false := by simp; omega
      simp [splitSign, h1, h2]
    simp [intParts, hsp, hss, htw, hdw, hval, hneg]

theorem intLit_decimal (k : IntKind) (v : Int) (hv : inKind k v) : intLit k (decimal v) = some v := by
  simp only [intLit, intParts_decimal, List.all_nil, if_true]
  by_cases hneg : v < 0 <;> cases k <;> simp only [inKind] at hv <;> simp [intDenote, hneg] <;> omega

/-! ### the other field types -/

theorem beq_false_of_ne {a b : Bytes} (h : ¬ b = a) : (a == b) = false :=
  beq_eq_false_iff_ne.mpr (Ne.symm h)

theorem setBool_spec (old : Val) (text : Bytes) : Accepts (boolLit text) .bool .format (setBool old text) := by
  simp only [Accepts, setBool, boolLit, Gen.Param.boolTable, List.find?_cons, List.find?_nil]
  generalize text.map cToLower = w
  by_cases h1 : w = [116, 114, 117, 101]
  · subst h1; rfl
  by_cases h2 : w = [102, 97, 108, 115, 101]
  · subst h2; rfl
  by_cases h3 : w = [49]
  · subst h3; rfl
  by_cases h4 : w = [48]
  · subst h4; rfl
  simp [*, beq_false_of_ne]

theorem setOptBool_spec (old : Val) (text : Bytes) :
    Accepts (optBoolLit text) .obool .format (setOptBool old text) := by
  simp only [Accepts, setOptBool, optBoolLit, Gen.Param.optBoolTable, List.find?_cons, List.find?_nil, skipWs_eq, wsRest_eq]
  delta dmlcSp
  generalize (List.takeWhile cIsAlnum (List.dropWhile cIsSpace text)).map cToLower = w
  generalize (List.dropWhile cIsAlnum (List.dropWhile cIsSpace text)).all _ = ok
  by_cases h1 : w = [49]
  · subst h1; cases ok <;> rfl
  by_cases h2 : w = [116, 114, 117, 101]
  · subst h2; cases ok <;> rfl
  by_cases h3 : w = [48]
  · subst h3; cases ok <;> rfl
  by_cases h4 : w = [102, 97, 108, 115, 101]
  · subst h4; cases ok <;> rfl
  by_cases h5 : w = [110, 111, 110, 101]
  · subst h5; cases ok <;> rfl
  simp [*, beq_false_of_ne]

theorem setFloat_spec (conv : Bytes → FRes) (old : Val) (text : Bytes) :
    match floatLit conv text with
    | some b => setFloat conv old text = (.flt b, none)
    | none => (setFloat conv old text).2 ≠ none := by
  unfold setFloat floatLit
  cases conv text with
  | invalid | outOfRange | fatal => simp
  | ok bits pos =>
    by_cases h : pos = text.length
    · simp [h]
    · simp only [h, if_false]
      repeat' split
      all_goals simp
      omega

theorem setOptInt_spec (text : Bytes) : Accepts (optIntLit text) .oint .format (setOptInt text) := by
  have hx := extract_spec .i32 text
  unfold Accepts setOptInt optIntLit
  simp only [Gen.Param.noneProbeLen, Gen.Param.noneProbe, Gen.Param.optIntSuffix, bNone, wsRest_eq, beq_iff_eq]
  delta dmlcSp
  by_cases hN : text.take 4 = [78, 111, 110, 101]
  · simp only [hN, if_true]
    cases List.all _ _ <;> rfl
  · simp only [hN, if_false]
    cases hp : intParts text with
    | none =>
      simp only [hp] at hx ⊢
      cases he : extract .i32 text with
      | none => rfl
      | some r => simp [hx r he]
    | some p =>
      obtain ⟨neg, m, rest⟩ := p
      simp only [hp] at hx ⊢
      obtain ⟨v, he, hv⟩ := hx
      simp only [he]
      cases hd : intDenote .i32 neg m with
      | none => simp
      | some w =>
        cases hv w hd
        simp only [Option.isNone_some, Bool.not_false, Bool.true_and, beq_iff_eq]
        cases rest with
        | nil => rfl
        | cons d ds => by_cases hL : d = 76 <;> simp only [hL, if_true, if_false] <;> cases List.all _ _ <;> rfl

theorem decimal_take_ne_none (v : Int) : (decimal v).take 4 ≠ bNone := by
  obtain ⟨c, cs, hl, hc⟩ := natDigits_cons v.natAbs
  unfold decimal natDigits
  rw [hl]
  split
  · exact fun h => by simpa [bNone] using congrArg List.head? h
  · intro h
    have : c = 78 := by simpa [bNone] using congrArg List.head? h
    rw [this] at hc
    exact absurd hc (by decide)

theorem optIntLit_decimal (v : Int) (hv : inKind .i32 v) : optIntLit (decimal v) = some (some v) := by
  have h := intLit_decimal .i32 v hv
  simp only [intLit, intParts_decimal, List.all_nil, if_true] at h
  simp [optIntLit, decimal_take_ne_none v, intParts_decimal, h]

theorem lookupEnum_mem {enums : List (Bytes × Int)} {text : Bytes} {v : Int}
    (h : lookupEnum enums text = some v) : (text, v) ∈ enums := by
  unfold lookupEnum at h
  split at h
  · next n x hf =>
    cases h
    cases (by simpa using List.find?_some hf : n = text)
    exact List.mem_of_find?_eq_some hf
  · cases h

theorem Accepts.ok_iff {α : Type} {lit : Option α} {c : α → Val} {e : ErrKind} {r : Val × Option ErrKind}
    (h : Accepts lit c e r) :
    (∀ v, lit.map c = some v → r = (v, none)) ∧ (lit.map c = none → r.2 ≠ none) := by
  cases lit <;> simp_all [Accepts]

theorem set_ok_iff_literal (ops : FloatOps) (f : Field) (hf : EnumsInRange f) (old : Val) (text : Bytes) :
    (∀ v, literal ops f text = some v → setVal ops f old text = (v, none)) ∧
    (literal ops f text = none → (setVal ops f old text).2 ≠ none) := by
  unfold literal setVal
  cases f.ty <;> simp only
  case int => exact (setInt_spec .i32 old text).ok_iff
  case uint => exact (setInt_spec .u32 old text).ok_iff
  case int64 => exact (setInt_spec .i64 old text).ok_iff
  case float => have := setFloat_spec ops.conv32 old text; split at this <;> simp_all
  case double => have := setFloat_spec ops.conv64 old text; split at this <;> simp_all
  case bool => exact (setBool_spec old text).ok_iff
  case string => simp
  case enumInt =>
    refine Accepts.ok_iff (lit := lookupEnum f.enums text) (e := .enum) ?_
    cases h : lookupEnum f.enums text with
    | none => rfl
    | some v => simpa [Accepts, intLit_decimal .i32 v (hf _ (lookupEnum_mem h))] using setInt_spec .i32 old (decimal v)
  case optInt => exact (setOptInt_spec text).ok_iff
  case optEnum =>
    simp only [Gen.Param.optEnumNone, bne_iff_ne, ne_eq, ite_not]
    split
    · next hN => subst hN; simp [bNone, setOptInt, Gen.Param.noneProbeLen, Gen.Param.noneProbe, wsRest]
    · next hN =>
      simp only [show ¬ text = [78, 111, 110, 101] from hN, if_false]
      refine Accepts.ok_iff (lit := lookupEnum f.enums text) (c := fun v => .oint (some v)) (e := .enum) ?_
      cases h : lookupEnum f.enums text with
      | none => rfl
      | some v => simpa [Accepts, optIntLit_decimal v (hf _ (lookupEnum_mem h))] using setOptInt_spec (decimal v)
  case optBool => exact (setOptBool_spec old text).ok_iff

theorem applyArg_of_literal {ops : FloatOps} {f : Field} (hf : EnumsInRange f) (old : Val) {text : Bytes} {v : Val}
    (h : literal ops f text = some v) : applyArg ops f old text = (v, check f v) := by
  rw [applyArg, (set_ok_iff_literal ops f hf old text).1 v h]

end DmlcModel.Param
