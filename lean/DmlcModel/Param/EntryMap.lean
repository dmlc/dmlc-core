import DmlcModel.Param.Lemmas
import DmlcModel.SortedMap
/-!
`entryMap S` (the model of `entry_map_`): with pairwise distinct keys its entries are exactly the (key, position, field)
triples of the schema.
-/
namespace DmlcModel.Param
open DmlcModel

theorem bytesLt_eq_lex : ∀ a b : Bytes, bytesLt a b = a.lex b
  | [], [] | [], _ :: _ | _ :: _, [] => rfl
  | x :: xs, y :: ys => by
    rw [bytesLt, List.lex, bytesLt_eq_lex xs ys]
    simp only [UInt8.lt_iff_toNat_lt]
    by_cases h1 : x.toNat < y.toNat
    · simp [h1]
    · by_cases h2 : y.toNat < x.toNat
      · have : x ≠ y := fun h => by subst h; omega
        simp [h1, h2, this]
      · cases UInt8.toNat_inj.mp (by omega : x.toNat = y.toNat)
        simp [h1]

theorem bytesLt_iff (a b : Bytes) : bytesLt a b = true ↔ a < b := by
  rw [bytesLt_eq_lex, List.lex_eq_true_iff_lt]

theorem bytesLt_irrefl : ∀ (a : Bytes), bytesLt a a = false :=
  fun a => Bool.eq_false_iff.mpr (mt (bytesLt_iff a a).mp (List.lt_irrefl a))

theorem mapInsert_ins {α : Type} : SortedInsert (mapInsert (α := α)) :=
  ⟨fun _ _ => rfl, fun k v kv m => by
    rw [mapInsert]
    simp only [bytesLt_iff]
    by_cases h1 : k < kv.1
    · rw [if_pos h1, if_neg fun e => List.lt_irrefl _ (e ▸ h1), if_pos h1]
    · by_cases h2 : kv.1 < k
      · rw [if_neg h1, if_pos h2, if_neg fun e => List.lt_irrefl _ (e ▸ h2), if_neg h1]
      · rw [if_neg h1, if_neg h2, if_pos (List.le_antisymm h2 h1)]⟩

theorem mem_allEntries {k : Bytes} {j : Nat} {f : Field} : ∀ {S : Schema} {n : Nat},
    (k, j, f) ∈ allEntries n S ↔ ∃ i, j = n + i ∧ S[i]? = some f ∧ k ∈ fieldKeys f
  | [], n => by simp [allEntries]
  | g :: gs, n => by
    simp only [allEntries, List.mem_append, fieldEntries, List.mem_map, Prod.mk.injEq, mem_allEntries (S := gs)]
    constructor
    · rintro (⟨_, hk, rfl, rfl, rfl⟩ | ⟨i, rfl, hi, hk⟩)
      · exact ⟨0, rfl, rfl, hk⟩
      · exact ⟨i + 1, by omega, hi, hk⟩
    · rintro ⟨_ | i, rfl, hi, hk⟩
      · cases hi; exact Or.inl ⟨k, hk, rfl, rfl, rfl⟩
      · exact Or.inr ⟨i, by omega, hi, hk⟩

theorem allEntries_keys : ∀ (S : Schema) (n : Nat), (allEntries n S).map (·.1) = allKeys S
  | [], _ => rfl
  | g :: gs, n => by
    simp [allEntries, allEntries_keys gs, allKeys, fieldEntries, Function.comp_def]

theorem mem_entryMap {S : Schema} (hd : (allKeys S).Nodup) {e : Bytes × Nat × Field} :
    e ∈ entryMap S ↔ S[e.2.1]? = some e.2.2 ∧ e.1 ∈ fieldKeys e.2.2 := by
  rw [← allEntries_keys S 0, List.nodup_iff_pairwise_ne, List.pairwise_map] at hd
  rw [entryMap, (mapInsert_ins.foldl_perm (allEntries 0 S) [] hd (by simp)).mem_iff, List.nil_append, mem_allEntries]
  simp
/-- the second default pass of `RunInit` finds every unselected entry at its default and changes nothing -/
theorem runInit_eq {S : Schema} (hS : (allKeys S).Nodup) {ops : FloatOps} {option : Nat} {collect : Bool}
    {st : Struct} {kw : List KV} {r : UpdOut} (hr : runUpdate ops S option collect st [] [] kw = r) :
    runInit ops S option collect st kw =
      match r.err with
      | some _ => r
      | none => { r with st := (applyDefaults r.sel (entryMap S) r.st).1,
                         err := (applyDefaults r.sel (entryMap S) r.st).2 } := by
  simp only [runInit, hr]
  cases r.err with
  | some _ => rfl
  | none =>
    simp only
    rcases hd : applyDefaults r.sel (entryMap S) r.st with ⟨st1, e⟩
    cases e with
    | some e => rfl
    | none =>
      simp only
      rw [applyDefaults_idem (applyDefaults_spec (fun e he => ((mem_entryMap hS).mp he).1) hd).2]

end DmlcModel.Param
