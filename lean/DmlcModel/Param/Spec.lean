import DmlcModel.Param.Model
/-!
The vocabulary the C17 theorems are stated in, beside the model.  "Entirely a valid literal of the field's type" is one
recogniser per type, written with `takeWhile` / `dropWhile`, a positional value and a range test instead of the stream
mechanics of `Param/IStream.lean` (they share its character classes and `splitSign`).  Definitions only.
-/
namespace DmlcModel.Param
open DmlcModel

def allKeys (S : Schema) : List Bytes := S.flatMap fieldKeys

/-- stated with the value-initialised old value; `applyArg_indep` shows the old value is irrelevant -/
def argErr (ops : FloatOps) (S : Schema) (option : Nat) (collect : Bool) (kv : KV) : Option ErrKind :=
  match find S kv.1 with
  | some (_, f) => (applyArg ops f (zeroVal f.ty) kv.2).2
  | none =>
    if Gen.Param.collects collect then none
    else if Gen.Param.polMayReject option then (if hiddenSkip option kv.1 then none else some .unknown)
    else none

def parse (ops : FloatOps) (f : Field) (text : Bytes) : Except ErrKind Val :=
  match applyArg ops f (zeroVal f.ty) text with
  | (v, none) => .ok v
  | (_, some e) => .error e

/-- the text of the last argument whose key is one of `keys` -/
def lastOccK (keys : List Bytes) : List KV → Option Bytes
  | [] => none
  | (k, v) :: rest =>
    match lastOccK keys rest with
    | some t => some t
    | none => if k ∈ keys then some v else none

def firstErr (ops : FloatOps) (S : Schema) (option : Nat) (collect : Bool) : List KV → Option ErrKind
  | [] => none
  | kv :: rest =>
    match argErr ops S option collect kv with
    | some e => some e
    | none => firstErr ops S option collect rest

def digitsVal (tv : Nat) (ds : Bytes) : Nat := ds.foldl (fun a c => a * 10 + (c.toNat - 48)) tv

def intParts (text : Bytes) : Option (Bool × Nat × Bytes) :=
  let t := text.dropWhile cIsSpace
  let ds := (splitSign t).2.takeWhile isDigit
  if t = [] ∨ ds = [] then none
  else some ((splitSign t).1, digitsVal 0 ds, (splitSign t).2.dropWhile isDigit)

/-- the integer denoted at the C++ type, if representable (`-n` into `unsigned` wraps) -/
def intDenote : IntKind → Bool → Nat → Option Int
  | .i32, true, m => if m ≤ 2147483648 then some (-(m : Int)) else none
  | .i32, false, m => if m ≤ 2147483647 then some (m : Int) else none
  | .i64, true, m => if m ≤ 9223372036854775808 then some (-(m : Int)) else none
  | .i64, false, m => if m ≤ 9223372036854775807 then some (m : Int) else none
  | .u32, true, m => if m ≤ 4294967295 then some (((4294967296 - m) % 4294967296 : Nat) : Int) else none
  | .u32, false, m => if m ≤ 4294967295 then some (m : Int) else none

def intLit (k : IntKind) (text : Bytes) : Option Int :=
  match intParts text with
  | some (neg, m, rest) => if rest.all (fun c => Gen.Param.dmlcIsSpace c.toNat) then intDenote k neg m else none
  | none => none

def inKind : IntKind → Int → Prop
  | .i32, v => -2147483648 ≤ v ∧ v ≤ 2147483647
  | .i64, v => -9223372036854775808 ≤ v ∧ v ≤ 9223372036854775807
  | .u32, v => 0 ≤ v ∧ v ≤ 4294967295

def dmlcSp (c : Byte) : Bool := Gen.Param.dmlcIsSpace c.toNat

def boolLit (text : Bytes) : Option Bool :=
  let w := text.map cToLower
  if w = [116, 114, 117, 101] ∨ w = [49] then some true
  else if w = [102, 97, 108, 115, 101] ∨ w = [48] then some false
  else none

def optBoolLit (text : Bytes) : Option (Option Bool) :=
  let t := text.dropWhile cIsSpace
  let w := (t.takeWhile cIsAlnum).map cToLower
  if (t.dropWhile cIsAlnum).all dmlcSp then
    (if w = [49] ∨ w = [116, 114, 117, 101] then some (some true)
     else if w = [48] ∨ w = [102, 97, 108, 115, 101] then some (some false)
     else if w = [110, 111, 110, 101] then some none
     else none)
  else none

def floatLit (conv : Bytes → FRes) (text : Bytes) : Option Nat :=
  match conv text with
  | .ok bits pos => if pos = text.length then some bits else none
  | _ => none

def optIntLit (text : Bytes) : Option (Option Int) :=
  if text.take 4 = bNone then (if (text.drop 4).all dmlcSp then some none else none)
  else
    match intParts text with
    | some (neg, m, rest) =>
      let rest' := match rest with
        | c :: cs => if c = 76 then cs else rest
        | [] => rest
      if rest'.all dmlcSp then intDenote .i32 neg m else none
    | none => none

/-- enum values are C++ `int`s -/
def EnumsInRange (f : Field) : Prop := ∀ e ∈ f.enums, inKind .i32 e.2

/-- **"entirely a valid literal of the field's type"**: the value denoted, if the text is one.
Integer kinds: `[blanks][+|-]digits[blanks]` within the type (`-n` wraps into `unsigned`); float/double:
the conversion consumes the whole text; bool: true/false/1/0 in any case; string: anything; enum: exactly
an enumerator name (`None` for the optional enum); `optional<int>`: `None`[blanks] or an int literal with an
optional `L`; `optional<bool>`: [blanks] 1/true/0/false/none in any case [blanks]. -/
def literal (ops : FloatOps) (f : Field) (text : Bytes) : Option Val :=
  match f.ty with
  | .int => (intLit .i32 text).map .int
  | .uint => (intLit .u32 text).map .int
  | .int64 => (intLit .i64 text).map .int
  | .float => (floatLit ops.conv32 text).map .flt
  | .double => (floatLit ops.conv64 text).map .flt
  | .bool => (boolLit text).map .bool
  | .string => some (.str text)
  | .enumInt => (lookupEnum f.enums text).map .int
  | .optInt => (optIntLit text).map .oint
  | .optEnum => if text = bNone then some (.oint none) else (lookupEnum f.enums text).map fun v => .oint (some v)
  | .optBool => (optBoolLit text).map .obool

/-- the value has the field's C++ type (machine range included) -/
def WellTyped (f : Field) (v : Val) : Prop :=
  match f.ty, v with
  | .int, .int x => inKind .i32 x
  | .uint, .int x => inKind .u32 x
  | .int64, .int x => inKind .i64 x
  | .enumInt, .int _ => True
  | .bool, .bool _ => True
  | .string, .str _ => True
  | .optInt, .oint none => True
  | .optInt, .oint (some x) => inKind .i32 x
  | .optEnum, .oint _ => True
  | .optBool, .obool _ => True
  | .float, .flt _ => True
  | .double, .flt _ => True
  | _, _ => False

/-- enumerator names are distinct, and `None` is reserved (`add_enum` enforces both) -/
def EnumNamesOk (f : Field) : Prop := (f.enums.map (·.1)).Nodup ∧ ∀ e ∈ f.enums, e.1 ≠ bNone

def chainK (lb : Bytes) : List Bytes → Prop
  | [] => True
  | k :: rest => bytesLt lb k = true ∧ chainK k rest

/-- keys strictly increasing -/
def incK : List Bytes → Prop
  | [] => True
  | k :: rest => chainK k rest

end DmlcModel.Param
