import DmlcModel.Param.Spec
/-!
The control flow of the Param model; `runUpdate_spec` is the one induction over the argument list.
-/
namespace DmlcModel.Param
open DmlcModel

@[simp] theorem upd_same (st : Struct) (i : Nat) (v : Val) : upd st i v i = v := by simp [upd]
@[simp] theorem upd_other (st : Struct) (i j : Nat) (v : Val) (h : j ≠ i) : upd st i v j = st j := by
  simp [upd, h]
theorem upd_self (st : Struct) (i : Nat) : upd st i (st i) = st := by
  funext j; by_cases h : j = i <;> simp [upd, h]

theorem find_cons (g : Field) (gs : Schema) (k : Bytes) : find (g :: gs) k =
    if k ∈ fieldKeys g then some (0, g) else (find gs k).map (fun p => (p.1 + 1, p.2)) := by
  rw [find.eq_2]
  by_cases h : k ∈ fieldKeys g
  · simp [h]
  · simp [h]
    cases find gs k <;> rfl

theorem find_sound {S : Schema} {k : Bytes} {i : Nat} {f : Field} (h : find S k = some (i, f)) :
    S[i]? = some f ∧ k ∈ fieldKeys f := by
  induction S generalizing i with
  | nil => simp [find] at h
  | cons g gs ih =>
    rw [find_cons] at h
    split at h
    · cases h; simp [*]
    · simp only [Option.map_eq_some_iff, Prod.mk.injEq, Prod.exists] at h
      obtain ⟨j, g', hj, rfl, rfl⟩ := h
      simpa using ih hj

theorem find_eq_none_iff {S : Schema} {k : Bytes} : find S k = none ↔ ∀ f ∈ S, k ∉ fieldKeys f := by
  induction S with
  | nil => simp [find]
  | cons g gs ih => rw [find_cons]; by_cases h : k ∈ fieldKeys g <;> simp [h, ih]

theorem find_isNone_iff (S : Schema) (k : Bytes) : (find S k).isNone = true ↔ ∀ f ∈ S, k ∉ fieldKeys f := by
  rw [Option.isNone_iff_eq_none, find_eq_none_iff]

theorem find_of_mem {S : Schema} (hd : (allKeys S).Nodup) {i : Nat} {f : Field} {k : Bytes}
    (hi : S[i]? = some f) (hk : k ∈ fieldKeys f) : find S k = some (i, f) := by
  induction S generalizing i with
  | nil => simp at hi
  | cons g gs ih =>
    rw [allKeys, List.flatMap_cons, List.nodup_append] at hd
    rw [find_cons]
    cases i with
    | zero => simp_all
    | succ j =>
      rw [List.getElem?_cons_succ] at hi
      have hk' : k ∈ allKeys gs := List.mem_flatMap.mpr ⟨f, List.mem_of_getElem? hi, hk⟩
      rw [if_neg fun hkg => hd.2.2 k hkg k hk' rfl, ih hd.2.1 hi]; rfl

theorem check_eq (f : Field) (v : Val) :
    check f v = if hasCheck f.ty && (f.lo.any (vLt f.ty v) || f.hi.any (vLt f.ty · v)) then some .range else none := by
  unfold check
  simp only [Gen.Param.chkBoth, Gen.Param.chkBothFail, Gen.Param.chkLowerFail, Gen.Param.chkUpperFail]
  cases hasCheck f.ty <;> cases f.lo <;> cases f.hi <;> simp <;> grind

theorem check_unranged (fld : Field) (v : Val) (hlo : fld.lo = none) (hhi : fld.hi = none) : check fld v = none := by
  simp [check_eq, hlo, hhi]

theorem check_err {f : Field} {v : Val} {e : ErrKind} (h : check f v = some e) : e = .range := by
  rw [check_eq] at h
  split at h <;> cases h
  rfl

/-- every branch of `Set` that returns the old value also returns an error -/
theorem setVal_indep (ops : FloatOps) (f : Field) (old old' : Val) (text : Bytes) :
    (setVal ops f old text).2 = (setVal ops f old' text).2 ∧
    ((setVal ops f old text).2 = none → (setVal ops f old text).1 = (setVal ops f old' text).1) := by
  unfold setVal setInt setFloat setBool setOptBool
  cases f.ty <;> simp only [] <;> repeat' split
  all_goals simp_all

theorem applyArg_indep (ops : FloatOps) (f : Field) (old old' : Val) (text : Bytes) :
    (applyArg ops f old text).2 = (applyArg ops f old' text).2 ∧
    ((applyArg ops f old text).2 = none → (applyArg ops f old text).1 = (applyArg ops f old' text).1) := by
  have h := setVal_indep ops f old old' text
  unfold applyArg
  split <;> split <;> simp_all

theorem parse_eq_ok_iff {ops : FloatOps} {f : Field} {text : Bytes} {v : Val} :
    parse ops f text = .ok v ↔ applyArg ops f (zeroVal f.ty) text = (v, none) := by
  unfold parse
  split <;> simp_all

theorem applyArg_ok {ops : FloatOps} {f : Field} {old : Val} {text : Bytes} {v : Val}
    (h : applyArg ops f old text = (v, none)) : parse ops f text = .ok v := by
  have hi := applyArg_indep ops f old (zeroVal f.ty) text
  rw [h] at hi
  exact parse_eq_ok_iff.2 (Prod.ext (hi.2 rfl).symm hi.1.symm)

theorem argErr_of_find {S : Schema} {k : Bytes} {j : Nat} {g : Field} (hf : find S k = some (j, g)) (old : Val)
    {ops : FloatOps} {option : Nat} {collect : Bool} {v : Bytes} :
    argErr ops S option collect (k, v) = (applyArg ops g old v).2 := by
  simp only [argErr, hf, (applyArg_indep ops g old (zeroVal g.ty) v).1]

theorem argErr_unknown {S : Schema} {k : Bytes} (hk : find S k = none) (ops : FloatOps) (option : Nat) (collect : Bool)
    (v : Bytes) :
    argErr ops S option collect (k, v) =
      if collect = true ∨ option = Gen.Param.kAllowUnknown ∨ hiddenSkip option k = true then none else some .unknown := by
  simp only [argErr, hk, Gen.Param.collects, Gen.Param.polMayReject]
  cases collect <;> by_cases ho : option = Gen.Param.kAllowUnknown <;>
    by_cases hh : hiddenSkip option k = true <;> simp [ho, hh]

theorem firstErr_eq (ops : FloatOps) (S : Schema) (option : Nat) (collect : Bool) (kw : List KV) :
    firstErr ops S option collect kw = kw.findSome? (argErr ops S option collect) := by
  induction kw with
  | nil => rfl
  | cons kv rest ih => rw [firstErr, List.findSome?_cons, ih]; cases argErr ops S option collect kv <;> rfl

theorem firstErr_eq_none_iff {ops : FloatOps} {S : Schema} {option : Nat} {collect : Bool} {kw : List KV} :
    firstErr ops S option collect kw = none ↔ ∀ b ∈ kw, argErr ops S option collect b = none := by
  rw [firstErr_eq, List.findSome?_eq_none_iff]

theorem lastOccK_cons_none {keys : List Bytes} {k v : Bytes} {rest : List KV} :
    lastOccK keys ((k, v) :: rest) = none ↔ lastOccK keys rest = none ∧ k ∉ keys := by
  rw [lastOccK]; cases lastOccK keys rest <;> simp

theorem lastOccK_cons_some {keys : List Bytes} {k v t : Bytes} {rest : List KV} :
    lastOccK keys ((k, v) :: rest) = some t ↔
      lastOccK keys rest = some t ∨ (lastOccK keys rest = none ∧ k ∈ keys ∧ v = t) := by
  rw [lastOccK]; cases lastOccK keys rest <;> simp

theorem lastOccK_none_iff {keys : List Bytes} {kw : List KV} :
    lastOccK keys kw = none ↔ ∀ kv ∈ kw, kv.1 ∉ keys := by
  induction kw with
  | nil => simp [lastOccK]
  | cons kv rest ih => rw [lastOccK_cons_none, ih, List.forall_mem_cons, and_comm]

theorem lastOccK_some_mem {keys : List Bytes} {t : Bytes} : ∀ {kw : List KV},
    lastOccK keys kw = some t → ∃ k ∈ keys, (k, t) ∈ kw
  | (k, v) :: rest, h => by
    rcases lastOccK_cons_some.1 h with hr | ⟨_, hk, rfl⟩
    · obtain ⟨k', hk', hm⟩ := lastOccK_some_mem hr
      exact ⟨k', hk', List.mem_cons_of_mem _ hm⟩
    · exact ⟨k, hk, List.mem_cons_self ..⟩

theorem runUpdate_cons_none {S : Schema} {k : Bytes} (hf : find S k = none) (ops : FloatOps) (option : Nat)
    (collect : Bool) (st : Struct) (sel : List Nat) (unk : List KV) (v : Bytes) (rest : List KV) :
    runUpdate ops S option collect st sel unk ((k, v) :: rest) =
      match argErr ops S option collect (k, v) with
      | some e => ⟨st, sel, unk, some e⟩
      | none => runUpdate ops S option collect st sel (if collect then unk ++ [(k, v)] else unk) rest := by
  simp only [runUpdate, argErr, hf, Gen.Param.collects]
  cases collect <;> cases Gen.Param.polMayReject option <;> cases hiddenSkip option k <;> simp

/-- what `RunUpdate` leaves behind (`r`), read off the argument list; `st`, `sel`, `unk` are what it started from -/
structure Updated (ops : FloatOps) (S : Schema) (option : Nat) (collect : Bool) (kw : List KV)
    (st : Struct) (sel : List Nat) (unk : List KV) (r : UpdOut) : Prop where
  err : r.err = firstErr ops S option collect kw
  frame : ∀ {i f}, S[i]? = some f → lastOccK (fieldKeys f) kw = none → r.st i = st i
  value : r.err = none → ∀ {i f t}, S[i]? = some f → lastOccK (fieldKeys f) kw = some t → parse ops f t = .ok (r.st i)
  marked : r.err = none → ∀ {i f}, S[i]? = some f → (i ∈ r.sel ↔ i ∈ sel ∨ lastOccK (fieldKeys f) kw ≠ none)
  unknown : r.err = none → r.unk = unk ++ if collect then kw.filter (fun kv => (find S kv.1).isNone) else []

theorem runUpdate_spec {S : Schema} (hS : (allKeys S).Nodup) (ops : FloatOps) (option : Nat) (collect : Bool) :
    ∀ (kw : List KV) (st : Struct) (sel : List Nat) (unk : List KV),
      Updated ops S option collect kw st sel unk (runUpdate ops S option collect st sel unk kw) := by
  intro kw
  induction kw with
  | nil =>
    exact fun st sel unk => ⟨rfl, fun _ _ => rfl, fun _ _ _ _ _ => nofun, fun _ _ _ _ => by simp [runUpdate, lastOccK],
      fun _ => by cases collect <;> simp [runUpdate]⟩
  | cons kv rest ih =>
    obtain ⟨k, v⟩ := kv
    intro st sel unk
    cases hf : find S k with
    | none =>
      have hk : ∀ {i : Nat} {f : Field}, S[i]? = some f → k ∉ fieldKeys f :=
        fun hi => find_eq_none_iff.mp hf _ (List.mem_of_getElem? hi)
      rw [runUpdate_cons_none hf]
      cases ha : argErr ops S option collect (k, v) with
      | some e => exact ⟨by simp only [firstErr, ha], fun _ _ => rfl, nofun, nofun, nofun⟩
      | none =>
        have h := ih st sel (if collect then unk ++ [(k, v)] else unk)
        refine ⟨by simp only [firstErr, ha]; exact h.err, fun hi hl => h.frame hi (lastOccK_cons_none.1 hl).1,
          fun he _ _ _ hi hl => h.value he hi ((lastOccK_cons_some.1 hl).resolve_right fun hr => hk hi hr.2.1),
          fun he _ _ hi => ?_, fun he => ?_⟩
        · rw [h.marked he hi, Ne, Ne, lastOccK_cons_none, and_iff_left (hk hi)]
        · rw [h.unknown he]; cases collect <;> simp [hf]
    | some p =>
      obtain ⟨j, g⟩ := p
      have hg := (find_sound hf).1
      have hit : ∀ {i : Nat} {f : Field}, S[i]? = some f → (k ∈ fieldKeys f ↔ j = i) := fun hi =>
        ⟨fun hk => by have := find_of_mem hS hi hk; rw [hf] at this; cases this; rfl,
         fun h => by subst h; cases hg.symm.trans hi; exact (find_sound hf).2⟩
      have herr : firstErr ops S option collect ((k, v) :: rest) =
          match (applyArg ops g (st j) v).2 with
          | some e => some e
          | none => firstErr ops S option collect rest := by
        rw [firstErr, argErr_of_find hf (st j)]; rfl
      rcases ha : applyArg ops g (st j) v with ⟨nv, e⟩
      simp only [runUpdate, hf, ha]
      rw [ha] at herr
      cases e with
      | some e =>
        refine ⟨herr.symm, fun hi hl => upd_other _ _ _ _ fun h => ?_, nofun, nofun, nofun⟩
        exact (lastOccK_cons_none.1 hl).2 ((hit hi).2 h.symm)
      | none =>
        have h := ih (upd st j nv) (j :: sel) unk
        refine ⟨h.err.trans herr.symm, fun hi hl => ?_, fun he i f t hi hl => ?_, fun he i f hi => ?_,
          fun he => by rw [h.unknown he]; simp [hf]⟩
        · obtain ⟨hl, hk⟩ := lastOccK_cons_none.1 hl
          rw [h.frame hi hl, upd_other _ _ _ _ fun e => hk ((hit hi).2 e.symm)]
        · rcases lastOccK_cons_some.1 hl with hr | ⟨hr, hk, rfl⟩
          · exact h.value he hi hr
          · -- the last argument for field `i = j` is this one: the rest leaves the field alone
            cases (hit hi).1 hk
            cases hg.symm.trans hi
            rw [h.frame hi hr, upd_same]
            exact applyArg_ok ha
        · rw [h.marked he hi, List.mem_cons, Ne, Ne, lastOccK_cons_none, eq_comm (a := i), ← hit hi]
          by_cases hk : k ∈ fieldKeys f <;> simp [hk]

theorem applyDefaults_spec {S : Schema} {sel : List Nat} :
    ∀ {L : List (Bytes × Nat × Field)} {st st' : Struct}, (∀ e ∈ L, S[e.2.1]? = some e.2.2) →
      applyDefaults sel L st = (st', none) →
      (∀ i, (i ∈ sel ∨ ∀ e ∈ L, e.2.1 ≠ i) → st' i = st i) ∧
      ∀ e ∈ L, e.2.1 ∉ sel → e.2.2.dflt = some (st' e.2.1)
  | [], st, st', _, h => by simp_all [applyDefaults]
  | (k, j, g) :: rest, st, st', hs, h => by
    simp only [applyDefaults, List.contains_eq_mem, decide_eq_true_eq] at h
    rw [List.forall_mem_cons] at hs ⊢
    split at h
    · next hjs =>
      obtain ⟨h1, h2⟩ := applyDefaults_spec hs.2 h
      exact ⟨fun i hi => h1 i (hi.imp_right fun hi e he => hi e (List.mem_cons_of_mem _ he)),
        fun hj => absurd hjs hj, h2⟩
    · split at h
      · next hjs _ d hd =>
        obtain ⟨h1, h2⟩ := applyDefaults_spec hs.2 h
        refine ⟨fun i hi => ?_, fun _ => ?_, h2⟩
        · rw [h1 i (hi.imp_right fun hi e he => hi e (List.mem_cons_of_mem _ he)), upd_other]
          rintro rfl
          exact hi.elim hjs fun hi => hi _ (List.mem_cons_self ..) rfl
        · by_cases hr : ∃ e ∈ rest, e.2.1 = j
          · -- `entry_map_` has one entry per key: a later entry for the same field (an alias) re-applies the same default
            obtain ⟨e, he, hej⟩ := hr
            have := hs.2 e he
            rw [hej, hs.1] at this
            rw [← hej, ← h2 e he (hej ▸ hjs), ← Option.some.inj this]
          · rw [hd, h1 j (Or.inr fun e he hej => hr ⟨e, he, hej⟩), upd_same]
      · cases h

theorem applyDefaults_idem {sel : List Nat} :
    ∀ {L : List (Bytes × Nat × Field)} {st : Struct},
      (∀ e ∈ L, e.2.1 ∉ sel → e.2.2.dflt = some (st e.2.1)) → applyDefaults sel L st = (st, none)
  | [], st, _ => rfl
  | (k, j, g) :: rest, st, h => by
    rw [List.forall_mem_cons] at h
    simp only [applyDefaults, List.contains_eq_mem, decide_eq_true_eq]
    split
    · exact applyDefaults_idem h.2
    · next hjs =>
      rw [h.1 hjs]
      simp only [upd_self]
      exact applyDefaults_idem h.2

theorem applyDefaults_err {sel : List Nat} :
    ∀ {L : List (Bytes × Nat × Field)} {st : Struct},
      ((applyDefaults sel L st).2 = none ∨ (applyDefaults sel L st).2 = some .required) ∧
      ((applyDefaults sel L st).2 = some .required ↔ ∃ e ∈ L, e.2.1 ∉ sel ∧ e.2.2.dflt = none)
  | [], st => by simp [applyDefaults]
  | (k, j, g) :: rest, st => by
    simp only [applyDefaults, List.contains_eq_mem, decide_eq_true_eq, List.mem_cons, exists_eq_or_imp]
    split
    · next hjs => simpa [hjs] using applyDefaults_err (L := rest) (st := st)
    · split
      · next d hd => simpa [hd] using applyDefaults_err (L := rest) (st := upd st j d)
      · simp_all
end DmlcModel.Param
