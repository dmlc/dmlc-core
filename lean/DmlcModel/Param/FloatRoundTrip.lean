import DmlcModel.Param.FloatC14
import DmlcModel.StrToNum.Accuracy
/-! The C14 model of `dmlc::stof` / `stod` as the conversion of float / double fields (`c14Conv`), on a printed decimal. -/
namespace DmlcModel.Param
open DmlcModel DmlcModel.StrToNum DmlcModel.Props.C14

/-- what a printed float must meet for C14's accuracy to apply: the whole text is one decimal lexeme within the documented limits
of `ParseFloat` -/
structure PrintedDecimal (f : StrToNum.Fmt) (t : Bytes) (l : Lexeme) : Prop where
  nonul : (0 : Byte) ∉ t
  whole : scanNum (t ++ [0]) = some (.dec l, t.length)
  intDigits : l.intDigits.length ≤ 19
  fracDigits : l.fracDigits.length ≤ 19 ∨ μ f ≤ mantissaValue l
  exponent : ∀ eneg eds, l.exp = some (eneg, eds) →
    StrToNum.digitsVal eds ≤ kMaxExponent f ∧ minNormal f * (1 + δ) ≤ absQ (decimalValue l) ∧
    absQ (decimalValue l) * (1 + δ) ≤ ovfl f

/-- `stof`/`stod` consume the whole text and return a finite value with the sign of the text, within `tol` = 1e-6 (float) / 1e-14
(double), relatively, of the decimal value printed, whatever `errno` was before -/
theorem c14Conv_printed (f : StrToNum.Fmt) (stale : Bool) (t : Bytes) (l : Lexeme) (hp : PrintedDecimal f t l) :
    ∃ q, c14Conv f stale t = .ok ((⟨l.neg, .fin q⟩ : FVal).bits f) t.length ∧
      Approx (tol f) q (absQ (decimalValue l)) := by
  have hs := sto_spec (f := f) (e0 := if stale then ERANGE else 0) (s := t ++ [0]) (by simp)
  rw [cstr_append_of_not_mem [0] hp.nonul, show cstr [0] = [0] from rfl, hp.whole] at hs
  obtain ⟨q, he, ha⟩ := evalLex_approx f true (scanNum_digits hp.whole) hp.intDigits hp.fracDigits hp.exponent
  exact ⟨q, by simp [c14Conv, hs, he], ha⟩

end DmlcModel.Param
