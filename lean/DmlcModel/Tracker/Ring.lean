/-
`find_share_ring` visits every rank exactly once.  Two halves: whatever the iteration order of the child sets and
whichever sub-list is reversed, the list for rank `r` is `r` followed by a permutation of the preorder traversal of the
heap subtree below `r`; and that traversal lists every rank `< n` of the subtree once.
-/
import DmlcModel.Tracker.Lemmas

namespace DmlcModel.Tracker
open DmlcModel.Gen.Tracker

/-- `Anc r v`: rank `v` lies in the heap subtree rooted at `r` (its chain of parents `(v-1)/2` meets `r`) -/
inductive Anc (r : Nat) : Nat → Prop where
  | refl : Anc r r
  | step {v : Nat} : 0 < v → Anc r ((v - 1) / 2) → Anc r v

theorem Anc.le {r v : Nat} (h : Anc r v) : r ≤ v := by
  induction h with
  | refl => exact Nat.le_refl _
  | step hv _ ih => omega

theorem Anc.of_child {r c v : Nat} (hc : c = 2 * r + 1 ∨ c = 2 * r + 2) (h : Anc c v) : Anc r v := by
  induction h with
  | refl =>
    have e : (c - 1) / 2 = r := by omega
    exact Anc.step (by omega) (e ▸ Anc.refl)
  | step hv _ ih => exact Anc.step hv ih

theorem Anc.cases_child {r v : Nat} (h : Anc r v) : v = r ∨ Anc (2 * r + 1) v ∨ Anc (2 * r + 2) v := by
  induction h with
  | refl => exact Or.inl rfl
  | @step v hv _ ih =>
    rcases ih with ih | ih | ih
    · have : v = 2 * r + 1 ∨ v = 2 * r + 2 := by omega
      rcases this with e | e
      · exact Or.inr (Or.inl (e ▸ Anc.refl))
      · exact Or.inr (Or.inr (e ▸ Anc.refl))
    · exact Or.inr (Or.inl (Anc.step hv ih))
    · exact Or.inr (Or.inr (Anc.step hv ih))

theorem Anc.chain {a b v : Nat} (ha : Anc a v) : Anc b v → a ≤ b → Anc a b := by
  induction ha with
  | refl =>
    intro hb hab
    have := hb.le
    have : a = b := by omega
    exact this ▸ Anc.refl
  | @step v hv hpar ih =>
    intro hb hab
    cases hb with
    | refl => exact Anc.step hv hpar
    | step _ hb' => exact ih hb' hab

theorem Anc.disjoint_children {r v : Nat} (h1 : Anc (2 * r + 1) v) (h2 : Anc (2 * r + 2) v) : False := by
  generalize hc : 2 * r + 2 = c at h2
  cases Anc.chain h1 h2 (by omega) with
  | refl => omega
  | step _ h => have := h.le; omega

theorem Anc.root (v : Nat) : Anc 0 v := by
  induction v using Nat.strongRecOn with
  | _ v ih =>
    by_cases hv : v = 0
    · subst hv; exact Anc.refl
    · exact Anc.step (by omega) (ih _ (by omega))

/-- the ranks `< n` of the heap subtree rooted at `r`, in preorder (`fuel` bounds the depth) -/
def sub (n : Nat) : Nat → Nat → List Nat
  | 0, _ => []
  | fuel + 1, r => if r < n then r :: (sub n fuel (2 * r + 1) ++ sub n fuel (2 * r + 2)) else []

theorem sub_of_ge {n r : Nat} (h : n ≤ r) : ∀ fuel, sub n fuel r = []
  | 0 => rfl
  | _ + 1 => if_neg (by omega)

theorem sub_spec (n : Nat) : ∀ fuel r, n - r ≤ fuel →
    (sub n fuel r).Nodup ∧ ∀ v, v ∈ sub n fuel r ↔ v < n ∧ Anc r v := by
  intro fuel
  induction fuel with
  | zero => exact fun r hf => ⟨.nil, fun v => ⟨nofun, fun h => by have := h.2.le; omega⟩⟩
  | succ fuel ih =>
    intro r hf
    by_cases hr : r < n
    · obtain ⟨n1, m1⟩ := ih (2 * r + 1) (by omega)
      obtain ⟨n2, m2⟩ := ih (2 * r + 2) (by omega)
      rw [sub, if_pos hr]
      refine ⟨List.nodup_cons.2 ⟨fun h => ?_, List.nodup_append.2 ⟨n1, n2, fun a ha b hb e => ?_⟩⟩, fun v => ?_⟩
      · rcases List.mem_append.1 h with h | h
        · have := ((m1 r).1 h).2.le; omega
        · have := ((m2 r).1 h).2.le; omega
      · exact Anc.disjoint_children ((m1 a).1 ha).2 (e ▸ ((m2 b).1 hb).2)
      · rw [List.mem_cons, List.mem_append, m1, m2]
        constructor
        · rintro (rfl | h | h)
          · exact ⟨hr, .refl⟩
          · exact ⟨h.1, h.2.of_child (.inl rfl)⟩
          · exact ⟨h.1, h.2.of_child (.inr rfl)⟩
        · exact fun h => h.2.cases_child.imp_right (Or.imp (⟨h.1, ·⟩) (⟨h.1, ·⟩))
    · rw [sub_of_ge (by omega)]
      exact ⟨.nil, fun v => ⟨nofun, fun h => by have := h.2.le; omega⟩⟩

theorem mem_dedup {x : Nat} {l : List Nat} : x ∈ dedup l ↔ x ∈ l := by
  induction l with
  | nil => simp [dedup]
  | cons a t ih =>
    by_cases h : a ∈ t
    · simp only [dedup, h, if_true, ih, List.mem_cons]
      constructor
      · exact Or.inr
      · rintro (rfl | h') <;> assumption
    · simp [dedup, h, ih]

theorem nodup_dedup (l : List Nat) : (dedup l).Nodup := by
  induction l with
  | nil => simp [dedup]
  | cons a t ih =>
    by_cases h : a ∈ t
    · simpa [dedup, h] using ih
    · simp only [dedup, h, if_false, List.nodup_cons]
      exact ⟨fun hm => h (mem_dedup.1 hm), ih⟩

theorem nodup_cset (nb : List Nat) (p : Int) : (cset nb p).Nodup :=
  (nodup_dedup nb).sublist List.filter_sublist

theorem mem_cset {n r x : Nat} :
    x ∈ cset (getNeighbor r n) (parentI r) ↔ (x = 2 * r + 1 ∨ x = 2 * r + 2) ∧ x < n := by
  unfold cset
  simp only [List.mem_filter, mem_dedup, mem_getNeighbor, bne_iff_ne, ne_eq]
  by_cases hr : 0 < r
  · rw [parentI_pos r hr]; omega
  · have : r = 0 := by omega
    subst this
    rw [parentI_zero]; omega

theorem iterOrder_perm (o cs : List Nat) : (iterOrder o cs).Perm cs := by
  unfold iterOrder
  by_cases h : o.isPerm cs
  · simpa [h] using List.isPerm_iff.1 h
  · simp [h]

theorem children_perm (n r : Nat) (o : List Nat) :
    (iterOrder o (cset (getNeighbor r n) (parentI r))).Perm ([2 * r + 1, 2 * r + 2].filter (· < n)) := by
  refine (iterOrder_perm _ _).trans ((List.perm_ext_iff_of_nodup (nodup_cset _ _) ?_).2 fun x => ?_)
  · exact List.Nodup.sublist List.filter_sublist (by simp)
  · simp [mem_cset]

theorem dget_tree {n r : Nat} (hr : r < n) : dget (getTree n).1 r = .ok (getNeighbor r n) := by
  rw [getTree_eq]; exact dget_tab (range_id_nodup n) _ hr

theorem dget_parent {n r : Nat} (hr : r < n) : dget (getTree n).2 r = .ok (parentI r) := by
  rw [getTree_eq]; exact dget_tab (range_id_nodup n) _ hr

theorem getTree_length (n : Nat) : (getTree n).1.length = n := by
  rw [getTree_eq]; simp [tab]

theorem fsrLoop_perm (f : Nat → R (List Nat)) (g : Nat → List Nat) (total : Nat) :
    ∀ (cs : List Nat) (cnt : Nat) (acc : List Nat), (∀ c ∈ cs, ∃ lc, f c = .ok lc ∧ lc.Perm (g c)) →
      ∃ t, fsrLoop f total cs cnt acc = .ok (acc ++ t) ∧ t.Perm (cs.flatMap g)
  | [], _, acc, _ => ⟨[], by simp [fsrLoop], .refl _⟩
  | c :: cs, cnt, acc, h => by
    obtain ⟨lc, hfc, hp⟩ := h c (by simp)
    obtain ⟨t, ht, htp⟩ := fsrLoop_perm f g total cs (cnt + cntStep)
      (acc ++ if isLast (cnt + cntStep) total then lc.reverse else lc) fun c' hc' => h c' (by simp [hc'])
    refine ⟨_, by simp only [fsrLoop, hfc]; rw [ht, List.append_assoc], ?_⟩
    rw [List.flatMap_cons]
    refine List.Perm.append ?_ htp
    split
    · exact (List.reverse_perm _).trans hp
    · exact hp

theorem findShareRing_perm (n : Nat) (ord : Nat → List Nat) :
    ∀ fuel r, r < n → n - r ≤ fuel →
      ∃ t, findShareRing (getTree n).1 (getTree n).2 ord fuel r = .ok (r :: t) ∧ (r :: t).Perm (sub n fuel r)
  | 0, r, hr, hf => by omega
  | fuel + 1, r, hr, hf => by
    simp only [findShareRing, dget_tree hr, dget_parent hr, sub, hr, if_true, List.perm_cons]
    have hp := children_perm n r (ord r)
    generalize iterOrder (ord r) (cset (getNeighbor r n) (parentI r)) = cs at hp ⊢
    obtain ⟨t, ht, htp⟩ := fsrLoop_perm (findShareRing (getTree n).1 (getTree n).2 ord fuel) (sub n fuel) cs.length cs 0 [r]
      fun c hc => by
        have hc := hp.mem_iff.1 hc
        simp only [List.mem_filter, List.mem_cons, List.not_mem_nil, or_false, decide_eq_true_eq] at hc
        obtain ⟨t', h1, h2⟩ := findShareRing_perm n ord fuel c hc.2 (by omega)
        exact ⟨_, h1, h2⟩
    refine ⟨t, ?_, htp.trans ((hp.flatMap_right _).trans (.of_eq ?_))⟩
    · -- Python's `if len(cset) == 0: return [r]` is the loop over no children
      exact (show _ = fsrLoop _ cs.length cs 0 [r] by cases cs <;> rfl).trans ht
    · by_cases h1 : 2 * r + 1 < n <;> by_cases h2 : 2 * r + 2 < n <;>
        simp [h1, h2, sub_of_ge (Nat.le_of_not_lt _)]

structure IsRingList (n : Nat) (L : List Nat) : Prop where
  perm : L.Perm (List.range n)
  head : ∃ t, L = 0 :: t

theorem ringList_ok (n : Nat) (hn : 1 ≤ n) (ord : Nat → List Nat) : ∃ L, ringList n ord = .ok L ∧ IsRingList n L := by
  obtain ⟨t, hl, hp⟩ := findShareRing_perm n ord ((getTree n).1.length + 1) 0 (by omega) (by rw [getTree_length]; omega)
  obtain ⟨hnd, hmem⟩ := sub_spec n ((getTree n).1.length + 1) 0 (by rw [getTree_length]; omega)
  refine ⟨_, hl, hp.trans ((List.perm_ext_iff_of_nodup hnd List.nodup_range).2 fun v => ?_), t, rfl⟩
  simp [hmem, Anc.root]

end DmlcModel.Tracker
