/-
Properties of the relabelled maps returned by `get_link_map`, read off their closed forms.
-/
import DmlcModel.Tracker.LinkMap

namespace DmlcModel.Tracker
open DmlcModel.Gen.Tracker

theorem nodup_map_of_inj_on {f : Nat → Nat} {l : List Nat}
    (hinj : ∀ x ∈ l, ∀ y ∈ l, f x = f y → x = y) (hnd : l.Nodup) : (l.map f).Nodup :=
  List.pairwise_map.mpr (hnd.imp_of_mem fun hx hy hne e => hne (hinj _ hx _ hy e))

/-- follow `parent_map` upwards `k` times (`none` as soon as the entry is missing or negative) -/
def parentSteps (P : Dict Int) : Nat → Nat → Option Nat
  | 0, r => some r
  | k + 1, r =>
    match P.lookup r with
    | some (Int.ofNat p) => parentSteps P k p
    | _ => none

section
variable {n : Nat} {L : List Nat} (h : IsRingList n L)
include h

theorem treeOut_lookup {r : Nat} (hr : r < n) :
    (treeOutSpec n L).lookup (L.idxOf r) = some ((getNeighbor r n).map (L.idxOf ·)) :=
  lookup_tab h.map_idxOf_nodup _ hr

theorem parentOut_lookup {r : Nat} (hr : r < n) :
    (parentOutSpec n L).lookup (L.idxOf r) =
      some (if r = 0 then (-1 : Int) else ((L.idxOf ((r - 1) / 2) : Nat) : Int)) :=
  lookup_tab h.map_idxOf_nodup _ hr

theorem mem_map_idxOf {r s : Nat} (hr : r < n) (hs : s < n) :
    L.idxOf s ∈ (getNeighbor r n).map (L.idxOf ·) ↔ s ∈ getNeighbor r n := by
  constructor
  · intro hm
    obtain ⟨x, hx, e⟩ := List.mem_map.1 hm
    have := h.idxOf_inj (getNeighbor_lt hr hx) hs e
    exact this ▸ hx
  · intro hm
    exact List.mem_map.2 ⟨s, hm, rfl⟩

theorem map_idxOf_nb_nodup {r : Nat} (hr : r < n) : ((getNeighbor r n).map (L.idxOf ·)).Nodup :=
  nodup_map_of_inj_on
    (fun _ hx _ hy e => h.idxOf_inj (getNeighbor_lt hr hx) (getNeighbor_lt hr hy) e)
    (getNeighbor_nodup r n)

/-- the parent of heap node `r > 0` is `(r - 1) / 2 < r` -/
theorem parentSteps_root (r : Nat) (hr : r < n) : ∃ k, parentSteps (parentOutSpec n L) k (L.idxOf r) = some 0 := by
  induction r using Nat.strongRecOn with
  | _ r ih =>
    by_cases h0 : r = 0
    · exact ⟨0, by rw [h0, h.idxOf_zero]; rfl⟩
    · obtain ⟨k, hk⟩ := ih ((r - 1) / 2) (by omega) (by omega)
      exact ⟨k + 1, by simpa only [parentSteps, parentOut_lookup h hr, h0, if_false] using hk⟩

omit h in
theorem degree_sum_out (hn : 1 ≤ n) : ((treeOutSpec n L).map fun e => e.2.length).sum = 2 * (n - 1) := by
  rw [← degree_sum n hn]
  simp [treeOutSpec, tab, List.map_map, Function.comp_def]

end

end DmlcModel.Tracker
