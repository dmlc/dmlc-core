/-
Specification lemmas for the generated Tracker kernels (`Gen/Tracker.lean`), the dict model, and the
heap-numbered tree (`get_neighbor`, `get_tree`).  If an expression of tracker.py changes, the generated
definition changes and these lemmas (hence everything downstream) stop compiling.
-/
import DmlcModel.Tracker.Model

namespace DmlcModel.Tracker
open DmlcModel.Gen.Tracker

/-! ### Gen items -/

theorem parentI_zero : parentI 0 = -1 := by decide

theorem parentI_pos (r : Nat) (h : 0 < r) : parentI r = (((r - 1) / 2 : Nat) : Int) := by
  unfold parentI
  rw [Int.fdiv_eq_ediv_of_nonneg _ (by omega)]
  omega

theorem rootParent_val : rootParent = -1 := by decide
theorem rootParentOut_val : rootParentOut = -1 := by decide
theorem ringPrev_spec (r n : Nat) : ringPrev r n = (r + n - 1) % n := rfl
theorem ringNext_spec (r n : Nat) : ringNext r n = (r + 1) % n := rfl
theorem relabelCount_spec (n : Nat) : relabelCount n = n - 1 := rfl
theorem relabelVal_spec (i : Nat) : relabelVal i = i + 1 := rfl
theorem relabelStart_val : relabelStart = 0 := rfl
theorem cntStep_val : cntStep = 1 := rfl
theorem isLast_iff (c t : Nat) : isLast c t = true ↔ c = t := by simp [isLast]
theorem notRoot_iff (k : Nat) : notRoot k = true ↔ k ≠ 0 := by simp [notRoot]

theorem getNeighbor_spec (r n : Nat) :
    getNeighbor r n =
      (if 0 < r then [(r - 1) / 2] else []) ++ (if 2 * r + 1 < n then [2 * r + 1] else []) ++
        (if 2 * r + 2 < n then [2 * r + 2] else []) := by
  simp only [getNeighbor, rank1, hasParent, nbParent, hasLeft, nbLeft, hasRight, nbRight, decide_eq_true_eq,
    List.nil_append, show (r + 1) / 2 - 1 = (r - 1) / 2 by omega, show (r + 1) * 2 = 2 * r + 2 by omega,
    show r + 1 > 1 ↔ 0 < r by omega]
  rw [show 2 * r + 2 - 1 = 2 * r + 1 from rfl]
  split <;> split <;> simp

theorem mem_getNeighbor {r n x : Nat} :
    x ∈ getNeighbor r n ↔
      (0 < r ∧ x = (r - 1) / 2) ∨ (x = 2 * r + 1 ∧ x < n) ∨ (x = 2 * r + 2 ∧ x < n) := by
  simp only [getNeighbor_spec, List.mem_append, List.mem_ite_nil_right, List.mem_singleton]
  omega

theorem getNeighbor_nodup (r n : Nat) : (getNeighbor r n).Nodup := by
  rw [getNeighbor_spec]
  by_cases h1 : 0 < r <;> by_cases h2 : 2 * r + 1 < n <;> by_cases h3 : 2 * r + 2 < n <;>
    simp [h1, h2, h3] <;> omega

theorem getNeighbor_length (r n : Nat) :
    (getNeighbor r n).length =
      (if 0 < r then 1 else 0) + (if 2 * r + 1 < n then 1 else 0) + (if 2 * r + 2 < n then 1 else 0) := by
  simp only [getNeighbor_spec, List.length_append, apply_ite List.length, List.length_singleton, List.length_nil]

theorem getNeighbor_symm {a b n : Nat} (ha : a < n) (hb : b < n) :
    b ∈ getNeighbor a n ↔ a ∈ getNeighbor b n := by
  simp only [mem_getNeighbor]; omega

theorem getNeighbor_lt {r n x : Nat} (hr : r < n) (h : x ∈ getNeighbor r n) : x < n := by
  simp only [mem_getNeighbor] at h; omega

theorem getNeighbor_irrefl (r n : Nat) : r ∉ getNeighbor r n := by
  simp only [mem_getNeighbor]; omega

theorem parent_mem_getNeighbor {r n : Nat} (h : 0 < r) : (r - 1) / 2 ∈ getNeighbor r n :=
  mem_getNeighbor.2 (Or.inl ⟨h, rfl⟩)

/-- the ranks `1..m-1` have a parent link each, and the child links of the ranks `< m` go to the ranks `1..2m`, as far
as these are `< n` -/
theorem degree_sum_prefix (n : Nat) (hn : 1 ≤ n) :
    ∀ m, 1 ≤ m → (((List.range m).map fun r => (getNeighbor r n).length).sum = (m - 1) + min (2 * m) (n - 1))
  | 0, h => by omega
  | 1, _ => by
    simp [getNeighbor_length]
    by_cases h2 : 1 < n <;> by_cases h3 : 2 < n <;> simp [h2, h3] <;> omega
  | m + 2, _ => by
    rw [List.range_succ, List.map_append, List.sum_append, degree_sum_prefix n hn (m + 1) (by omega)]
    simp only [List.map_cons, List.map_nil, List.sum_cons, List.sum_nil, getNeighbor_length]
    by_cases h2 : 2 * (m + 1) + 1 < n <;> by_cases h3 : 2 * (m + 1) + 2 < n <;> simp [h2, h3] <;> omega

theorem degree_sum (n : Nat) (hn : 1 ≤ n) :
    ((List.range n).map fun r => (getNeighbor r n).length).sum = 2 * (n - 1) := by
  rw [degree_sum_prefix n hn n hn]; omega

/-! ### dict model -/

section Dict
variable {α β : Type}

theorem lookup_dset (d : Dict α) (k k' : Nat) (v : α) :
    (dset d k v).lookup k' = if k' = k then some v else d.lookup k' := by
  induction d with
  | nil =>
    by_cases h : k' = k
    · subst h; simp [dset]
    · have hb : (k' == k) = false := by simp [h]
      simp [dset, List.lookup_cons, h, hb]
  | cons e t ih =>
    obtain ⟨k0, v0⟩ := e
    by_cases h0 : k0 = k
    · subst h0
      by_cases h : k' = k0
      · subst h; simp [dset]
      · have hb : (k' == k0) = false := by simp [h]
        simp [dset, List.lookup_cons, h, hb]
    · by_cases h : k' = k
      · subst h
        have : (k' == k0) = false := by simp; omega
        simp [dset, h0, List.lookup_cons, this, ih]
      · simp only [dset, h0, if_false, List.lookup_cons, ih, h]

theorem dset_fresh (d : Dict α) (k : Nat) (v : α) (h : ∀ e ∈ d, e.1 ≠ k) : dset d k v = d ++ [(k, v)] := by
  induction d with
  | nil => rfl
  | cons e t ih =>
    obtain ⟨k0, v0⟩ := e
    have h0 : k0 ≠ k := h (k0, v0) (by simp)
    simp only [dset, h0, if_false, List.cons_append]
    rw [ih (fun e he => h e (by simp [he]))]

theorem lookup_of_mem (d : Dict α) (hnd : (d.map Prod.fst).Nodup) {k : Nat} {v : α} (h : (k, v) ∈ d) :
    d.lookup k = some v := by
  induction d with
  | nil => simp at h
  | cons e t ih =>
    obtain ⟨k0, v0⟩ := e
    simp only [List.map_cons, List.nodup_cons, List.mem_map] at hnd
    rcases List.mem_cons.1 h with h | h
    · cases h; simp
    · have : k ≠ k0 := fun hk => hnd.1 ⟨(k, v), h, hk⟩
      have : (k == k0) = false := by simp [this]
      rw [List.lookup_cons, this]
      exact ih hnd.2 h

theorem mem_of_lookup (d : Dict α) {k : Nat} {v : α} (h : d.lookup k = some v) : (k, v) ∈ d := by
  obtain ⟨l₁, l₂, rfl, -⟩ := List.lookup_eq_some_iff.mp h
  simp

/-- the dict with the entries `(k r, v r)` for `r = 0 … n-1`, in this order: `tree_map`, `parent_map`, `ring_map`,
`rmap` and the three returned maps are all of this form -/
def tab (n : Nat) (k : Nat → Nat) (v : Nat → α) : Dict α := (List.range n).map fun r => (k r, v r)

theorem tab_keys (n : Nat) (k : Nat → Nat) (v : Nat → α) : (tab n k v).map Prod.fst = (List.range n).map k := by
  simp [tab, List.map_map, Function.comp_def]

theorem range_id_nodup (n : Nat) : ((List.range n).map id).Nodup := by simpa using List.nodup_range

theorem lookup_tab {n : Nat} {k : Nat → Nat} (hk : ((List.range n).map k).Nodup) (v : Nat → α) {r : Nat} (hr : r < n) :
    (tab n k v).lookup (k r) = some (v r) :=
  lookup_of_mem _ (tab_keys n k v ▸ hk) (List.mem_map.2 ⟨r, List.mem_range.2 hr, rfl⟩)

theorem dget_tab {n : Nat} {k : Nat → Nat} (hk : ((List.range n).map k).Nodup) (v : Nat → α) {r : Nat} (hr : r < n) :
    dget (tab n k v) (k r) = .ok (v r) := by
  unfold dget; rw [lookup_tab hk v hr]

theorem lookup_tab_inv {n : Nat} {k : Nat → Nat} {v : Nat → α} {a : Nat} {x : α} (h : (tab n k v).lookup a = some x) :
    ∃ r, r < n ∧ a = k r ∧ x = v r := by
  obtain ⟨r, hr, e⟩ := List.mem_map.1 (mem_of_lookup _ h)
  cases e
  exact ⟨r, List.mem_range.1 hr, rfl, rfl⟩

theorem mapR_ok (f : α → R β) (g : α → β) (l : List α) (h : ∀ a ∈ l, f a = .ok (g a)) :
    mapR f l = .ok (l.map g) := by
  induction l with
  | nil => rfl
  | cons a t ih =>
    simp only [mapR, h a (by simp), ih (fun x hx => h x (by simp [hx])), List.map_cons]

theorem buildR_fresh (f : α → R (Nat × β)) (g : α → Nat × β) (l : List α) (d : Dict β)
    (hf : ∀ a ∈ l, f a = .ok (g a)) (hnd : ((d ++ l.map g).map Prod.fst).Nodup) :
    buildR f l d = .ok (d ++ l.map g) := by
  induction l generalizing d with
  | nil => simp [buildR]
  | cons a t ih =>
    simp only [buildR, hf a (by simp)]
    have hfresh : ∀ e ∈ d, e.1 ≠ (g a).1 := by
      intro e he hk
      simp only [List.map_cons, List.map_append, List.nodup_append] at hnd
      exact hnd.2.2 e.1 (List.mem_map.2 ⟨e, he, rfl⟩) (g a).1 (by simp) hk
    rw [dset_fresh d _ _ hfresh, ih _ (fun x hx => hf x (by simp [hx]))]
    · simp
    · simpa using hnd

theorem buildR_map {γ : Type} (f : β → R (Nat × α)) (h : γ → β) (l : List γ) (d : Dict α) :
    buildR f (l.map h) d = buildR (fun a => f (h a)) l d := by
  induction l generalizing d with
  | nil => rfl
  | cons a t ih => simp only [List.map_cons, buildR]; cases f (h a) <;> simp only [ih]

theorem buildR_over_tab {γ : Type} (f : Nat × α → R (Nat × γ)) (n : Nat) (k : Nat → Nat) (v : Nat → α) (d : Dict γ) :
    buildR f (tab n k v) d = buildR (fun r => f (k r, v r)) (List.range n) d :=
  buildR_map f _ _ d

theorem buildR_tab (f : Nat → R (Nat × β)) {n : Nat} {k : Nat → Nat} {v : Nat → β} (hk : ((List.range n).map k).Nodup)
    (hf : ∀ r, r < n → f r = .ok (k r, v r)) : buildR f (List.range n) [] = .ok (tab n k v) := by
  simpa [tab] using buildR_fresh f (fun r => (k r, v r)) (List.range n) [] (fun r hr => hf r (List.mem_range.1 hr))
    (by simpa [List.map_map, Function.comp_def] using hk)

end Dict

theorem getTree_eq (n : Nat) :
    getTree n = (tab n id fun r => getNeighbor r n, tab n id parentI) := by
  have key : ∀ (l : List Nat) (d1 : Dict (List Nat)) (d2 : Dict Int), l.Nodup →
      (∀ e ∈ d1, e.1 ∉ l) → (∀ e ∈ d2, e.1 ∉ l) →
      l.foldl (fun acc r => (dset acc.1 r (getNeighbor r n), dset acc.2 r (parentI r))) (d1, d2) =
        (d1 ++ l.map (fun r => (r, getNeighbor r n)), d2 ++ l.map (fun r => (r, parentI r))) := by
    intro l
    induction l with
    | nil => intros; simp
    | cons a t ih =>
      intro d1 d2 hnd h1 h2
      rw [List.nodup_cons] at hnd
      simp only [List.foldl_cons]
      rw [dset_fresh d1 a _ (fun e he hk => h1 e he (by simp [hk])),
        dset_fresh d2 a _ (fun e he hk => h2 e he (by simp [hk]))]
      rw [ih _ _ hnd.2]
      · simp
      · intro e he
        rcases List.mem_append.1 he with he | he
        · exact fun hm => h1 e he (by simp [hm])
        · simp at he; subst he; exact hnd.1
      · intro e he
        rcases List.mem_append.1 he with he | he
        · exact fun hm => h2 e he (by simp [hm])
        · simp at he; subst he; exact hnd.1
  unfold getTree
  rw [key _ [] [] List.nodup_range (by simp) (by simp)]
  simp [tab]

end DmlcModel.Tracker
