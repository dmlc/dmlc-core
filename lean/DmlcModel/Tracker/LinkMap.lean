/-
Closed forms of `get_ring` and `get_link_map` for every `n ≥ 1` and every child-order oracle: no
`assert`, `KeyError` or `IndexError` fires, and the three returned dicts are explicit functions of the
ring list `L` (a permutation of `0..n-1` starting with 0) and its position function `L.idxOf`.
-/
import DmlcModel.Tracker.Ring

namespace DmlcModel.Tracker
open DmlcModel.Gen.Tracker

/-- `L[i]` with 0 outside the list (specification side only) -/
def nth (L : List Nat) (i : Nat) : Nat := List.getD L i 0

theorem nth_cons_zero (a : Nat) (t : List Nat) : nth (a :: t) 0 = a := by simp [nth]

theorem nth_eq_getElem {L : List Nat} {i : Nat} (h : i < L.length) : nth L i = L[i] := by
  rw [nth, List.getD_eq_getElem?_getD, List.getElem?_eq_getElem h, Option.getD_some]

theorem map_nth_range (L : List Nat) : (List.range L.length).map (fun i => nth L i) = L := by
  apply List.ext_getElem
  · simp
  · intro i h1 h2
    simp [nth_eq_getElem h2]

theorem lidx_ok {L : List Nat} {i : Nat} (h : i < L.length) : lidx L i = .ok (nth L i) := by
  rw [lidx, nth_eq_getElem h, List.getElem?_eq_getElem h]

namespace IsRingList
variable {n : Nat} {L : List Nat} (h : IsRingList n L)
include h

theorem length : L.length = n := by simpa using h.perm.length_eq
theorem map_nth : (List.range n).map (nth L) = L := by have := map_nth_range L; rwa [h.length] at this
theorem nodup : L.Nodup := h.perm.symm.nodup List.nodup_range
theorem map_nth_nodup : ((List.range n).map (nth L)).Nodup := by rw [h.map_nth]; exact h.nodup
theorem mem {k : Nat} : k ∈ L ↔ k < n := by rw [h.perm.mem_iff, List.mem_range]
theorem idxOf_lt {k : Nat} (hk : k < n) : L.idxOf k < n := by
  have := List.idxOf_lt_length_of_mem (h.mem.2 hk); rwa [h.length] at this
theorem idxOf_zero : L.idxOf 0 = 0 := by
  obtain ⟨t, rfl⟩ := h.head; simp
theorem nth_lt {i : Nat} (hi : i < n) : nth L i < n := by
  have hi : i < L.length := by rw [h.length]; exact hi
  exact h.mem.1 (nth_eq_getElem hi ▸ List.getElem_mem hi)
theorem idxOf_nth {i : Nat} (hi : i < n) : L.idxOf (nth L i) = i := by
  have hi : i < L.length := by rw [h.length]; exact hi
  rw [nth_eq_getElem hi, h.nodup.idxOf_getElem i hi]
theorem nth_idxOf {k : Nat} (hk : k < n) : nth L (L.idxOf k) = k := by
  rw [nth_eq_getElem (List.idxOf_lt_length_of_mem (h.mem.2 hk))]; exact List.getElem_idxOf _
theorem idxOf_inj {a b : Nat} (ha : a < n) (hb : b < n) (e : L.idxOf a = L.idxOf b) : a = b := by
  rw [← h.nth_idxOf ha, ← h.nth_idxOf hb, e]

theorem map_idxOf_perm : ((List.range n).map (L.idxOf ·)).Perm (List.range n) := by
  have h1 : (L.map (L.idxOf ·)).Perm ((List.range n).map (L.idxOf ·)) := h.perm.map _
  have h2 : L.map (L.idxOf ·) = List.range n := by
    conv => lhs; arg 2; rw [← map_nth_range L]
    rw [List.map_map, h.length]
    apply List.ext_getElem
    · simp
    · intro i h1 h2
      have hi : i < n := by simpa using h2
      simp [h.idxOf_nth hi]
  rw [h2] at h1
  exact h1.symm

theorem map_idxOf_nodup : ((List.range n).map (L.idxOf ·)).Nodup := h.map_idxOf_perm.symm.nodup List.nodup_range

end IsRingList

/-- `ring_map` before relabelling: rank `L[i]` is linked to `L[i-1]` and `L[i+1]` (indices mod n) -/
def ringSpec (n : Nat) (L : List Nat) : Dict (Nat × Nat) :=
  tab n (nth L) fun r => (nth L ((r + n - 1) % n), nth L ((r + 1) % n))

theorem getRing_eq (n : Nat) (hn : 1 ≤ n) (ord : Nat → List Nat) {L : List Nat}
    (hL : ringList n ord = .ok L) (h : IsRingList n L) :
    getRing (getTree n).1 (getTree n).2 ord = .ok (ringSpec n L) := by
  unfold ringList at hL
  simp only [getTree_length] at hL
  unfold getRing
  simp only [dget_parent (show 0 < n by omega), parentI_zero, rootParent_val, bne_self_eq_false,
    Bool.false_eq_true, if_false, hL, getTree_length, h.length]
  refine buildR_tab _ h.map_nth_nodup fun r hr => ?_
  unfold ringEntry
  rw [lidx_ok (by rw [h.length]; exact hr), ringPrev_spec, ringNext_spec,
    lidx_ok (by rw [h.length]; exact Nat.mod_lt _ (by omega)), lidx_ok (by rw [h.length]; exact Nat.mod_lt _ (by omega))]

theorem dget_ringSpec (n : Nat) (L : List Nat) (h : IsRingList n L) {i : Nat} (hi : i < n) :
    dget (ringSpec n L) (nth L i) = .ok (nth L ((i + n - 1) % n), nth L ((i + 1) % n)) :=
  dget_tab h.map_nth_nodup _ hi

/-- `rmap` after the walk: rank `L[i]` gets the new label `i` -/
def rmapSpec (n : Nat) (L : List Nat) : Dict Nat := tab n (nth L) id

theorem relabelWalk_eq (n : Nat) (L : List Nat) (h : IsRingList n L) :
    ∀ m j, j + m + 1 = n →
      relabelWalk (ringSpec n L) (List.range' j m) (nth L j) (rmapSpec (j + 1) L) = .ok (rmapSpec n L) := by
  intro m
  induction m with
  | zero =>
    intro j hj
    have : j + 1 = n := by omega
    simp [relabelWalk, this]
  | succ m ih =>
    intro j hj
    rw [List.range'_succ]
    simp only [relabelWalk, dget_ringSpec n L h (show j < n by omega), relabelVal_spec]
    have e : (j + 1) % n = j + 1 := Nat.mod_eq_of_lt (by omega)
    rw [e]
    have hfresh : ∀ e ∈ rmapSpec (j + 1) L, e.1 ≠ nth L (j + 1) := by
      intro e he hk
      unfold rmapSpec tab at he
      obtain ⟨i, hi, rfl⟩ := List.mem_map.1 he
      have hi : i < j + 1 := List.mem_range.1 hi
      have h1 := h.idxOf_nth (show i < n by omega)
      have h2 := h.idxOf_nth (show j + 1 < n by omega)
      simp only at hk
      rw [hk] at h1
      omega
    rw [dset_fresh _ _ _ hfresh]
    have : rmapSpec (j + 1) L ++ [(nth L (j + 1), j + 1)] = rmapSpec (j + 1 + 1) L := by
      unfold rmapSpec tab
      rw [List.range_succ (n := j + 1)]
      simp
    rw [this]
    exact ih (j + 1) (by omega)

theorem relabelWalk_full (n : Nat) (hn : 1 ≤ n) (L : List Nat) (h : IsRingList n L) :
    relabelWalk (ringSpec n L) (List.range (relabelCount n)) relabelStart [(0, 0)] = .ok (rmapSpec n L) := by
  have hwalk := relabelWalk_eq n L h (n - 1) 0 (by omega)
  have h0 : nth L 0 = 0 := by obtain ⟨t, rfl⟩ := h.head; exact nth_cons_zero _ _
  have hr1 : rmapSpec (0 + 1) L = [(0, 0)] := by simp [rmapSpec, tab, h0]
  rw [h0, hr1, ← List.range_eq_range'] at hwalk
  rw [relabelCount_spec, relabelStart_val]
  exact hwalk

theorem rmapSpec_keys (n : Nat) (L : List Nat) (h : IsRingList n L) : (rmapSpec n L).map Prod.fst = L := by
  rw [rmapSpec, tab_keys, h.map_nth]

theorem dget_rmapSpec (n : Nat) (L : List Nat) (h : IsRingList n L) {k : Nat} (hk : k < n) :
    dget (rmapSpec n L) k = .ok (L.idxOf k) := by
  have := dget_tab h.map_nth_nodup id (h.idxOf_lt hk)
  rwa [h.nth_idxOf hk] at this

def ringOutSpec (n : Nat) : Dict (Nat × Nat) := tab n id fun r => ((r + n - 1) % n, (r + 1) % n)

def treeOutSpec (n : Nat) (L : List Nat) : Dict (List Nat) := tab n (L.idxOf ·) fun r => (getNeighbor r n).map (L.idxOf ·)

def parentOutSpec (n : Nat) (L : List Nat) : Dict Int :=
  tab n (L.idxOf ·) fun r => if r = 0 then (-1 : Int) else ((L.idxOf ((r - 1) / 2) : Nat) : Int)

theorem getLinkMap_eq (n : Nat) (hn : 1 ≤ n) (ord : Nat → List Nat) :
    ∃ L, ringList n ord = .ok L ∧ IsRingList n L ∧
      getLinkMap n ord =
        .ok { tree := treeOutSpec n L, parent := parentOutSpec n L, ring := ringOutSpec n } := by
  obtain ⟨L, hL, h⟩ := ringList_ok n hn ord
  refine ⟨L, hL, h, ?_⟩
  have hmod1 : ∀ r, (r + n - 1) % n < n := fun r => Nat.mod_lt _ (by omega)
  have hmod2 : ∀ r, (r + 1) % n < n := fun r => Nat.mod_lt _ (by omega)
  unfold getLinkMap
  simp only [getRing_eq n hn ord hL h, relabelWalk_full n hn L h]
  have hring : buildR (ringOut (rmapSpec n L)) (ringSpec n L) [] = .ok (ringOutSpec n) := by
    rw [ringSpec, buildR_over_tab]
    refine buildR_tab _ (range_id_nodup n) fun r hr => ?_
    simp only [ringOut, dget_rmapSpec n L h (h.nth_lt hr), dget_rmapSpec n L h (h.nth_lt (hmod1 r)),
      dget_rmapSpec n L h (h.nth_lt (hmod2 r)), h.idxOf_nth hr, h.idxOf_nth (hmod1 r), h.idxOf_nth (hmod2 r), id]
  have htree : buildR (treeOut (rmapSpec n L)) (getTree n).1 [] = .ok (treeOutSpec n L) := by
    rw [getTree_eq, buildR_over_tab]
    refine buildR_tab _ h.map_idxOf_nodup fun r hr => ?_
    simp only [treeOut, id, dget_rmapSpec n L h hr, mapR_ok (dget (rmapSpec n L)) (L.idxOf ·) (getNeighbor r n)
      (fun x hx => dget_rmapSpec n L h (getNeighbor_lt hr hx))]
  have hpar : buildR (parentOut (rmapSpec n L)) (getTree n).2 [] = .ok (parentOutSpec n L) := by
    rw [getTree_eq, buildR_over_tab]
    refine buildR_tab _ h.map_idxOf_nodup fun r hr => ?_
    by_cases h0 : r = 0
    · subst h0
      simp [parentOut, notRoot, dget_rmapSpec n L h hr, rootParentOut_val]
    · have : dgetI (rmapSpec n L) (((r - 1) / 2 : Nat) : Int) = .ok (L.idxOf ((r - 1) / 2)) :=
        dget_rmapSpec n L h (by omega)
      simp only [parentOut, id, (notRoot_iff r).2 h0, if_true, dget_rmapSpec n L h hr, parentI_pos r (by omega), h0,
        if_false, this]
  simp only [hring, htree, hpar]

end DmlcModel.Tracker
