/-
C16 — JSONWriter / JSONReader: round trip for every value of the schema family, well-formed output, malformed
input is safe.  The model follows json.h with fixes/C16-1.diff (object keys go through `WriteString`); on the
pinned tree `Gen.Json.keyEscaped` is `false` and these theorems do not compile (finding C16-F9, C16Witness.lean).

`t : JTy` ranges over strings, integers of any width and sign, bool, pair, vector, list, map, unordered_map, any
with an arbitrary registry, classes with required / optional fields, nested arbitrarily; strings, map keys, any
names and field names over all byte strings.
-/
import DmlcModel.Json.Lemmas
import DmlcModel.Json.WriterSpec
import DmlcModel.Json.WellFormed
import DmlcModel.Json.Total
import DmlcModel.Json.RoundTrip

namespace DmlcModel.Props.C16
open DmlcModel DmlcModel.Json

/-- **Round trip.** The writer succeeds, and the reader on its text followed by any `rest` that does not begin
with a decimal digit (does not start inside a number token) returns the value and leaves exactly `rest` unread
with an empty scope stack.  `canon t v` is `v` with every map rebuilt by insertion of its pairs: the identity
for `std::map`, the key-sorted form for `unordered_map`, whose iteration order carries no information. -/
theorem C16_roundtrip (t : JTy) (v : Val) (hwf : t.wf = true) (ht : hasType t v = true) (rest : Bytes)
    (hrest : IStreamInt.startsWithDigit rest = false) :
    ∃ bs, writeTop t v = .ok bs ∧
      ∃ st, readTop t (bs ++ rest) = .ok (canon t v, st) ∧ st.inp = rest ∧ st.scope = [] :=
  readTop_writeTop t v hwf ht rest hrest

/-- For types without `unordered_map` the value read back is *equal* to the value written. -/
theorem C16_roundtrip_exact (t : JTy) (v : Val) (hwf : t.wf = true) (hn : noUmap t = true)
    (ht : hasType t v = true) (rest : Bytes) (hrest : IStreamInt.startsWithDigit rest = false) :
    ∃ bs, writeTop t v = .ok bs ∧ ∃ st, readTop t (bs ++ rest) = .ok (v, st) ∧ st.inp = rest ∧ st.scope = [] := by
  have h := readTop_writeTop t v hwf ht rest hrest
  rwa [canon_eq_self t v hn ht] at h

/-- The same for a value embedded in a larger document: after any white space, under any multi-line stack of
the writer and any scope stack and line counters of the reader. -/
theorem C16_roundtrip_embedded (t : JTy) (v : Val) (hwf : t.wf = true) (ht : hasType t v = true)
    (ml : List Bool) (ws rest : Bytes) (hws : ∀ c ∈ ws, Gen.Json.isSpace c.toNat = true)
    (hrest : IStreamInt.startsWithDigit rest = false) (lr ln : Nat) (sc : List Nat) :
    ∃ lr' ln', read t { inp := ws ++ enc t v ml ++ rest, lineR := lr, lineN := ln, scope := sc }
      = .ok (canon t v, { inp := rest, lineR := lr', lineN := ln', scope := sc }) :=
  read_enc t v hwf ht ml ws rest hws hrest lr ln sc

/-- **Well-formed output.** If no string, map key, any name or field name contains a control
character other than TAB, LF, CR, the text the writer produces is accepted by the independent
RFC 8259 recogniser `wellFormed`. -/
theorem C16_wellformed (t : JTy) (v : Val) (ht : hasType t v = true) (hct : cleanTy t = true)
    (hc : clean t v = true) : ∃ bs, writeTop t v = .ok bs ∧ wellFormed bs = true :=
  ⟨enc t v [], writeTop_eq_enc t v ht, wellFormed_enc t v ht hct hc⟩

/-- **No hang.** The three loops of `read` carry a budget of (remaining input length + 1) iterations; it is never
exhausted, for any type and any input: the outcome `fuel`, the model's rendering of a hang, is unreachable. -/
theorem C16_total (t : JTy) (st : RState) : read t st ≠ .error .fuel :=
  (read_ok t st).1

/-- fuel adequacy of the array loop itself: any budget above the remaining input length suffices -/
theorem C16_fuel_adequate (t : JTy) (fuel : Nat) (st : RState) (c : Nat) (sc : List Nat)
    (hs : st.scope = c :: sc) (hf : st.inp.length < fuel) : arrayLoop (read t) fuel st ≠ .error .fuel :=
  arrayLoop_eq (read t) fuel st ▸
    (itemLoop_safe arrNext_safe (fun _ => (read_ok t).safe) fuel hs hf).ne_error (by decide)

/-- **Malformed input is safe.** Whatever the bytes, reading ends in a value or in a thrown
dmlc::Error (`check`); a value is returned only after consuming at least one byte. -/
theorem C16_malformed_safe (t : JTy) (s : Bytes) :
    readTop t s = .error .check ∨ ∃ v st, readTop t s = .ok (v, st) ∧ st.inp.length < s.length ∧ st.scope = [] := by
  have h := readTop_ok t s
  generalize readTop t s = r at h
  rcases r with e | ⟨v, st⟩
  · cases e
    · exact Or.inl rfl
    · exact absurd rfl h.2.1
    · exact absurd rfl h.1
    · exact absurd rfl h.2.2.1
  · exact Or.inr ⟨v, st, rfl, (h.2.2.2 v st rfl).2, (h.2.2.2 v st rfl).1⟩

/-- **No scope underflow (reader).** Started on any state, even with an empty scope stack, the handlers never
call `back()` / `pop_back()` on an empty `scope_counter_`, and a successful read leaves the stack as it found it. -/
theorem C16_no_scope_underflow (t : JTy) (st : RState) :
    read t st ≠ .error .scope ∧ ∀ v st', read t st = .ok (v, st') → st'.scope = st.scope :=
  ⟨(read_ok t st).2.1, fun v st' h => ((read_ok t st).2.2.2 v st' h).1⟩

/-- **No scope underflow (writer).** For a value of the type the writer never touches an empty scope stack, never
trips the `CHECK`s of `EndArray` / `EndObject` / `Write`, emits exactly `enc t v` and restores both stacks. -/
theorem C16_no_scope_underflow_writer (t : JTy) (v : Val) (ht : hasType t v = true) (st : WState) :
    write t v st = .ok { out := st.out ++ enc t v st.ml, cnt := st.cnt, ml := st.ml } :=
  write_eq_enc t v ht st

/-- non-vacuity, a type and a value that meet every hypothesis:
`std::map<std::string, std::pair<std::vector<int32_t>, Rec>>` with a class `Rec {s; opt u16}` -/
def exTy : JTy :=
  .map (.pair (.vec (.int 32 true)) (.cls false (.cons [110] false .str (.cons [120, 34, 121] true (.int 16 false) .nil))))

/-- keys `a"b` and `c\`; a string holding quote, backslash, CR, LF, TAB, 0xff -/
def exVal : Val :=
  .obj [([97, 34, 98], .pair (.arr [.int 1, .int (-2)]) (.cls [.str [34, 92, 13, 10, 9, 255], .int 65535])),
        ([99, 92], .pair (.arr []) (.cls [.str [], .int 0]))]

example : exTy.wf = true := by decide
example : hasType exTy exVal = true := by decide
example : noUmap exTy = true := by decide
example : cleanTy exTy = true := by decide
example : clean exTy exVal = true := by decide
example : IStreamInt.startsWithDigit [44, 49] = false := by decide
example : (match writeTop exTy exVal with
    | .ok bs => (match readTop exTy (bs ++ [44, 49]) with
      | .ok (_, st) => st.inp == [44, 49] && wellFormed bs
      | .error _ => false)
    | .error _ => false) = true := by
  obtain ⟨bs, hw, st, hr, hi, _⟩ := C16_roundtrip exTy exVal (by decide) (by decide) [44, 49] (by decide)
  obtain ⟨_, hw', hwf⟩ := C16_wellformed exTy exVal (by decide) (by decide) (by decide)
  cases hw.symm.trans hw'
  simp [hw, hr, hi, hwf]

end DmlcModel.Props.C16
