/-
C04, file-list part — the cover theorems of C04 restated for a RecordIO splitter constructed from a URI
string over a file system (`InputSplitBase::Init` / `InitInputFileInfo` / `ConvertToURIs`).
-/
import DmlcModel.Split.FilesInit
import DmlcModel.Props.C04

namespace DmlcModel.Props.C04
open DmlcModel DmlcModel.Split DmlcModel.RecordIO
open DmlcModel.Split.CoverAux

theorem C04_listed_images (rx : Name → Name → Bool) (fs : FileSys) (uri : Bytes) (rc : Bool) (infos : List Info)
    (hU : fs.Pairwise (fun a b => a.1 ≠ b.1)) (h : initInputFileInfo rx fs uri rc = .ok infos)
    (rss : List (List Bytes)) (himg : infos.map (fun i => contentOf fs i.name) = rss.map writeAll) :
    rss ≠ [] ∧ ∀ rs ∈ rss, rs ≠ [] := by
  obtain ⟨g1, g2, _⟩ := contents_of_ok rx fs uri rc infos hU h
  rw [himg] at g1 g2
  refine ⟨fun hn => g1 (by rw [hn]; rfl), fun rs hrs hn => ?_⟩
  exact g2 (writeAll rs) (List.mem_map.2 ⟨rs, hrs, rfl⟩) (by rw [hn]; rfl)

/-- `C04_parts_cover` from the URI: if the URI expands to `infos` whose contents are the writer images of the
record lists `rss`, then for any matcher / recursion flag, consumed with `NextRecord`, no part fails and the
parts deliver exactly the written records, in list order, each exactly once -/
theorem C04_parts_cover_uri (rx : Name → Name → Bool) (fs : FileSys) (uri : Bytes) (rc : Bool) (infos : List Info)
    (hU : fs.Pairwise (fun a b => a.1 ≠ b.1)) (h : initInputFileInfo rx fs uri rc = .ok infos)
    (rss : List (List Bytes)) (himg : infos.map (fun i => contentOf fs i.name) = rss.map writeAll)
    (hshort : ∀ rs ∈ rss, ∀ r ∈ rs, r.length < 2^29) (ht : totalSize (rss.map writeAll) < 2^56)
    (n w dw : Nat) (hn0 : 0 < n) (hn : n < 2^32) (hw2 : 2 ≤ w) (hw : w < 2^56) :
    ∃ parts : List (List Bytes),
      (List.range n).map (fun k => okOf (partBlobsUri Fmt.recordio rx fs uri rc k n w dw (fun _ => true)))
        = parts.map some ∧
      parts.flatten = rss.flatten := by
  obtain ⟨g1, g2⟩ := C04_listed_images rx fs uri rc infos hU h rss himg
  simp only [partBlobsUri_eq Fmt.recordio rx fs uri rc infos h, himg]
  exact C04_parts_cover rss n w dw g1 (fun rs hrs => ⟨g2 rs hrs, hshort rs hrs⟩) ht hn0 hn hw2 hw

/-- `C04_parts_cover_any_mode` from the URI: the same for any mix of `NextRecord` / `NextChunk` per part and
per call — no part fails, and the records extracted from the blobs concatenate to the written records -/
theorem C04_parts_cover_any_mode_uri (rx : Name → Name → Bool) (fs : FileSys) (uri : Bytes) (rc : Bool)
    (infos : List Info) (hU : fs.Pairwise (fun a b => a.1 ≠ b.1)) (h : initInputFileInfo rx fs uri rc = .ok infos)
    (rss : List (List Bytes)) (himg : infos.map (fun i => contentOf fs i.name) = rss.map writeAll)
    (hshort : ∀ rs ∈ rss, ∀ r ∈ rs, r.length < 2^29) (ht : totalSize (rss.map writeAll) < 2^56)
    (n w dw : Nat) (hn0 : 0 < n) (hn : n < 2^32) (hw2 : 2 ≤ w) (hw : w < 2^56) (pick : Nat → Nat → Bool) :
    (∀ k, k < n → ∃ bs, partBlobsUri Fmt.recordio rx fs uri rc k n w dw (pick k) = .ok bs) ∧
    (List.range n).flatMap
        (fun k => recordsOf (pick k) (partBlobsUri Fmt.recordio rx fs uri rc k n w dw (pick k)))
      = rss.flatten := by
  obtain ⟨g1, g2⟩ := C04_listed_images rx fs uri rc infos hU h rss himg
  simp only [partBlobsUri_eq Fmt.recordio rx fs uri rc infos h, himg]
  exact C04_parts_cover_any_mode rss n w dw g1 (fun rs hrs => ⟨g2 rs hrs, hshort rs hrs⟩) ht hn0 hn hw2 hw pick

/-! non-vacuity: the file system { "/q/a" ↦ writeAll ["ab"], "/q/b" ↦ writeAll ["", "c"] } has unique names, and
the URI "/q" (a directory) expands to a list whose contents are the writer images of [["ab"], ["", "c"]]: the
hypotheses `hU`, `h`, `himg`, `hshort`, `ht` hold -/
example : FilesEx.fsRec.Pairwise (fun a b => a.1 ≠ b.1) := by decide +kernel
example : (okOf (initInputFileInfo (fun a b => a == b) FilesEx.fsRec FilesEx.uriRec false)).map
    (fun l => l.map (fun i => contentOf FilesEx.fsRec i.name)) = some ([[[97, 98]], [[], [99]]].map writeAll) := by decide +kernel
example : ∀ rs ∈ ([[[97, 98]], [[], [99]]] : List (List Bytes)), ∀ r ∈ rs, r.length < 2^29 := by decide +kernel
example : totalSize (([[[97, 98]], [[], [99]]] : List (List Bytes)).map writeAll) < 2^56 := by decide +kernel

end DmlcModel.Props.C04
