/- C01 — RecordIO write/read round-trip is the identity on record sequences. -/
import DmlcModel.RecordIO.RoundTrip

namespace DmlcModel.Props.C01
open DmlcModel DmlcModel.RecordIO DmlcModel.Gen.RecordIO

/-- one record followed by arbitrary further stream content `s`: `NextRecord` returns exactly the
record and leaves exactly `s` (so streams can be read back to back). -/
theorem C01_roundtrip_suffix (r s : Bytes) (h : r.length < 2 ^ 29) :
    nextRecord ((writeRecord r).1 ++ s) = Rd.record r s :=
  nextRecord_record r s h

/-- the reader reports a clean end of stream exactly on the empty remainder -/
theorem C01_clean_eos : nextRecord [] = Rd.eos := by decide

theorem C01_record_image_ge8 (r : Bytes) (h : r.length < 2 ^ 29) : 8 ≤ (writeRecord r).1.length :=
  (Split.writeRecord_length r h).1

/-- **C01, main statement.** Any sequence of records (each shorter than 2^29 bytes, any content)
written by `WriteRecord` is returned by `NextRecord` as the identical sequence, followed by a clean
end of stream. -/
theorem C01_roundtrip (rs : List Bytes) (h : ∀ r ∈ rs, r.length < 2 ^ 29) :
    readAll (writeAll rs) = some rs :=
  readAll_writeAll rs h

/-- the number of bytes a record occupies: 8 per part, the payload minus the elided magic words,
padding to a multiple of 4 -/
theorem C01_record_image_length (r : Bytes) (h : r.length < 2 ^ 29) :
    (writeRecord r).1.length = 8 + 4 * alignedMagicCount r + (r.length + 3) / 4 * 4 := by
  rw [Split.writeRecord_eq_img r h, Split.img_length]
  simp only [List.length_nil]; omega

theorem C01_len_mod4 (rs : List Bytes) (h : ∀ r ∈ rs, r.length < 2 ^ 29) :
    (writeAll rs).length % 4 = 0 :=
  Split.writeAll_length_mod4 rs h

/-- `except_counter()` grows by the number of 4-byte-aligned magic words of the record -/
theorem C01_except_counter (r : Bytes) (h : r.length < 2 ^ 29) :
    (writeRecord r).2 = alignedMagicCount r := by
  rw [Split.writeRecord_eq r h]

/-- records of 2^29 bytes or more are rejected by the `CHECK`, all others accepted -/
theorem C01_reject_large (r : Bytes) :
    writeRecordE r = .error .check ↔ 2 ^ 29 ≤ r.length := by
  unfold writeRecordE
  by_cases h : r.length < 2 ^ 29
  · simp [(sizeOk_iff _).mpr h]; omega
  · have : sizeOk r.length = false := by
      cases hs : sizeOk r.length
      · rfl
      · exact absurd ((sizeOk_iff _).mp hs) h
    simp [this]; omega

/-- the emitted bytes depend only on the records: the stream of a concatenated sequence is the
concatenation of the streams (no hidden writer state) -/
theorem C01_bytes_depend_only_on_records (rs₁ rs₂ : List Bytes) :
    writeAll (rs₁ ++ rs₂) = writeAll rs₁ ++ writeAll rs₂ :=
  Split.writeAll_append rs₁ rs₂

end DmlcModel.Props.C01
