/-
C09 — ThreadedIter: producer failures surface, nothing hangs, Destroy always returns.  Any produce or rewind call may
throw (dmlc::Error and std::exception take the same path through `catch (std::exception&)`).  `C09_no_hang` is about the
code with fixes/C09-1.diff; for the pinned code it is false (C09Witness.lean).
-/
import DmlcModel.TIter.Progress
import DmlcModel.TIter.Deadlock
import DmlcModel.TIter.Corollaries

namespace DmlcModel.Props.C09
open DmlcModel.TIter DmlcModel.Gen.TIter

variable {P : Params} {s s' t : State} {e : Event}

/-- fixes/C09-1.diff is present in the source the model was generated from: BeforeFirst looks at the recorded exception
again once it holds `mutex_` -/
theorem C09_fix_present : bfRecheck = true := rfl

/-- fixes/C09-2.diff is present: the producer's catch block does not assert `producer_sig_ != kDestroy`.  Where DCHECK is
live the pinned code throws that assertion out of the thread function (std::terminate) when a failure races with Destroy
(finding C09-F2); without it the catch block performs the transitions `catchRec`, `catchLock`, `notifyExit` in every build. -/
theorem C09_fix2_present : catchDcheck = false := rfl

/-- what the consumers have received is an in-order prefix of what was produced (successfully) in this pass;
the failing call itself contributes nothing -/
theorem C09_prefix (h : Reachable P s) :
    s.produced = s.delivered ++ (qitems s ++ optList s.pitem) ∧
    s.delivered.map (·.idx) = List.range s.delivered.length ∧ s.delivered.length ≤ s.pidx := by
  have hi := (inv_reachable h).c1
  refine ⟨by rw [← hi.order]; simp, hi.delivered_idx, ?_⟩
  have := congrArg List.length hi.idx
  rw [← hi.order] at this
  simp at this; omega

/-- the transition in which the producer fails is the producer's; the failing call is position `pidx` of the current pass
(or the rewind) and adds nothing to `produced` / `delivered` -/
theorem C09_fail_index (hs : step P s e = some s') (h0 : s.thrown = false) (h1 : s'.thrown = true) :
    e = .prod ∧ s'.produced = s.produced ∧ s'.delivered = s.delivered ∧ s'.pidx = s.pidx ∧
      (P.src s.pass s.pidx = .throw ∨ P.rew s.pass = .throw) := by
  cases stepR_trans hs
  -- the three rules that set `thrown`
  case topRewindThrow h | wokenRewindThrow h => all_goals exact ⟨rfl, rfl, rfl, rfl, .inr h⟩
  case callThrow h => exact ⟨rfl, rfl, rfl, rfl, .inl h⟩
  -- every other rule leaves `thrown` as it is
  all_goals exact absurd (h0.symm.trans h1) Bool.false_ne_true

/-- after the failure the producer never runs a callback again: nothing is produced any more, so no item at or
after the failing position can ever be delivered -/
theorem C09_nothing_after (h : Reachable P s) (ht : s.thrown = true) (hs : step P s e = some s') :
    s'.thrown = true ∧ s'.pidx ≤ s.pidx ∧ (s'.produced = s.produced ∨ s'.produced = []) := by
  have ha := (inv_reachable h).a.thrown ht
  cases stepR_trans hs
  -- the producer is in its catch block or gone (`ha`); what still writes the history: the catch block answering a pending
  -- rewind, and `Destroy`'s clean-up
  case catchRewind | dStartJoined | dJoin => all_goals exact ⟨ht, Nat.zero_le _, .inr rfl⟩
  -- the rest leaves the fields alone or is a producer rule that `ha` excludes
  all_goals first | exact ⟨ht, Nat.le_refl _, .inl rfl⟩ | grind

theorem C09_nothing_after_steps (h : Reachable P s) (ht : s.thrown = true) (hst : Steps P s t) :
    t.thrown = true ∧ t.pidx ≤ s.pidx ∧ ∀ it, it ∈ t.delivered → it.idx < s.pidx := by
  have key : t.thrown = true ∧ t.pidx ≤ s.pidx := by
    induction hst with
    | refl => exact ⟨ht, Nat.le_refl _⟩
    | tail e hst' hs ih =>
      have hr := steps_reachable h hst'
      have := C09_nothing_after hr ih.1 hs
      exact ⟨this.1, Nat.le_trans this.2.1 ih.2⟩
  refine ⟨key.1, key.2, ?_⟩
  intro it hit
  have hp := C09_prefix (steps_reachable h hst)
  have hm : it.idx ∈ t.delivered.map (·.idx) := List.mem_map.mpr ⟨it, hit, rfl⟩
  rw [hp.2.1] at hm
  have := List.mem_range.mp hm
  omega

/-- once the producer has failed no `Next` reports a normal end of the stream -/
theorem C09_error_not_end (h : Reachable P s) (ht : s.thrown = true) (hs : step P s e = some s') :
    s'.ret ≠ .nextEnd := by
  intro hr
  -- the call stood at `n6` and saw no exception; at `n6` the failure is recorded or nothing has failed
  obtain ⟨h6, hx⟩ := (stepR_trans hs).ret_spec.nextEnd hr
  rcases (inv_reachable h).c2.n6 h6 with ⟨_, hexc⟩ | ⟨hth, _⟩
  · simp [hx] at hexc
  · simp [ht] at hth

/-- once the exception is recorded every call that returns, returns the error; the only normal returns are those of
`Destroy` and of calls made after it; the flag is never cleared -/
theorem C09_error_sticky (h : Reachable P s) (hx : s.exc = true) (hs : step P s e = some s') :
    s'.exc = true ∧ s'.ret ≠ .nextItem ∧ s'.ret ≠ .nextEnd ∧ (s'.ret = .ok → s'.sig = kDestroy) := by
  have ht := stepR_trans hs
  have hi := (inv_reachable h).a
  refine ⟨?_, fun hr => ?_, fun hr => ?_, fun hr => ?_⟩
  · -- only `catchRec` writes the flag
    cases ht
    case catchRec => rfl
    all_goals exact hx
  · have := ht.ret_spec.nextItem hr; simp [hx] at this
  · have := (ht.ret_spec.nextEnd hr).2; simp [hx] at this
  · -- a normal return now is one after `Destroy` or of `Destroy` itself
    obtain ⟨hsig, h4⟩ := ht.ret_spec.ok hr
    rw [hsig]
    rcases h4 with h4 | h4 | h4 | h4
    · simp [hx] at h4
    · exact (hi.joined h4).2
    · exact h4
    · exact hi.dJoin h4

/-- the failure is recorded before the end flag is raised: a consumer that sees `produce_end_` after a failure
also sees the exception (this is what turns the wake-up into an error instead of `false`) -/
theorem C09_recorded_before_end (h : Reachable P s) (ht : s.thrown = true) :
    s.exc = true ∨ (s.ploc = .catchRec ∧ (s.produceEnd = false ∨ s.sig = kBeforeFirst)) :=
  (inv_reachable h).c2.thr ht

/-- nothing hangs (any scripts, repaired code): whenever a thread is inside a call -- Next, Recycle, BeforeFirst,
Destroy's join -- some transition other than a spurious wake-up or a new call is enabled -/
theorem C09_no_hang (hcap : 1 ≤ P.cap) (h : Reachable P s) (hc : inCall s) :
    ∃ e : Event, e.isProgress = true ∧ (step P s e).isSome = true := by
  have hf := C09_fix_present
  unfold Reachable at h
  unfold step
  rw [hf] at h ⊢
  exact deadlock_free_of_inv hcap (inv_reachable h).a (inv_reachable h).b (invD_reachable h) hc

/-- Destroy may be started whenever no other call is in progress: idle, mid-prefetch, with cells lent or in
`out_data_`, after an error, a second time -/
theorem C09_destroy_enabled (hi : s.xloc = .idle) (hb : busy s = 0) (ho : s.outCall = false) :
    (step P s .dStart).isSome = true := by
  have hb' : busy { s with ret := Ret.none } = 0 := hb
  simp only [step, stepR, hi, ho]
  split
  · split <;> rfl
  · next hne => exact absurd ⟨trivial, trivial, hb'⟩ hne

/-- Destroy's join returns only when the producer thread has exited, and leaves no cell behind -/
theorem C09_destroy_clean (hs : step P s .xStep = some s') (hx : s.xloc = .dJoin) :
    s.ploc = .exited ∧ s'.joined = true ∧ s'.queue = [] ∧ s'.free = [] ∧ s'.outData = none ∧ s'.ret = .ok ∧
      s'.xloc = .idle := by
  cases stepR_trans hs
  case dJoin hp => exact ⟨hp, rfl, rfl, rfl, rfl, rfl, rfl⟩
  all_goals simp_all  -- the other rules of `xStep` start from another location

/-- every cell is freed at most once, and never while a consumer holds it -/
theorem C09_freed_once (h : Reachable P s) {c : Nat} (hc : c ∈ s.freed) :
    s.freed.count c = 1 ∧ c ∉ s.lent ∧ c ∉ s.recycling ∧ c ∉ qcells s ∧ c ∉ s.free := by
  have hcnt := (inv_reachable h).cells c
  have hpos := count_pos_of_mem hc
  simp only [cells, List.count_append] at hcnt
  have hle : (if c < s.allocated then 1 else 0) ≤ 1 := by split <;> omega
  refine ⟨by omega, ?_, ?_, ?_, ?_⟩ <;> (intro hm; have := count_pos_of_mem hm; omega)

/-- the join itself cannot block for ever (`C09_no_hang` at `xloc = dJoin`) -/
theorem C09_destroy_no_hang (hcap : 1 ≤ P.cap) (h : Reachable P s) (hx : s.xloc = .dJoin) :
    ∃ e : Event, e.isProgress = true ∧ (step P s e).isSome = true :=
  C09_no_hang hcap h (Or.inr (by simp [hx]))

def C09_termination_statement (P : Params) : Prop :=
  1 ≤ P.cap → ∀ s, Reachable P s → inCall s →
    ¬ ∃ f : Nat → State, f 0 = s ∧ ∀ n, ∃ e : Event, e.isProgress = true ∧ step P (f n) e = some (f (n + 1))

/-- no infinite execution of the calls in progress, whatever the scripts throw -/
theorem C09_termination (P : Params) : C09_termination_statement P :=
  fun _ _ hr _ => no_infinite_progress hr

/-- nothing hangs, everything returns (any scripts, repaired code): every execution of the calls in progress is finite and
can only stop when every started call -- Next, Recycle, BeforeFirst, Destroy with its join -- has returned; one exists -/
theorem C09_all_calls_return (hcap : 1 ≤ P.cap) (h : Reachable P s) :
    (∀ t, ProgSteps P s t → (∀ e : Event, e.isProgress = true → step P t e = none) → busy t = 0 ∧ t.xloc = .idle) ∧
    (∃ t, ProgSteps P s t ∧ busy t = 0 ∧ t.xloc = .idle) :=
  runs_to h fun _ ht hq => Quiescent.returned hq (C09_no_hang hcap ht)

end DmlcModel.Props.C09
