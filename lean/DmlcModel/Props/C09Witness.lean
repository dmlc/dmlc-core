/-
C09 witnesses.  The PINNED BeforeFirst (no re-check under the lock, `rk = false`) hangs.  Schedule (replayed on the real
code by the harness, where the scheduler reports the deadlock): the consumer starts BeforeFirst and passes the first
ThrowExceptionIfSet; the producer's first produce call throws, it records the exception, takes `mutex_`, sees `kProduce`,
raises `produce_end_`, exits; the consumer takes `mutex_`, posts `kBeforeFirst`, finds `nwait_producer_ = 0`, waits for
`producer_sig_processed_`.  On the repaired code the same schedule ends with BeforeFirst returning the error.
-/
import DmlcModel.TIter.Runs

namespace DmlcModel.Props.C09Witness
open DmlcModel.TIter DmlcModel.Gen.TIter

def Pw : Params := { src := fun _ _ => .throw, rew := fun _ => .ok, cap := 1 }

def sched : List Event := [.bStart, .xStep, .prod, .prod, .prod, .prod, .xStep]

/-- the state the pinned code is left in -/
def stuck : State :=
  { init with sig := kBeforeFirst, produceEnd := true, exc := true, ploc := .exited, xloc := .bWait, thrown := true,
              bfPosted := 1 }

theorem C09_hang_reached : runEvents false Pw init sched = some stuck := by rfl

theorem C09_hang_reachable : ReachableR false Pw stuck :=
  reachable_run sched init stuck ReachableR.init C09_hang_reached

/-- the consumer is inside BeforeFirst and nothing but a spurious wake-up can ever happen again: `C09_no_hang` is false for
the pinned code -/
theorem C09_hang_pinned :
    ReachableR false Pw stuck ∧ inCall stuck ∧
    (∀ e : Event, e.isProgress = true → stepR false Pw stuck e = none) ∧
    (∀ e s', stepR false Pw stuck e = some s' → e = .xSpur ∧ s' = { stuck with xloc := .bWoken }) ∧
    stepR false Pw { stuck with xloc := .bWoken } .xStep = some stuck := by
  refine ⟨C09_hang_reachable, Or.inr (by decide), ?_, ?_, by rfl⟩
  · intro e he
    cases e <;> first | rfl | (simp [Event.isProgress, Event.isSpurious, Event.isStart] at he)
  · intro e s' hs
    cases e
    case xSpur => exact ⟨rfl, by injection hs with hs; exact hs.symm⟩
    -- every other event evaluates to `none` in `stuck`
    all_goals simp [stepR, prodStep, xStep, stuck, init, busy] at hs

theorem C09_fix_resolves :
    ∃ t, runEvents true Pw init sched = some t ∧ t.ret = .err ∧ t.xloc = .idle ∧ t.sig = kProduce := by
  refine ⟨_, rfl, rfl, rfl, rfl⟩

/-- non-vacuity: a reachable state (repaired code) where the producer has failed mid-stream while one consumer
waits in Next and another holds a cell -/
def Pmid : Params := { src := fun _ i => if i < 1 then .item i else .throw, rew := fun _ => .ok, cap := 2 }

example : ∃ t, runEvents true Pmid init
    [.prod, .prod, .prod, .prod, .nStart false, .nLoadSig, .nExc, .nLock, .nStart false, .nLoadSig, .nExc, .nLock,
     .prod, .prod] = some t ∧ t.thrown = true ∧ t.exc = false ∧ t.nW = 1 ∧ t.lent = [0] ∧ t.ploc = .catchRec := by
  refine ⟨_, rfl, rfl, rfl, rfl, rfl, rfl⟩

end DmlcModel.Props.C09Witness
