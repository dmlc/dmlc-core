/-
# C15 for the library's own class with Save/Load: RowBlockContainer (src/data/row_block.h)

`Save` / `Load` are the Ser model's `encode` / `decode` at the class of the nine members, which is also how the harness
presents RowBlockContainer to the C15 driver.  Finding C15-F2: on the pinned tree `max_field` and `max_index` are written /
read as raw memory (`fo->Write(&x, sizeof(IndexType))`, `CHECK(fi->Read(&x, sizeof(IndexType)))`): the CHECK passes on a
short read, so a stream cut inside one of the two scalars is reported as a successful `Load`, and the two scalars bypass
the stream byte order.  The model follows the repaired code (typed `Write<T>` / `Read<T>`); the two Gen flags below are
read from the source on every run.
-/
import DmlcModel.RowBlock.SaveLoad
import DmlcModel.Props.C15

namespace DmlcModel.Props.C15RowBlock
open DmlcModel DmlcModel.RowBlock DmlcModel.Ser

/-- the source carries the repair: both scalars go through the typed stream functions -/
theorem C15_rowblock_fix_present :
    Gen.RowBlock.saveScalarTyped = true ∧ Gen.RowBlock.loadScalarTyped = true := by decide

/-- **round trip and exact consumption**: `Load` returns the container `Save` wrote and leaves exactly the bytes
that follow it, for every index width, every in-range container, every destination object and every tail -/
theorem C15_rowblock_roundtrip (iw : Nat) (hiw : 0 < iw) (c old : Container) (rest : Bytes) (h : InRange iw c) :
    load iw old (save iw c ++ rest) = .ok c rest :=
  load_save iw c old rest h

/-- **a stream that ends early is never reported as success**: for every strict prefix of the image `Load` returns
false (`eof`) or raises "Bad RowBlock format" (`bad`) -/
theorem C15_rowblock_truncation (iw : Nat) (hiw : 0 < iw) (c old : Container) (h : InRange iw c)
    (k : Nat) (hk : k < (save iw c).length) :
    load iw old ((save iw c).take k) = .eof ∨ load iw old ((save iw c).take k) = .bad := by
  cases hl : load iw old ((save iw c).take k) with
  | eof => exact Or.inl rfl
  | bad => exact Or.inr rfl
  | ok c' r => exact absurd hl (load_truncated iw c old h k hk c' r)

/-- what `Load` returns depends only on the bytes it consumed (so images can be streamed back to back) -/
theorem C15_rowblock_prefix_determines (iw : Nat) (old : Container) (bs : Bytes) (c : Container) (rest : Bytes)
    (h : load iw old bs = .ok c rest) :
    ∃ pre, bs = pre ++ rest ∧ ∀ tail old', load iw old' (pre ++ tail) = .ok c tail :=
  load_stable iw old bs c rest h

/-- **the image is the serializer's encoding of the class of the nine members**: the RowBlock model's `save` (what
C13 and the disk cache use) and the Ser model's `encode` (what the C15 theorems are about) agree -/
theorem C15_rowblock_is_serializer_class (iw : Nat) (c : Container) (h : InRange iw c) :
    save iw c = encode ⟨true, true⟩ (rbcTy iw) (rbcVal iw c) :=
  save_eq_encode iw c h

/-- **the image does not depend on the byte order of the host that writes it** (little-endian stream configuration,
`IndexType` of 4 or 8 bytes): also a big-endian host produces exactly `save iw c` -- all nine members, the two
trailing scalars included, go through the byte-order aware handlers -/
theorem C15_rowblock_image_host_independent (hostLE : Bool) (iw : Nat) (hiw : iw = 4 ∨ iw = 8) (c : Container)
    (h : InRange iw c) : encode ⟨hostLE, true⟩ (rbcTy iw) (rbcVal iw c) = save iw c := by
  rw [save_eq_encode iw c h]
  exact Props.C15.C15_layout_host_independent hostLE true true (rbcTy iw) (rbcTy_ok iw hiw).1 (rbcTy_ok iw hiw).2
    (rbcVal iw c) (rbcVal_wf iw c h)

/-- **a block saved on one host type is loaded on the other** -/
theorem C15_rowblock_cross_host (hostLE : Bool) (iw : Nat) (hiw : iw = 4 ∨ iw = 8) (c : Container) (h : InRange iw c) :
    decode ⟨!hostLE, true⟩ (rbcTy iw) (encode ⟨hostLE, true⟩ (rbcTy iw) (rbcVal iw c)) = some (rbcVal iw c, []) :=
  Props.C15.C15_cross_host hostLE true (rbcTy iw) (rbcTy_ok iw hiw).1 (rbcTy_ok iw hiw).2 (rbcVal iw c) (rbcVal_wf iw c h)

/-- a two-row block with labels and values -/
def sample : Container :=
  { offset := [0, 1, 2], label := [1065353216, 0], weight := [], qid := [], field := [], index := [3, 7],
    value := [1, 2], maxField := 0, maxIndex := 7 }

/-- non-vacuity: the sample is in range; its image has 112 bytes, and cutting it inside `max_index` (the cut the
pinned code accepted) is rejected -/
example : InRange 4 sample ∧ (save 4 sample).length = 112 ∧
    load 4 Container.empty ((save 4 sample).take 110) = .bad := by
  refine ⟨⟨⟨elemsLt_of_all _ _ ?_, ?_⟩, ⟨elemsLt_of_all _ _ ?_, ?_⟩, ⟨elemsLt_of_all _ _ ?_, ?_⟩,
    ⟨elemsLt_of_all _ _ ?_, ?_⟩, ⟨elemsLt_of_all _ _ ?_, ?_⟩, ⟨elemsLt_of_all _ _ ?_, ?_⟩,
    ⟨elemsLt_of_all _ _ ?_, ?_⟩, ?_, ?_⟩, ?_, ?_⟩ <;> decide

end DmlcModel.Props.C15RowBlock
