/-
C04 ∘ C02 — RecordIO InputSplit in chunk mode, every chunk consumed through `RecordIOChunkReader`.
A part of an `n`-way split of RecordIO files is consumed with `NextChunk` only; every delivered chunk is handed to
`RecordIOChunkReader(chunk, j, q)` for `j = 0..q-1` (`chunkPart`), `q ≥ 1` sub-parts, `q` may differ from chunk to chunk.  Then no
`CHECK` fires, the sub-parts of a chunk return exactly the records of that chunk (C02 tiling), the chunks of a part exactly the
records that start in its byte range, and all parts together exactly the written records, in order, each exactly once.

Hypotheses: the common C04 block (Props/C04.lean) plus the no-wrap-around guard `C02.Fits` of the `RecordIOChunkReader`
constructor (`nstep * (part_index + 1)` in `size_t`, `part_index + 1` in `unsigned`).  Every chunk is at most `totalSize` bytes
long, so `Fits` follows from `1 ≤ q`, `q + 1 < 2^32`, `(totalSize + 3) * q < 2^64`; with `totalSize < 2^56` any `1 ≤ q ≤ 255`
qualifies.  `C04_chunks_chunk_reader` carries `Fits` per chunk instead (the weakest form).  The property statements are that
theorem and those after it; the `C04_…` lemmas before it are helpers.
-/
import DmlcModel.Props.C04
import DmlcModel.Props.C02
import DmlcModel.Props.C04Witness

namespace DmlcModel.Props.C04
open DmlcModel DmlcModel.Split DmlcModel.RecordIO
open DmlcModel.Props.C02 (Fits partSlice C02_tiling)

/-- the records `RecordIOChunkReader` extracts from one chunk `b` tiled into `q` sub-parts, sub-part after
sub-part (`none`: some sub-part hit a `CHECK`) -/
def chunkReaderRecords (b : Bytes) (q : Nat) : Option (List Bytes) :=
  (List.range q).foldr (fun j acc =>
    match chunkPart b j q, acc with
    | some a, some r => some (a ++ r)
    | _, _ => none) (some [])

def chunkRecsGo (q : Nat → Nat) : Nat → List Bytes → Option (List Bytes)
  | _, [] => some []
  | i, b :: bs =>
    match chunkReaderRecords b (q i), chunkRecsGo q (i + 1) bs with
    | some a, some r => some (a ++ r)
    | _, _ => none

/-- the records extracted from the chunks of a part, every chunk through `RecordIOChunkReader`
(`none`: abnormal outcome of the split, or a `CHECK` of the chunk reader) -/
def chunkRecs (q : Nat → Nat) : Except Split.Err (List Bytes) → Option (List Bytes)
  | .ok bs => chunkRecsGo q 0 bs
  | .error _ => none

theorem C04_chunkReaderRecords_of_parts (b : Bytes) (q : Nat) (f : Nat → List Bytes)
    (h : ∀ j, j < q → chunkPart b j q = some (f j)) :
    chunkReaderRecords b q = some ((List.range q).flatMap f) := by
  have key : ∀ (g : Nat → Option (List Bytes)) (l : List Nat), (∀ j ∈ l, g j = some (f j)) →
      l.foldr (fun j acc =>
        match g j, acc with
        | some a, some r => some (a ++ r)
        | _, _ => none) (some []) = some (l.flatMap f) := by
    intro g l
    induction l with
    | nil => intro _; rfl
    | cons a t ih =>
      intro hl
      rw [List.foldr_cons, ih (fun j hj => hl j (List.mem_cons_of_mem _ hj)), hl a (List.mem_cons_self ..)]
      rfl
  exact key (fun j => chunkPart b j q) (List.range q) (fun j hj => h j (List.mem_range.1 hj))

theorem C04_chunk_reader_one (run : List Bytes) (h : ∀ r ∈ run, r.length < 2^29) (q : Nat)
    (hf : Fits (writeAll run).length q) :
    chunkReaderRecords (writeAll run) q = some run := by
  obtain ⟨h1, h2⟩ := C02_tiling run h q hf
  rw [C04_chunkReaderRecords_of_parts (writeAll run) q (partSlice run q) h1, h2]

theorem C04_writeAll_recsIn_le (R : List Bytes) (off b e : Nat) :
    (writeAll (recsIn R off b e)).length ≤ (writeAll R).length := by
  rw [recsIn_eq_slice]
  have h1 := congrArg List.length (writeAll_take_drop_head R (startIdx R off b))
  have h2 := congrArg List.length
    (writeAll_take_drop_head (R.drop (startIdx R off b)) (startIdx R off e - startIdx R off b))
  rw [List.length_append] at h1 h2
  omega

theorem C04_writeAll_mem_le (runs : List (List Bytes)) (run : List Bytes) (h : run ∈ runs) :
    (writeAll run).length ≤ (writeAll runs.flatten).length := by
  obtain ⟨s, t, rfl⟩ := List.append_of_mem h
  rw [List.flatten_append, List.flatten_cons, writeAll_append, writeAll_append]
  simp only [List.length_append]
  omega

theorem C04_fits_of_le (len T q : Nat) (hl : len ≤ T) (h0 : 0 < q) (h1 : q + 1 < 2^32)
    (h2 : (T + 3) * q < 2^64) : Fits len q := by
  have e1 : (T + 3) * q = T * q + 3 * q := Nat.add_mul T 3 q
  have e2 : T ≤ T * q := Nat.le_mul_of_pos_right T h0
  have e3 : (len + 3) * q ≤ (T + 3) * q := Nat.mul_le_mul_right q (by omega)
  exact ⟨h0, h1, by omega, by omega⟩

theorem C04_fits_small (T q : Nat) (hT : T < 2^56) (h0 : 0 < q) (h1 : q ≤ 255) :
    0 < q ∧ q + 1 < 2^32 ∧ (T + 3) * q < 2^64 := by
  have e3 : (T + 3) * q ≤ (2^56 + 2) * 255 := Nat.mul_le_mul (by omega) h1
  exact ⟨h0, by omega, by omega⟩

theorem C04_chunkRecsGo_runs (q : Nat → Nat) (bs : List Bytes) (i : Nat) (runs : List (List Bytes))
    (hl : runs.length = bs.length) (hS : ∀ r ∈ runs.flatten, r.length < 2^29)
    (h : ∀ (j : Nat) (b : Bytes) (run : List Bytes), bs[j]? = some b → runs[j]? = some run →
      b = writeAll run ∧ Fits b.length (q (i + j))) :
    chunkRecsGo q i bs = some runs.flatten := by
  refine zip_induct (P := fun i b run => b = writeAll run ∧ Fits b.length (q i))
    (Q := fun i bs runs => (∀ r ∈ runs.flatten, r.length < 2^29) → chunkRecsGo q i bs = some runs.flatten)
    (fun _ _ => rfl) ?_ bs runs i hl h hS
  rintro i b bs run runs ⟨rfl, hf⟩ ih hS
  rw [List.flatten_cons] at hS ⊢
  show (match chunkReaderRecords (writeAll run) (q i), chunkRecsGo q (i + 1) bs with
    | some a, some r => some (a ++ r)
    | _, _ => none) = some (run ++ runs.flatten)
  rw [ih fun r hr => hS r (List.mem_append_right _ hr),
    C04_chunk_reader_one run (fun r hr => hS r (List.mem_append_left _ hr)) (q i) hf]

/-- every chunk of part `k` (consumed with `NextChunk` only) is the image of a non-empty run of whole records of the part, at
most `totalSize` bytes long; for EVERY number `q` of sub-parts that passes the constructor guard for this chunk, sub-part `j` of
`RecordIOChunkReader` returns the records `partSlice run q j` starting in its window and the `q` sub-parts together exactly the
run; the runs concatenate to the records that start in the byte range of the part -/
theorem C04_chunks_chunk_reader (rss : List (List Bytes)) (n w dw : Nat) (hne : rss ≠ [])
    (hrss : ∀ rs ∈ rss, rs ≠ [] ∧ ∀ r ∈ rs, r.length < 2^29) (ht : totalSize (rss.map writeAll) < 2^56)
    (hn : n < 2^32) (hw2 : 2 ≤ w) (hw : w < 2^56) (k : Nat) (hk : k < n) :
    ∃ (bs : List Bytes) (runs : List (List Bytes)),
      partBlobs Fmt.recordio (rss.map writeAll) k n w dw (fun _ => false) = .ok bs ∧ runs.length = bs.length ∧
      runs.flatten = recsIn rss.flatten 0 (bndR rss n k) (bndR rss n (k + 1)) ∧
      (∀ (i : Nat) (b : Bytes) (run : List Bytes), bs[i]? = some b → runs[i]? = some run →
        run ≠ [] ∧ b = writeAll run ∧ b.length ≤ totalSize (rss.map writeAll) ∧
        (∀ q, Fits b.length q →
          (∀ j, j < q → chunkPart b j q = some (partSlice run q j)) ∧
          (List.range q).flatMap (partSlice run q) = run ∧
          chunkReaderRecords b q = some run)) := by
  obtain ⟨bs, runs, h1, h2, h3, h4⟩ :=
    C04_chunks_whole_records rss n w dw hne hrss ht hn hw2 hw k hk (fun _ => false)
  refine ⟨bs, runs, h1, h2, h3, ?_⟩
  intro i b run hb hr
  obtain ⟨hne', hbr⟩ := h4 i b run hb hr
  simp only [Bool.false_eq_true, if_false] at hbr
  have hmem : run ∈ runs := List.mem_of_getElem? hr
  have hshort : ∀ r ∈ run, r.length < 2^29 := by
    intro r hr'
    have : r ∈ runs.flatten := List.mem_flatten.2 ⟨run, hmem, hr'⟩
    rw [h3] at this
    exact short_partRecs rss hrss n k r this
  have hlen : b.length ≤ totalSize (rss.map writeAll) := by
    have e1 := C04_writeAll_mem_le runs run hmem
    rw [h3] at e1
    have e2 := C04_writeAll_recsIn_le rss.flatten 0 (bndR rss n k) (bndR rss n (k + 1))
    have e3 := totalSize_recFiles rss
    unfold recFiles at e3
    rw [hbr, e3]
    omega
  refine ⟨hne', hbr, hlen, ?_⟩
  intro q hf
  subst hbr
  obtain ⟨t1, t2⟩ := C02_tiling run hshort q hf
  exact ⟨t1, t2, C04_chunk_reader_one run hshort q hf⟩

/-- MAIN (one part): part `k` consumed with `NextChunk` only, chunk `i` handed to `RecordIOChunkReader` with
`q i ≥ 1` sub-parts: the split ends normally, no `CHECK` of the chunk reader fires, and the records returned
(chunk after chunk, sub-part after sub-part) are exactly the records that start in the byte range of the part -/
theorem C04_part_chunk_reader (rss : List (List Bytes)) (n w dw : Nat) (hne : rss ≠ [])
    (hrss : ∀ rs ∈ rss, rs ≠ [] ∧ ∀ r ∈ rs, r.length < 2^29) (ht : totalSize (rss.map writeAll) < 2^56)
    (hn : n < 2^32) (hw2 : 2 ≤ w) (hw : w < 2^56) (k : Nat) (hk : k < n) (q : Nat → Nat)
    (hq : ∀ i, 0 < q i ∧ q i + 1 < 2^32 ∧ (totalSize (rss.map writeAll) + 3) * q i < 2^64) :
    chunkRecs q (partBlobs Fmt.recordio (rss.map writeAll) k n w dw (fun _ => false))
      = some (recsIn rss.flatten 0 (bndR rss n k) (bndR rss n (k + 1))) := by
  obtain ⟨bs, runs, h1, h2, h3, h4⟩ := C04_chunks_chunk_reader rss n w dw hne hrss ht hn hw2 hw k hk
  rw [h1, ← h3]
  show chunkRecsGo q 0 bs = some runs.flatten
  refine C04_chunkRecsGo_runs q bs 0 runs h2 ?_ ?_
  · rw [h3]
    exact short_partRecs rss hrss n k
  · intro j b run hb hr
    obtain ⟨_, hbr, hlen, _⟩ := h4 j b run hb hr
    rw [Nat.zero_add]
    exact ⟨hbr, C04_fits_of_le _ _ _ hlen (hq j).1 (hq j).2.1 (hq j).2.2⟩

/-- the same for at most 255 sub-parts per chunk: no size hypothesis beyond the common `totalSize < 2^56` -/
theorem C04_part_chunk_reader_small (rss : List (List Bytes)) (n w dw : Nat) (hne : rss ≠ [])
    (hrss : ∀ rs ∈ rss, rs ≠ [] ∧ ∀ r ∈ rs, r.length < 2^29) (ht : totalSize (rss.map writeAll) < 2^56)
    (hn : n < 2^32) (hw2 : 2 ≤ w) (hw : w < 2^56) (k : Nat) (hk : k < n) (q : Nat → Nat)
    (hq : ∀ i, 0 < q i ∧ q i ≤ 255) :
    chunkRecs q (partBlobs Fmt.recordio (rss.map writeAll) k n w dw (fun _ => false))
      = some (recsIn rss.flatten 0 (bndR rss n k) (bndR rss n (k + 1))) :=
  C04_part_chunk_reader rss n w dw hne hrss ht hn hw2 hw k hk q
    (fun i => C04_fits_small _ _ ht (hq i).1 (hq i).2)

/-- MAIN (all parts): every part consumed with `NextChunk` only, chunk `i` of part `k` through
`RecordIOChunkReader` with `q k i ≥ 1` sub-parts: nothing fails, and the records returned, concatenated over
the parts `0..n-1`, are exactly the written records, in order, byte-identical, each exactly once -/
theorem C04_parts_cover_chunk_reader (rss : List (List Bytes)) (n w dw : Nat) (hne : rss ≠ [])
    (hrss : ∀ rs ∈ rss, rs ≠ [] ∧ ∀ r ∈ rs, r.length < 2^29) (ht : totalSize (rss.map writeAll) < 2^56)
    (hn0 : 0 < n) (hn : n < 2^32) (hw2 : 2 ≤ w) (hw : w < 2^56) (q : Nat → Nat → Nat)
    (hq : ∀ k i, 0 < q k i ∧ q k i + 1 < 2^32 ∧ (totalSize (rss.map writeAll) + 3) * q k i < 2^64) :
    ∃ parts : List (List Bytes),
      (List.range n).map
          (fun k => chunkRecs (q k) (partBlobs Fmt.recordio (rss.map writeAll) k n w dw (fun _ => false)))
        = parts.map some ∧
      parts.flatten = rss.flatten := by
  refine ⟨(List.range n).map (fun k => recsIn rss.flatten 0 (bndR rss n k) (bndR rss n (k + 1))), ?_, ?_⟩
  · rw [List.map_map]
    apply List.map_congr_left
    intro k hk
    rw [C04_part_chunk_reader rss n w dw hne hrss ht hn hw2 hw k (List.mem_range.1 hk) (q k) (hq k)]
    rfl
  · rw [← List.flatMap_def]
    exact records_parts_telescope ⟨hrss, Nat.lt_of_lt_of_le ht (by decide), hn0, hn⟩

/-- all parts, at most 255 sub-parts per chunk -/
theorem C04_parts_cover_chunk_reader_small (rss : List (List Bytes)) (n w dw : Nat) (hne : rss ≠ [])
    (hrss : ∀ rs ∈ rss, rs ≠ [] ∧ ∀ r ∈ rs, r.length < 2^29) (ht : totalSize (rss.map writeAll) < 2^56)
    (hn0 : 0 < n) (hn : n < 2^32) (hw2 : 2 ≤ w) (hw : w < 2^56) (q : Nat → Nat → Nat)
    (hq : ∀ k i, 0 < q k i ∧ q k i ≤ 255) :
    ∃ parts : List (List Bytes),
      (List.range n).map
          (fun k => chunkRecs (q k) (partBlobs Fmt.recordio (rss.map writeAll) k n w dw (fun _ => false)))
        = parts.map some ∧
      parts.flatten = rss.flatten :=
  C04_parts_cover_chunk_reader rss n w dw hne hrss ht hn0 hn hw2 hw q
    (fun k i => C04_fits_small _ _ ht (hq k i).1 (hq k i).2)

/-- chunk mode through the chunk reader agrees with every other way of consuming the part (`recordsOf`:
`NextRecord` blobs / `NextChunk` blobs read back with `RecordIOReader`), for any buffer sizes -/
theorem C04_chunk_reader_agrees (rss : List (List Bytes)) (n w dw : Nat) (hne : rss ≠ [])
    (hrss : ∀ rs ∈ rss, rs ≠ [] ∧ ∀ r ∈ rs, r.length < 2^29) (ht : totalSize (rss.map writeAll) < 2^56)
    (hn : n < 2^32) (hw2 : 2 ≤ w) (hw : w < 2^56) (w' dw' : Nat) (hw2' : 2 ≤ w') (hw' : w' < 2^56)
    (k : Nat) (hk : k < n) (q : Nat → Nat)
    (hq : ∀ i, 0 < q i ∧ q i + 1 < 2^32 ∧ (totalSize (rss.map writeAll) + 3) * q i < 2^64)
    (pick : Nat → Bool) :
    chunkRecs q (partBlobs Fmt.recordio (rss.map writeAll) k n w dw (fun _ => false))
      = some (recordsOf pick (partBlobs Fmt.recordio (rss.map writeAll) k n w' dw' pick)) := by
  rw [C04_part_chunk_reader rss n w dw hne hrss ht hn hw2 hw k hk q hq,
    C04_part_records_any_mode rss n w' dw' hne hrss ht hn hw2' hw' k hk pick]

/-! ### non-vacuity, on the witness of C04Witness.lean -/

example : ((List.range 7).map fun k =>
      chunkRecs (fun _ => 2) (partBlobs Fmt.recordio (wrss.map writeAll) k 7 2 4 (fun _ => false)))
    = [some [w9], some [], some [], some [[]], some [[1, 2, 3, 4, 5]], some [], some []] := by decide

/-- 3-word buffer, the number of sub-parts changes from chunk to chunk and from part to part (1, 2, 3) -/
example : ((List.range 7).map fun k =>
      chunkRecs (fun i => (k + i) % 3 + 1) (partBlobs Fmt.recordio (wrss.map writeAll) k 7 3 4 (fun _ => false)))
    = [some [w9], some [], some [], some [[]], some [[1, 2, 3, 4, 5]], some [], some []] := by decide

/-- 1 part, 3-word buffer: the single chunk holds all three records (it spans both files), 3 sub-parts split
them, the last one is empty -/
example : okOf (partBlobs Fmt.recordio (wrss.map writeAll) 0 1 3 4 (fun _ => false)) = some [writeAll wrss.flatten]
    ∧ (List.range 3).map (fun j => chunkPart (writeAll wrss.flatten) j 3)
        = [some [w9], some [[], [1, 2, 3, 4, 5]], some []]
    ∧ chunkReaderRecords (writeAll wrss.flatten) 3 = some wrss.flatten := by decide

example : Fits (writeAll wrss.flatten).length 3 := by unfold Fits; decide

example : chunkReaderRecords (writeAll wrss.flatten) 3 = some wrss.flatten :=
  C04_chunk_reader_one wrss.flatten (by decide) 3 (by unfold Fits; decide)

example : chunkRecs (fun i => i % 3 + 1) (partBlobs Fmt.recordio (wrss.map writeAll) 0 7 3 4 (fun _ => false))
    = some (recsIn wrss.flatten 0 (bndR wrss 7 0) (bndR wrss 7 1)) :=
  C04_part_chunk_reader wrss 7 3 4 (by decide) (by decide) (by decide) (by decide) (by decide) (by decide) 0
    (by decide) (fun i => i % 3 + 1)
    (fun i => C04_fits_small _ _ (by decide) (by omega) (by omega))

example : ∃ parts : List (List Bytes),
    (List.range 7).map (fun k => chunkRecs (fun i => (k + i) % 3 + 1)
        (partBlobs Fmt.recordio (wrss.map writeAll) k 7 2 4 (fun _ => false))) = parts.map some ∧
    parts.flatten = wrss.flatten :=
  C04_parts_cover_chunk_reader_small wrss 7 2 4 (by decide) (by decide) (by decide) (by decide) (by decide)
    (by decide) (by decide) (fun k i => (k + i) % 3 + 1) (fun k i => ⟨by omega, by omega⟩)

end DmlcModel.Props.C04
