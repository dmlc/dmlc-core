/-
C08 witnesses (non-vacuity of the hypotheses of the C08 theorems).
-/
import DmlcModel.TIter.Runs

namespace DmlcModel.Props.C08Witness
open DmlcModel.TIter

def P3 : Params := { src := fun p i => if i < 3 then .item (100 * p + i) else .fin, rew := fun _ => .ok, cap := 2 }

/-- produce 0 and 1, deliver 0 (cell lent), rewind while item 1 is queued and the producer is inside its callback
for item 2: at the return the pass is 1, nothing of it has been delivered, the stale items are gone -/
def schedMid : List Event :=
  [.prod, .prod, .prod, .prod, .prod, .prod, .prod, .prod,      -- items 0 and 1 published
   .nStart false, .nLoadSig, .nExc, .nLock, .nRetItem,          -- consumer gets item 0 and keeps the cell
   .prod,                                                       -- producer takes a cell for item 2: in `call`
   .bStart, .xStep, .xStep,                                     -- BeforeFirst posts the command and waits
   .prod, .prod, .prod,                                         -- callback, store, publish (item 2 of the OLD pass)
   .prod,                                                       -- top: sees kBeforeFirst, rewinds, flushes
   .prod,                                                       -- notify_all
   .xStep, .xStep]                                              -- consumer re-acquires, last exception check

theorem C08_witness_mid_stream :
    ∃ t, runEvents true P3 init schedMid = some t ∧ t.ret = .ok ∧ t.xloc = .idle ∧ t.pass = 1 ∧ t.bfPass = 0 ∧
      t.delivered = [] ∧ t.queue = [] ∧ t.produced = [] ∧ t.lent = [0] ∧ t.free.length = 2 ∧ t.rewCalls = 1 ∧
      t.bfPosted = 1 := by
  refine ⟨_, rfl, rfl, rfl, rfl, rfl, rfl, rfl, rfl, rfl, rfl, rfl, rfl⟩

/-- ... and the next delivery is position 0 of pass 1 -/
theorem C08_witness_fresh_item :
    ∃ t, runEvents true P3 init (schedMid ++ [.prod, .prod, .prod, .prod, .nStart false, .nLoadSig, .nExc, .nLock, .nRetItem])
      = some t ∧ t.ret = .nextItem ∧ t.delivered = [⟨1, 0, 100⟩] := by
  refine ⟨_, rfl, rfl, rfl⟩

/-- BeforeFirst as the very first operation, twice in a row -/
theorem C08_witness_twice :
    ∃ t, runEvents true P3 init
      [.bStart, .xStep, .xStep, .prod, .prod, .xStep, .xStep, .bStart, .xStep, .xStep, .prod, .prod, .xStep, .xStep] = some t ∧
      t.ret = .ok ∧ t.pass = 2 ∧ t.rewCalls = 2 ∧ t.bfPosted = 2 := by
  refine ⟨_, rfl, rfl, rfl, rfl, rfl⟩

end DmlcModel.Props.C08Witness
