/-
C07 — ThreadedIter: ordered exactly-once delivery, exclusive cells, bounded buffer, no deadlock.  `Reachable P s`: any
schedule, any number of consumer threads in Next/Recycle, any client behaviour the documented contract allows, spurious
wake-ups, an arbitrary source script `P.src`, rewind script `P.rew` and capacity `P.cap`.
-/
import DmlcModel.TIter.Progress
import DmlcModel.TIter.Deadlock
import DmlcModel.TIter.Corollaries

namespace DmlcModel.Props.C07
open DmlcModel.TIter DmlcModel.Gen.TIter

variable {P : Params} {s s' : State} {e : Event}

/-- delivered, queued and about-to-be-published items are the items produced in this pass, in production order: nothing
lost, duplicated or reordered -/
theorem C07_order (h : Reachable P s) : s.delivered ++ qitems s ++ optList s.pitem = s.produced :=
  (inv_reachable h).c1.order

/-- the i-th produced item is what the source script yields at position i of the current pass -/
theorem C07_produced (h : Reachable P s) :
    s.produced = prodList P.src s.pass s.pidx ∧ ∀ i, i < s.pidx → ∃ v, P.src s.pass i = .item v := by
  have hi := (inv_reachable h).c1
  refine ⟨eq_prodList P.src s.pass s.pidx s.produced hi.idx hi.src, ?_⟩
  intro i hlt
  have hmem : i ∈ s.produced.map (·.idx) := by rw [hi.idx]; simpa using hlt
  obtain ⟨it, hit, rfl⟩ := List.mem_map.mp hmem
  exact ⟨it.val, (hi.src it hit).2⟩

/-- exactly once, in order: the k-th delivered item is production position k of the current pass -/
theorem C07_exactly_once (h : Reachable P s) :
    s.delivered.map (·.idx) = List.range s.delivered.length ∧
    ∀ it, it ∈ s.delivered → it.pass = s.pass ∧ P.src s.pass it.idx = .item it.val := by
  have hi := (inv_reachable h).c1
  exact ⟨hi.delivered_idx, fun it hit => hi.src it (by rw [← hi.order]; simp [hit])⟩

/-- `Next` returns false (after waiting) only when the producer has reported the end of the pass and every
produced item has been delivered -- unless the producer failed, which is C09's subject -/
theorem C07_end_sound (h : Reachable P s) (hs : step P s e = some s') (hr : s'.ret = .nextEnd)
    (ht : s.thrown = false) :
    s.srcEnded = true ∧ s.delivered = s.produced ∧ s.queue = [] ∧ s.pitem = none := by
  have hi := inv_reachable h
  rcases hi.c2.n6 ((stepR_trans hs).ret_spec.nextEnd hr).1 with ⟨h1, _⟩ | ⟨_, h2, h3, h4⟩
  · simp [ht] at h1
  · refine ⟨h2, ?_, h3, h4⟩
    have ho := hi.c1.order
    simpa [qitems, h3, h4, optList] using ho

/-- the only other way `Next` returns false is after `Destroy` -/
theorem C07_false_after_destroy (hs : step P s e = some s') (hr : s'.ret = .nextDestroyed) : s.sig = kDestroy :=
  (stepR_trans hs).ret_spec.nextDestroyed hr

/-- every cell ever allocated is in exactly one place: queue, free list, the producer's hands, a consumer's hands (lent /
being recycled / `out_data_`), lost with a failed callback, or freed by Destroy -/
theorem C07_cells (h : Reachable P s) : ∀ c, (cells s).count c = if c < s.allocated then 1 else 0 :=
  (inv_reachable h).cells

/-- the produce callback is never handed a cell that a consumer still holds (nor a queued / free one) -/
theorem C07_producer_cell_exclusive (h : Reachable P s) {c : Nat} (hc : s.pcell = some c) :
    c ∉ s.lent ∧ c ∉ s.recycling ∧ (∀ x, s.outData = some x → x.1 ≠ c) ∧ c ∉ qcells s ∧ c ∉ s.free := by
  have hcnt := C07_cells h c
  simp only [cells, hc, optList, List.count_append, List.count_cons, List.count_nil, beq_self_eq_true, ite_true] at hcnt
  have hle : (if c < s.allocated then 1 else 0) ≤ 1 := by split <;> omega
  refine ⟨?_, ?_, ?_, ?_, ?_⟩
  · intro hm; have := count_pos_of_mem hm; omega
  · intro hm; have := count_pos_of_mem hm; omega
  · intro x hx hxc
    simp [hx, hxc] at hcnt
    omega
  · intro hm; have := count_pos_of_mem hm; omega
  · intro hm; have := count_pos_of_mem hm; omega

/-- two consumers never hold the same cell, and a held cell is neither queued nor free -/
theorem C07_lent_exclusive (h : Reachable P s) {c : Nat} (hc : c ∈ s.lent) :
    s.lent.count c = 1 ∧ c ∉ s.recycling ∧ c ∉ qcells s ∧ c ∉ s.free ∧ s.pcell ≠ some c := by
  have hcnt := C07_cells h c
  have hpos := count_pos_of_mem hc
  simp only [cells, List.count_append] at hcnt
  have hle : (if c < s.allocated then 1 else 0) ≤ 1 := by split <;> omega
  refine ⟨by omega, ?_, ?_, ?_, ?_⟩
  · intro hm; have := count_pos_of_mem hm; omega
  · intro hm; have := count_pos_of_mem hm; omega
  · intro hm; have := count_pos_of_mem hm; omega
  · intro hp
    simp [hp, optList] at hcnt
    omega

/-- bounded buffer: the cells ever allocated never exceed max_capacity plus the largest number of cells that were in
consumers' hands at the same time -/
theorem C07_alloc_bound (h : Reachable P s) : s.allocated ≤ P.cap + s.maxLent ∧ lentish s ≤ s.maxLent :=
  ⟨(inv_reachable h).b.alloc, (inv_reachable h).b.mlent⟩

/-- the model never takes a branch on which the C++ would have undefined behaviour
(`front()` of an empty queue, pushing a null cell) -/
theorem C07_no_ub (h : Reachable P s) : s.ub = false := (inv_reachable h).a.ub

/-- `Next`'s CHECK "BeforeFirst not concurrent with Next" and `BeforeFirst`'s CHECKs never fire -/
theorem C07_checks_pass (h : Reachable P s) (hs : step P s e = some s') : s'.ret ≠ .errCheck := by
  have hi := (inv_reachable h).a
  intro hr
  rcases (stepR_trans hs).ret_spec.errCheck hr with ⟨h2, hsig⟩ | ⟨hx, hsig, hp⟩
  · -- `Next` at its lock under a command other than `kProduce`: none stands there then
    rcases hi.sig3 with h | h | h
    · exact hsig h
    · have := (hi.sigBFn h).1; omega
    · have := (hi.sigD h).2.1; omega
  · -- `processed` still set: that needs `kDestroy` or an earlier `BeforeFirst` still waiting
    rcases hi.proc hp with h | h | h
    · exact hsig h
    · simp [hx] at h
    · simp [hx] at h

/-- no deadlock, no lost wake-up (failure-free scripts; the repair of `BeforeFirst` is not needed then): whenever a thread
is inside a call, some transition other than a spurious wake-up or the start of a further call is enabled -/
theorem C07_deadlock_free (hn : NoFail P) (hcap : 1 ≤ P.cap) (h : Reachable P s) (hc : inCall s) :
    ∃ e : Event, e.isProgress = true ∧ (step P s e).isSome = true :=
  deadlock_free_of_inv hcap (inv_reachable h).a (inv_reachable h).b (invD_reachable_noFail hn h) hc

/-- once no further calls are started there is no infinite sequence of progress events -/
def C07_progress_statement (P : Params) : Prop :=
  NoFail P → 1 ≤ P.cap → ∀ s, Reachable P s → inCall s →
    ¬ ∃ f : Nat → State, f 0 = s ∧ ∀ n, ∃ e : Event, e.isProgress = true ∧ step P (f n) e = some (f (n + 1))

/-- the progress relation is well-founded, any scripts: a lexicographic measure of five natural numbers (pending rewind,
produce callbacks the producer can still run, notify_ones still to come, the producer's location, the consumers'
locations) decreases with every progress event -/
theorem C07_progress_wf (P : Params) : WellFounded (ProgStep P) := progStep_wf P

theorem C07_progress (P : Params) : C07_progress_statement P :=
  fun _ _ _ hr _ => no_infinite_progress hr

/-- a state in which no progress event is enabled has no call in progress: every started call has returned -/
theorem C07_quiescent_returned (hn : NoFail P) (hcap : 1 ≤ P.cap) (h : Reachable P s)
    (hq : ∀ e : Event, e.isProgress = true → step P s e = none) : busy s = 0 ∧ s.xloc = .idle :=
  Quiescent.returned hq (C07_deadlock_free hn hcap h)

/-- every call returns: every execution of the calls in progress (any schedule) is finite, and when it cannot be extended
every started call -- Next, Recycle, Next()/Value(), BeforeFirst, Destroy -- has returned; such an execution exists -/
theorem C07_every_call_returns (hn : NoFail P) (hcap : 1 ≤ P.cap) (h : Reachable P s) :
    (∀ t, ProgSteps P s t → (∀ e : Event, e.isProgress = true → step P t e = none) → busy t = 0 ∧ t.xloc = .idle) ∧
    (∃ t, ProgSteps P s t ∧ busy t = 0 ∧ t.xloc = .idle) :=
  runs_to h fun _ ht hq => C07_quiescent_returned hn hcap ht hq

/-- scripts that never fail never set the failure flags -/
theorem C07_no_failure (hn : NoFail P) (h : Reachable P s) : s.thrown = false ∧ s.exc = false := noThrow hn h

/-- the ghost flag `srcEnded` means that the source reported the end at position `pidx` -/
theorem C07_src_end (h : Reachable P s) (he : s.srcEnded = true) : P.src s.pass s.pidx = .fin :=
  ((inv_reachable h).c2.srcEnd he).1

end DmlcModel.Props.C07
