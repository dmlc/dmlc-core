/-
C20 — tracker link maps: spanning tree + single ring, for every worker count `n ≥ 1` and every child-order oracle `ord`
(the iteration order CPython uses for `set(tree_map[r]) - {parent_map[r]}` is not modelled; whatever it is, it is some `ord`).
-/
import DmlcModel.Tracker.Final

namespace DmlcModel.Props.C20
open DmlcModel DmlcModel.Tracker DmlcModel.Gen.Tracker

/-- the list built by `find_share_ring(tree_map, parent_map, 0)` visits every rank exactly once,
starting at rank 0 -/
theorem C20_ring_is_perm (n : Nat) (hn : 1 ≤ n) (ord : Nat → List Nat) :
    ∃ L, ringList n ord = .ok L ∧ L.Perm (List.range n) ∧ L.head? = some 0 := by
  obtain ⟨L, hL, hp, t, ht⟩ := ringList_ok n hn ord
  exact ⟨L, hL, hp, by rw [ht]; rfl⟩

/-- neither `assert` in `get_ring` fires (nor any KeyError / IndexError / recursion overflow):
`get_ring` and `get_link_map` return normally -/
theorem C20_asserts_hold (n : Nat) (hn : 1 ≤ n) (ord : Nat → List Nat) :
    (∃ rm, getRing (getTree n).1 (getTree n).2 ord = .ok rm) ∧ (∃ lm, getLinkMap n ord = .ok lm) := by
  obtain ⟨L, hL, h, hlm⟩ := getLinkMap_eq n hn ord
  exact ⟨⟨_, getRing_eq n hn ord hL h⟩, ⟨_, hlm⟩⟩

/-- the relabelling `rmap` built by the walk `k = ring_map[k][1]` is a bijection of `0..n-1`
(keys: every rank once; values: every label once) with `rmap[0] = 0` -/
theorem C20_relabel_bij (n : Nat) (hn : 1 ≤ n) (ord : Nat → List Nat) :
    ∃ rm rmap, getRing (getTree n).1 (getTree n).2 ord = .ok rm ∧
      relabelWalk rm (List.range (relabelCount n)) relabelStart [(0, 0)] = .ok rmap ∧
      rmap.lookup 0 = some 0 ∧ (rmap.map Prod.fst).Perm (List.range n) ∧ rmap.map Prod.snd = List.range n := by
  obtain ⟨L, hL, h, _⟩ := getLinkMap_eq n hn ord
  refine ⟨_, _, getRing_eq n hn ord hL h, relabelWalk_full n hn L h, ?_, ?_, ?_⟩
  · have := dget_rmapSpec n L h (show 0 < n by omega)
    unfold dget at this
    rw [h.idxOf_zero] at this
    split at this
    · rename_i v hv; cases this; exact hv
    · cases this
  · rw [rmapSpec_keys n L h]; exact h.perm
  · simp [rmapSpec, tab, List.map_map, Function.comp_def]

/-- the returned ring: keys are exactly `0..n-1` and rank `r` is linked to `(r-1) mod n` and
`(r+1) mod n` – one cycle through all ranks, in rank order -/
theorem C20_ring (n : Nat) (hn : 1 ≤ n) (ord : Nat → List Nat) (lm : LinkMap)
    (hlm : getLinkMap n ord = .ok lm) :
    lm.ring.map Prod.fst = List.range n ∧
      ∀ r, r < n → lm.ring.lookup r = some ((r + n - 1) % n, (r + 1) % n) := by
  obtain ⟨L, _, h, e⟩ := getLinkMap_eq n hn ord
  rw [e] at hlm; cases hlm
  exact ⟨by rw [ringOutSpec, tab_keys, List.map_id], fun r hr => lookup_tab (range_id_nodup n) _ hr⟩

/-- the returned tree has an entry for exactly the ranks `0..n-1` -/
theorem C20_tree_keys (n : Nat) (hn : 1 ≤ n) (ord : Nat → List Nat) (lm : LinkMap)
    (hlm : getLinkMap n ord = .ok lm) :
    (lm.tree.map Prod.fst).Perm (List.range n) ∧ (lm.parent.map Prod.fst).Perm (List.range n) ∧
      ∀ a, a < n → ∃ la, lm.tree.lookup a = some la := by
  obtain ⟨L, _, h, e⟩ := getLinkMap_eq n hn ord
  rw [e] at hlm; cases hlm
  refine ⟨?_, ?_, ?_⟩
  · rw [treeOutSpec, tab_keys]; exact h.map_idxOf_perm
  · rw [parentOutSpec, tab_keys]; exact h.map_idxOf_perm
  · intro a ha
    have := treeOut_lookup h (h.nth_lt ha)
    rw [h.idxOf_nth ha] at this
    exact ⟨_, this⟩

/-- the returned tree neighbourhoods are symmetric, free of self-links and duplicates, and name only
valid ranks -/
theorem C20_tree_sym (n : Nat) (hn : 1 ≤ n) (ord : Nat → List Nat) (lm : LinkMap)
    (hlm : getLinkMap n ord = .ok lm) :
    (∀ a b la lb, lm.tree.lookup a = some la → lm.tree.lookup b = some lb → (b ∈ la ↔ a ∈ lb)) ∧
      ∀ a la, lm.tree.lookup a = some la → a < n ∧ a ∉ la ∧ la.Nodup ∧ ∀ x ∈ la, x < n := by
  obtain ⟨L, _, h, e⟩ := getLinkMap_eq n hn ord
  rw [e] at hlm; cases hlm
  constructor
  · intro a b la lb ha hb
    obtain ⟨r, hr, rfl, rfl⟩ := lookup_tab_inv ha
    obtain ⟨s, hs, rfl, rfl⟩ := lookup_tab_inv hb
    rw [mem_map_idxOf h hr hs, mem_map_idxOf h hs hr]
    exact getNeighbor_symm hr hs
  · intro a la ha
    obtain ⟨r, hr, rfl, rfl⟩ := lookup_tab_inv ha
    refine ⟨h.idxOf_lt hr, ?_, map_idxOf_nb_nodup h hr, ?_⟩
    · rw [mem_map_idxOf h hr hr]; exact getNeighbor_irrefl r n
    · intro x hx
      obtain ⟨y, hy, rfl⟩ := List.mem_map.1 hx
      exact h.idxOf_lt (getNeighbor_lt hr hy)

/-- rank 0 is the root (`parent_map[0] = -1`); every other rank's parent is a valid rank, is among its
tree neighbours, and following `parent_map` from any rank reaches rank 0 (so the tree is connected;
with `C20_edge_count` – n-1 edges – it is acyclic) -/
theorem C20_tree_parent (n : Nat) (hn : 1 ≤ n) (ord : Nat → List Nat) (lm : LinkMap)
    (hlm : getLinkMap n ord = .ok lm) :
    lm.parent.lookup 0 = some (-1) ∧
      (∀ a, 0 < a → a < n → ∃ p : Nat, lm.parent.lookup a = some (p : Int) ∧ p < n ∧
        ∃ la, lm.tree.lookup a = some la ∧ p ∈ la) ∧
      ∀ a, a < n → ∃ k, parentSteps lm.parent k a = some 0 := by
  obtain ⟨L, _, h, e⟩ := getLinkMap_eq n hn ord
  rw [e] at hlm; cases hlm
  refine ⟨?_, ?_, ?_⟩
  · have := parentOut_lookup h (show 0 < n by omega)
    rw [h.idxOf_zero] at this
    simpa using this
  · intro a ha0 ha
    have hr : nth L a < n := h.nth_lt ha
    have hne : nth L a ≠ 0 := by
      intro e0
      have := h.idxOf_nth ha
      rw [e0, h.idxOf_zero] at this
      omega
    have hp := parentOut_lookup h hr
    have ht := treeOut_lookup h hr
    rw [h.idxOf_nth ha] at hp ht
    simp only [hne, if_false] at hp
    refine ⟨_, hp, h.idxOf_lt (by omega), _, ht, ?_⟩
    exact List.mem_map.2 ⟨_, parent_mem_getNeighbor (by omega), rfl⟩
  · intro a ha
    have := parentSteps_root h (nth L a) (h.nth_lt ha)
    rwa [h.idxOf_nth ha] at this

/-- the degrees of the returned tree add up to `2 (n - 1)`: exactly `n - 1` undirected edges -/
theorem C20_edge_count (n : Nat) (hn : 1 ≤ n) (ord : Nat → List Nat) (lm : LinkMap)
    (hlm : getLinkMap n ord = .ok lm) :
    (lm.tree.map fun e => e.2.length).sum = 2 * (n - 1) := by
  obtain ⟨L, _, h, e⟩ := getLinkMap_eq n hn ord
  rw [e] at hlm; cases hlm
  exact degree_sum_out hn

end DmlcModel.Props.C20
