/-
C05 for `InputSplitShuffle` (include/dmlc/input_split_shuffle.h, one of the files C05 is anchored in): the wrapper that
reads part `k` of `n` as the `m` sub-parts `k*m + j` of `n*m` in a shuffled order.  Model: DmlcModel/Split/Shuffle.lean
(the inner split is represented by its C05 / C10 contract `sub`).  The property statements are the theorems named `C05_…`; the
rest (the invariant `Good` / `AtFirst` with its preservation, the list facts behind the covers) is what they rest on.
-/
import DmlcModel.Split.ShuffleLemmas
import DmlcModel.Gen.Split
import DmlcModel.ExceptLemmas

namespace DmlcModel.Props.C05
open DmlcModel DmlcModel.Split DmlcModel.Split.Shuffle

variable {α : Type}

/-- the state invariant of the wrapper: `shuffle_indexes_` has `m ≥ 1` entries, the cursor is inside it, and the inner
split reads the sub-part the cursor names -/
def Good (s : Sh α) : Prop :=
  s.perm.length = s.m ∧ s.cur < s.m ∧ idxAt s.perm s.cur s.partIndex s.m = .ok s.srcIdx

/-- a state that has just been pointed at the first sub-part of `perm` for part `k`: what the two calls of the
block `idx = shuffle_indexes_[0] + k * m; ResetPartition(idx, ..)` common to the constructor, `BeforeFirst` and
`ResetPartition` returned -/
structure AtFirst (sub : Nat → Res (List α)) (s : Sh α) (perm : List Nat) (k : Nat) : Prop where
  perm_eq : s.perm = perm
  len : perm.length = s.m
  cur0 : s.cur = 0
  part : s.partIndex = k
  idx : idxAt perm 0 k s.m = .ok s.srcIdx
  rest : sub s.srcIdx = .ok s.rest

theorem AtFirst.good {sub : Nat → Res (List α)} {s : Sh α} {perm : List Nat} {k : Nat} (h : AtFirst sub s perm k) :
    Good s := by
  obtain ⟨h0, _⟩ := idxAt_inv h.idx
  exact ⟨by rw [h.perm_eq]; exact h.len, by rw [h.cur0, ← h.len]; exact h0, by rw [h.cur0, h.part, h.perm_eq]; exact h.idx⟩

theorem AtFirst.drain {sub : Nat → Res (List α)} {s : Sh α} {perm : List Nat} {k : Nat} (h : AtFirst sub s perm k) :
    drain sub s = passOf sub perm k s.m := by
  obtain ⟨h0, hi⟩ := idxAt_inv h.idx
  obtain ⟨p, ps, rfl⟩ := List.exists_cons_of_length_pos h0
  have := drain_first sub s p ps k h.perm_eq (by rw [h.perm_eq]; exact h.len) h.cur0 h.part
    (by rw [← (show s.srcIdx = p + k * s.m from hi)]; exact h.rest)
  rw [this, h.perm_eq]

theorem create_atFirst (sub : Nat → Res (List α)) (k n m : Nat) (perm : List Nat) (hl : perm.length = m) (s : Sh α)
    (h : create sub k n m perm = .ok s) : AtFirst sub s perm k ∧ s.m = m ∧ s.numParts = n := by
  unfold create at h
  split at h
  · cases h
  · obtain ⟨idx, hi, h⟩ := bind_ok_iff.mp h
    obtain ⟨rest, hs, h⟩ := bind_ok_iff.mp h
    cases h
    exact ⟨⟨rfl, hl, rfl, rfl, hi, hs⟩, rfl, rfl⟩

theorem reset_atFirst (sub : Nat → Res (List α)) (s : Sh α) (hg : s.perm.length = s.m) (k nsplit : Nat)
    (s' : Sh α) (h : Shuffle.resetPartition true sub s k nsplit = .ok s') :
    AtFirst sub s' s.perm k ∧ s'.m = s.m ∧ s'.numParts = s.numParts ∧ nsplit = s.numParts := by
  unfold Shuffle.resetPartition at h
  split at h
  · cases h
  · rename_i hn
    obtain ⟨idx, hi, h⟩ := bind_ok_iff.mp h
    obtain ⟨rest, hs, h⟩ := bind_ok_iff.mp h
    cases h
    exact ⟨⟨rfl, hg, rfl, rfl, hi, hs⟩, rfl, rfl, Decidable.of_not_not hn⟩

theorem bf_atFirst (sub : Nat → Res (List α)) (s : Sh α) (hg : Good s) (perm' : List Nat)
    (hl : 1 < s.m → perm'.length = s.m) (s' : Sh α) (h : Shuffle.beforeFirst sub s perm' = .ok s') :
    AtFirst sub s' (if 1 < s.m then perm' else s.perm) s.partIndex ∧ s'.m = s.m ∧ s'.numParts = s.numParts := by
  unfold Shuffle.beforeFirst at h
  split at h
  · rename_i hm
    obtain ⟨idx, hi, h⟩ := bind_ok_iff.mp h
    obtain ⟨rest, hs, h⟩ := bind_ok_iff.mp h
    cases h
    rw [if_pos hm]
    exact ⟨⟨rfl, hl hm, rfl, rfl, hi, hs⟩, rfl, rfl⟩
  · rename_i hm
    obtain ⟨rest, hs, h⟩ := bind_ok_iff.mp h
    cases h
    obtain ⟨hlen, hcur, hidx⟩ := hg
    rw [if_neg hm]
    have hc0 : s.cur = 0 := by omega
    exact ⟨⟨rfl, hlen, hc0, rfl, hc0 ▸ hidx, hs⟩, rfl, rfl⟩

/-- the source carries the repair of C05-F2 (`part_index_ = rank;` in `ResetPartition`) and the three other member
functions have, statement for statement, the shape the model mirrors -/
theorem C05_shuffle_fix_present : Gen.Split.shuffleResetSetsPart = true ∧ Gen.Split.shuffleShapeOk = true := by decide

/-- **a fresh object delivers its whole part**: all `m` sub-parts of part `k`, in the constructor's order -/
theorem C05_shuffle_fresh (sub : Nat → Res (List α)) (k n m : Nat) (perm : List Nat) (hl : perm.length = m) (s : Sh α)
    (h : create sub k n m perm = .ok s) : drain sub s = passOf sub perm k m := by
  obtain ⟨ha, hm, _⟩ := create_atFirst sub k n m perm hl s h
  rw [ha.drain, hm]

/-- **`ResetPartition(k, n)` at any point equals a fresh object for part `k`** (same shuffle order): from any state
of the wrapper – any sub-part half read, any cursor – the stream after the call is exactly the `m` sub-parts of part
`k`; in particular no record of the previously selected part is delivered.  Stated for the source as it is
(`Gen.Split.shuffleResetSetsPart`). -/
theorem C05_shuffle_reset (sub : Nat → Res (List α)) (s : Sh α) (hg : s.perm.length = s.m) (hm : 0 < s.m) (k nsplit : Nat)
    (s' : Sh α) (h : Shuffle.resetPartition Gen.Split.shuffleResetSetsPart sub s k nsplit = .ok s') :
    drain sub s' = passOf sub s.perm k s.m ∧
      ∀ f, create sub k s.numParts s.m s.perm = .ok f → drain sub s' = drain sub f := by
  rw [C05_shuffle_fix_present.1] at h
  obtain ⟨ha, hm', _, _⟩ := reset_atFirst sub s hg k nsplit s' h
  have h1 : drain sub s' = passOf sub s.perm k s.m := by rw [ha.drain, hm']
  exact ⟨h1, fun f hf => by rw [h1, C05_shuffle_fresh sub k s.numParts s.m s.perm hg f hf]⟩

/-- **`BeforeFirst` at any point restarts the current part**: the complete stream of part `partIndex` in the new
order `perm'` (for `m = 1`: the one sub-part again) -/
theorem C05_shuffle_beforeFirst (sub : Nat → Res (List α)) (s : Sh α) (hg : Good s) (perm' : List Nat)
    (hl : 1 < s.m → perm'.length = s.m) (s' : Sh α) (h : Shuffle.beforeFirst sub s perm' = .ok s') :
    drain sub s' = passOf sub (if 1 < s.m then perm' else s.perm) s.partIndex s.m := by
  obtain ⟨ha, hm', _⟩ := bf_atFirst sub s hg perm' hl s' h
  rw [ha.drain, hm']

inductive Op where
  | next
  | beforeFirst (perm' : List Nat)
  | reset (k : Nat)

/-- one public call (a call that raises leaves the object unusable: no successor) -/
def step (sub : Nat → Res (List α)) (s : Sh α) : Op → Option (Sh α)
  | .next => match next sub s with | .ok (_, s') => some s' | .error _ => none
  | .beforeFirst p => match Shuffle.beforeFirst sub s p with | .ok s' => some s' | .error _ => none
  | .reset k => match Shuffle.resetPartition true sub s k s.numParts with | .ok s' => some s' | .error _ => none

theorem next_good (sub : Nat → Res (List α)) (s : Sh α) (hg : Good s) (o : Option α) (s' : Sh α)
    (h : next sub s = .ok (o, s')) : Good s' ∧ s'.m = s.m := by
  fun_induction next sub s with
  | case1 s r0 rs hr =>
    simp only [Except.ok.injEq, Prod.mk.injEq] at h
    obtain ⟨_, rfl⟩ := h
    exact ⟨hg, rfl⟩
  | case2 s hr hm hc =>
    simp only [Except.ok.injEq, Prod.mk.injEq] at h
    obtain ⟨_, rfl⟩ := h
    exact ⟨hg, rfl⟩
  | case3 s hr hm hc hlt e he => cases h
  | case4 s hr hm hc hlt idx hi e he => cases h
  | case5 s hr hm hc hlt idx hi rs hs ih =>
    have hg' : Good { s with cur := s.cur + 1, srcIdx := idx, rest := rs } :=
      ⟨hg.1, by simp only; omega, hi⟩
    exact ih hg' h
  | case6 s hr hm hc hlt => cases h
  | case7 s hr hm =>
    simp only [Except.ok.injEq, Prod.mk.injEq] at h
    obtain ⟨_, rfl⟩ := h
    exact ⟨hg, rfl⟩

theorem step_good (sub : Nat → Res (List α)) (s t : Sh α) (hg : Good s) (op : Op)
    (hop : ∀ p, op = Op.beforeFirst p → 1 < s.m → p.length = s.m) (h : step sub s op = some t) :
    Good t ∧ t.m = s.m := by
  unfold step at h
  split at h <;> split at h <;> cases h
  · exact next_good sub s hg _ _ ‹_›
  · obtain ⟨ha, hm', _⟩ := bf_atFirst sub s hg _ (hop _ rfl) _ ‹_›
    exact ⟨ha.good, hm'⟩
  · obtain ⟨ha, hm', _⟩ := reset_atFirst sub s hg.1 _ _ _ ‹_›
    exact ⟨ha.good, hm'⟩

/-- **invariant over all histories**: from a freshly created object, any sequence of `NextRecord` / `BeforeFirst`
(with any new orders of the right length) / `ResetPartition` calls stays in `Good` states -/
theorem C05_shuffle_reachable_good (sub : Nat → Res (List α)) (ops : List Op) (s : Sh α) (hg : Good s)
    (hops : ∀ op ∈ ops, ∀ p, op = Op.beforeFirst p → 1 < s.m → p.length = s.m) (s' : Sh α)
    (h : ops.foldlM (step sub) s = some s') : Good s' ∧ s'.m = s.m := by
  induction ops generalizing s with
  | nil => simp at h; subst h; exact ⟨hg, rfl⟩
  | cons op ops ih =>
    simp only [List.foldlM_cons, bind, Option.bind] at h
    cases hst : step sub s op with
    | none => rw [hst] at h; cases h
    | some t =>
      rw [hst] at h
      obtain ⟨hgt, hm⟩ := step_good sub s t hg op (hops op (by simp)) hst
      obtain ⟨r1, r2⟩ := ih t hgt (fun op hop p hp h1 => by
        rw [hm] at h1 ⊢; exact hops op (by simp [hop]) p hp h1) h
      exact ⟨r1, by rw [r2, hm]⟩

theorem mapM_perm {β γ : Type} (f : β → Res γ) {l1 l2 : List β} (hp : l1.Perm l2) (r1 : List γ)
    (h : l1.mapM f = .ok r1) : ∃ r2, l2.mapM f = .ok r2 ∧ r1.Perm r2 := by
  induction hp generalizing r1 with
  | nil => exact ⟨r1, h, .refl _⟩
  | cons x _ ih =>
    obtain ⟨y, ys, hx, hm, rfl⟩ := mapM_cons_ok_iff.mp h
    obtain ⟨r2, h2, p2⟩ := ih ys hm
    exact ⟨y :: r2, mapM_cons_ok_iff.mpr ⟨y, r2, hx, h2, rfl⟩, p2.cons y⟩
  | swap x y l =>
    obtain ⟨b, _, hy, h', rfl⟩ := mapM_cons_ok_iff.mp h
    obtain ⟨a, ys, hx, hm, rfl⟩ := mapM_cons_ok_iff.mp h'
    exact ⟨a :: b :: ys, mapM_cons_ok_iff.mpr ⟨a, _, hx, mapM_cons_ok_iff.mpr ⟨b, ys, hy, hm, rfl⟩, rfl⟩, .swap a b ys⟩
  | trans _ _ ih1 ih2 =>
    obtain ⟨r2, h2, p2⟩ := ih1 r1 h
    obtain ⟨r3, h3, p3⟩ := ih2 r2 h2
    exact ⟨r3, h3, p2.trans p3⟩

/-- **a pass delivers every record of the part exactly once, whatever `std::shuffle` produced**: if the order is a
permutation of `0 … m-1`, the records of a pass are a permutation of the sub-parts `k*m … k*m+m-1` laid end to end -/
theorem C05_shuffle_cover (sub : Nat → Res (List α)) (perm : List Nat) (k m : Nat) (hp : perm.Perm (List.range m))
    (r : List α) (h : passOf sub perm k m = .ok r) :
    ∃ rss, (List.range m).mapM (fun j => sub (j + k * m)) = .ok rss ∧ r.Perm rss.flatten := by
  obtain ⟨rs1, hm, rfl⟩ := map_ok_iff.mp h
  obtain ⟨r2, h2, p2⟩ := mapM_perm (fun p => sub (p + k * m)) hp rs1 hm
  exact ⟨r2, h2, p2.flatten⟩

theorem range_mul_flatMap {β : Type} (f : Nat → List β) (n m : Nat) :
    (List.range n).flatMap (fun k => (List.range m).flatMap (fun j => f (j + k * m))) = (List.range (n * m)).flatMap f := by
  induction n with
  | zero => simp
  | succ n ih =>
    rw [List.range_succ, List.flatMap_append, ih, Nat.succ_mul, List.range_add, List.flatMap_append]
    congr 1
    simp only [List.flatMap_cons, List.flatMap_nil, List.append_nil, List.flatMap_map]
    congr 1
    funext j
    rw [Nat.add_comm]

theorem perm_flatMap_congr {β γ : Type} (l : List β) (f g : β → List γ) (h : ∀ a ∈ l, (f a).Perm (g a)) :
    (l.flatMap f).Perm (l.flatMap g) := by
  induction l with
  | nil => exact List.Perm.refl _
  | cons a l ih =>
    simp only [List.flatMap_cons]
    exact List.Perm.append (h a (by simp)) (ih fun b hb => h b (by simp [hb]))

theorem mapM_ok_of_forall {β γ : Type} (g : β → Res γ) (h : β → γ) (l : List β) (hl : ∀ x ∈ l, g x = .ok (h x)) :
    l.mapM g = .ok (l.map h) := by
  induction l with
  | nil => rfl
  | cons x xs ih =>
    simp only [List.mapM_cons, hl x (by simp), ih (fun y hy => hl y (by simp [hy])), bind, Except.bind, pure, Except.pure,
      List.map_cons]

theorem passOf_ok {β : Type} (sub : Nat → Res (List β)) (L : Nat → List β) (perm : List Nat) (k m : Nat)
    (h : ∀ p ∈ perm, sub (p + k * m) = .ok (L (p + k * m))) :
    passOf sub perm k m = .ok (perm.flatMap fun p => L (p + k * m)) := by
  unfold passOf
  rw [mapM_ok_of_forall _ _ perm h, List.flatMap_def]
  rfl

/-- the `n` parts of a split that is read as `n * m` sub-parts, part `k` in the order `π k`: if sub-part `i` delivers
`L i`, every pass succeeds and the passes laid end to end are a permutation of `L 0 ++ … ++ L (n * m - 1)` -/
theorem shuffle_parts_cover {β : Type} (sub : Nat → Res (List β)) (L : Nat → List β) (n m : Nat)
    (hsub : ∀ i, i < n * m → sub i = .ok (L i)) (π : Nat → List Nat)
    (hπ : ∀ k, k < n → (π k).Perm (List.range m)) :
    ∃ r : Nat → List β, (∀ k, k < n → passOf sub (π k) k m = .ok (r k)) ∧
      ((List.range n).flatMap r).Perm ((List.range (n * m)).flatMap L) := by
  refine ⟨fun k => (π k).flatMap fun p => L (p + k * m), fun k hk => passOf_ok sub L _ k m fun p hp => hsub _ ?_, ?_⟩
  · have hp := List.mem_range.1 ((hπ k hk).mem_iff.1 hp)
    calc p + k * m < m + k * m := by omega
      _ = (k + 1) * m := by rw [Nat.succ_mul, Nat.add_comm]
      _ ≤ n * m := Nat.mul_le_mul_right m hk
  · rw [← range_mul_flatMap L n m]
    exact perm_flatMap_congr _ _ _ fun k hk => (hπ k (List.mem_range.1 hk)).flatMap_right _

/-- finding C05-F2 on the model of the pinned source (`fixPart := false`): an object created for part 0 of 2 with
two sub-parts (sub-part `i` holds the single record `i`), reset to part 1, delivers sub-part 2 of the new part and
then sub-part 1 of the OLD part instead of 3 -/
theorem C05_shuffle_reset_pinned_refuted :
    ∃ s s' : Sh Nat, create (fun i => .ok [i]) 0 2 2 [0, 1] = .ok s ∧
      Shuffle.resetPartition false (fun i => .ok [i]) s 1 2 = .ok s' ∧
      drain (fun i => .ok [i]) s' = .ok [2, 1] ∧ passOf (fun i => .ok [i]) [0, 1] 1 2 = .ok [2, 3] := by
  refine ⟨_, _, rfl, rfl, ?_, rfl⟩
  rw [drain_eq _ _ ⟨rfl, by decide⟩]
  rfl

/-- non-vacuity of `C05_shuffle_reset` / `C05_shuffle_beforeFirst`: the same history on the repaired model -/
example :
    ∃ s s' s'' : Sh Nat, create (fun i => .ok [i]) 0 2 2 [0, 1] = .ok s ∧
      Shuffle.resetPartition true (fun i => .ok [i]) s 1 2 = .ok s' ∧ drain (fun i => .ok [i]) s' = .ok [2, 3] ∧
      Shuffle.beforeFirst (fun i => .ok [i]) s' [1, 0] = .ok s'' ∧ drain (fun i => .ok [i]) s'' = .ok [3, 2] := by
  refine ⟨_, _, _, rfl, rfl, ?_, rfl, ?_⟩
  · rw [drain_eq _ _ ⟨rfl, by decide⟩]; rfl
  · rw [drain_eq _ _ ⟨rfl, by decide⟩]; rfl

end DmlcModel.Props.C05
