/-
C17 — Parameter Init/Update follow the declared schema for every argument list: for every `FloatOps` (the float/double
conversion pair is abstract), every schema with pairwise distinct keys (`(allKeys S).Nodup`: `AddEntry`/`AddAlias`
refuse duplicates), every option value and both collecting modes, starting from any struct content.
-/
import DmlcModel.Param.Dict
import DmlcModel.Param.FloatRoundTrip
import DmlcModel.Json.RoundTrip

namespace DmlcModel.Props.C17
open DmlcModel DmlcModel.Param

/-- **Init, success.**  If `RunInit` (= `Init`, `InitAllowUnknown`) does not throw, every declared field
holds the parsed value of the LAST argument whose key is its name or one of its aliases, or — when no
argument mentions it — its declared default; the returned unknown list is, in collecting mode, exactly
the arguments with unregistered keys in their original order (empty otherwise). -/
theorem C17_init_ok (ops : FloatOps) (S : Schema) (hS : (allKeys S).Nodup) (option : Nat) (collect : Bool)
    (st : Struct) (kw : List KV) (h : (runInit ops S option collect st kw).err = none) :
    (∀ i f, S[i]? = some f →
      match lastOccK (fieldKeys f) kw with
      | some t => parse ops f t = .ok ((runInit ops S option collect st kw).st i)
      | none => f.dflt = some ((runInit ops S option collect st kw).st i)) ∧
    (runInit ops S option collect st kw).unk =
      (if collect then kw.filter (fun kv => (find S kv.1).isNone) else []) := by
  have hu := runUpdate_spec hS ops option collect kw st [] []
  rw [runInit_eq hS rfl] at h ⊢
  generalize runUpdate ops S option collect st [] [] kw = r at *
  cases hr : r.err with
  | some e => simp [hr] at h
  | none =>
    rcases hd : applyDefaults r.sel (entryMap S) r.st with ⟨st1, e1⟩
    simp only [hr, hd] at h ⊢
    subst h
    obtain ⟨d1, d2⟩ := applyDefaults_spec (fun e he => ((mem_entryMap hS).mp he).1) hd
    refine ⟨fun i f hi => ?_, by simpa using hu.unknown hr⟩
    have hsel := hu.marked hr hi
    cases hl : lastOccK (fieldKeys f) kw with
    | some t => simp only; rw [d1 i (Or.inl (hsel.mpr (Or.inr (by simp [hl]))))]; exact hu.value hr hi hl
    | none => exact d2 (f.name, i, f) ((mem_entryMap hS).mpr ⟨hi, by simp [fieldKeys]⟩) (by simp [hsel, hl])

/-- **Init, failure.**  `RunInit` throws `e` iff either some argument is the first offending one with error `e`, or
every argument is fine and a field without default is mentioned by no argument (`e` = "Required parameter … missing"). -/
theorem C17_init_error_iff (ops : FloatOps) (S : Schema) (hS : (allKeys S).Nodup) (option : Nat) (collect : Bool)
    (st : Struct) (kw : List KV) (e : ErrKind) :
    (runInit ops S option collect st kw).err = some e ↔
      firstErr ops S option collect kw = some e ∨
      (firstErr ops S option collect kw = none ∧ e = .required ∧
        ∃ (i : Nat) (f : Field), S[i]? = some f ∧ f.dflt = none ∧ lastOccK (fieldKeys f) kw = none) := by
  have hu := runUpdate_spec hS ops option collect kw st [] []
  rw [runInit_eq hS rfl, ← hu.err]
  generalize runUpdate ops S option collect st [] [] kw = r at *
  cases hr : r.err with
  | some e' => simp [hr]
  | none =>
    simp only [reduceCtorEq, false_or, true_and]
    obtain ⟨h1, h2⟩ := applyDefaults_err (sel := r.sel) (L := entryMap S) (st := r.st)
    have hsel : ∀ (i : Nat) (f : Field), S[i]? = some f → (i ∉ r.sel ↔ lastOccK (fieldKeys f) kw = none) :=
      fun i f hi => by simp [hu.marked hr hi]
    constructor
    · intro h
      obtain rfl : e = .required := by rcases h1 with h0 | h0 <;> simp_all
      obtain ⟨en, hen, hns, hdf⟩ := h2.mp h
      have hs := ((mem_entryMap hS).mp hen).1
      exact ⟨rfl, _, _, hs, hdf, (hsel _ _ hs).mp hns⟩
    · rintro ⟨rfl, i, f, hi, hdf, hl⟩
      exact h2.mpr ⟨(f.name, i, f), (mem_entryMap hS).mpr ⟨hi, by simp [fieldKeys]⟩, (hsel i f hi).mpr hl, hdf⟩

theorem C17_first_offending (ops : FloatOps) (S : Schema) (option : Nat) (collect : Bool) (kw : List KV) (e : ErrKind) :
    firstErr ops S option collect kw = some e ↔
      ∃ pre a post, kw = pre ++ a :: post ∧ (∀ b ∈ pre, argErr ops S option collect b = none) ∧
        argErr ops S option collect a = some e := by
  rw [firstErr_eq, List.findSome?_eq_some_iff]
  exact ⟨fun ⟨pre, a, post, h, ha, hp⟩ => ⟨pre, a, post, h, hp, ha⟩, fun ⟨pre, a, post, h, hp, ha⟩ => ⟨pre, a, post, h, ha, hp⟩⟩

/-- an argument is fine iff its key is registered and its value is entirely a valid literal of the field's type within
the declared range, or its key is unregistered and tolerated by the policy (collecting mode, `kAllowUnknown`, or a
hidden key under `kAllowHidden`). -/
theorem C17_arg_ok_iff (ops : FloatOps) (S : Schema) (hE : ∀ f ∈ S, EnumsInRange f) (option : Nat) (collect : Bool)
    (k v : Bytes) :
    argErr ops S option collect (k, v) = none ↔
      match find S k with
      | some (_, f) => ∃ val, literal ops f v = some val ∧ check f val = none
      | none => collect = true ∨ option = Gen.Param.kAllowUnknown ∨ hiddenSkip option k = true := by
  cases hf : find S k with
  | some p =>
    obtain ⟨i, f⟩ := p
    have hE := hE f (List.mem_of_getElem? (find_sound hf).1)
    rw [argErr_of_find hf (zeroVal f.ty)]
    cases hl : literal ops f v with
    | none =>
      have := (set_ok_iff_literal ops f hE (zeroVal f.ty) v).2 hl
      simp only [applyArg]; split <;> simp_all
    | some val => simp [applyArg_of_literal hE _ hl, hl]
  | none => rw [argErr_unknown hf]; split <;> simp [*]

/-- a registered key fails because its value is not a literal of the field's type, or is a literal out of the declared
range (then with the range error); which error a non-literal raises is not said here -/
theorem C17_arg_error_kind (ops : FloatOps) (f : Field) (hE : EnumsInRange f) (old : Val) (v : Bytes) (e : ErrKind)
    (h : (applyArg ops f old v).2 = some e) :
    (literal ops f v = none) ∨ (∃ val, literal ops f v = some val ∧ check f val = some .range ∧ e = .range) := by
  cases hl : literal ops f v with
  | none => exact Or.inl rfl
  | some val =>
    rw [applyArg_of_literal hE old hl] at h
    exact Or.inr ⟨val, rfl, check_err h ▸ h, check_err h⟩

/-- `Check`: a value passes iff it is not below the lower and not above the upper bound, where declared; comparisons
are those of the field's C++ type, and any comparison with NaN is false. -/
theorem C17_check_iff (f : Field) (v : Val) (hc : hasCheck f.ty = true) :
    check f v = none ↔ (∀ lo, f.lo = some lo → vLt f.ty v lo = false) ∧ (∀ hi, f.hi = some hi → vLt f.ty hi v = false) := by
  rw [check_eq, hc]
  cases f.lo <;> cases f.hi <;> simp

/-- **Hidden keys / policies.**  The `continue` branch for hidden keys fires iff the option is
`kAllowHidden`, the key is longer than 4 bytes, starts with `__` (first occurrence at 0) and its last
occurrence of `__` is at `length - 2`; so `____` (length 4) is NOT hidden.  (`std::string` lengths are
below 2^64.) -/
theorem C17_hidden_policy (option : Nat) (k : Bytes) (hlen : k.length < 2 ^ 64) :
    hiddenSkip option k = true ↔
      option = Gen.Param.kAllowHidden ∧ k.length > 4 ∧ findSub [95, 95] k = 0 ∧ rfindSub [95, 95] k = k.length - 2 := by
  unfold hiddenSkip Gen.Param.hiddenSkip Gen.Param.hiddenPattern
  simp only [Bool.and_eq_true, beq_iff_eq, decide_eq_true_eq]
  constructor
  · rintro ⟨⟨⟨h1, h2⟩, h3⟩, h4⟩
    refine ⟨h1, h2, h3, ?_⟩
    rw [h4, sub64_of_le hlen (by omega)]
  · rintro ⟨h1, h2, h3, h4⟩
    refine ⟨⟨⟨h1, h2⟩, h3⟩, ?_⟩
    rw [h4, sub64_of_le hlen (by omega)]

/-- an unregistered key, by policy: collected when collecting; otherwise ignored under `kAllowUnknown`,
ignored under `kAllowHidden` iff hidden, and always an error under `kAllMatch`. -/
theorem C17_unknown_key_policy (ops : FloatOps) (S : Schema) (option : Nat) (collect : Bool) (k v : Bytes)
    (hk : find S k = none) :
    (collect = true → argErr ops S option collect (k, v) = none) ∧
    (collect = false → option = Gen.Param.kAllowUnknown → argErr ops S option collect (k, v) = none) ∧
    (collect = false → option = Gen.Param.kAllMatch → argErr ops S option collect (k, v) = some .unknown) ∧
    (collect = false → option = Gen.Param.kAllowHidden →
      argErr ops S option collect (k, v) = if hiddenSkip option k then none else some .unknown) := by
  rw [argErr_unknown hk]
  refine ⟨fun h => by simp [h], fun h ho => by simp [ho], fun h ho => ?_, fun h ho => ?_⟩
  · subst ho
    have this : hiddenSkip 1 k = false := by
      unfold hiddenSkip Gen.Param.hiddenSkip
      simp [Gen.Param.kAllowHidden]
    simp [h, this, Gen.Param.kAllMatch, Gen.Param.kAllowUnknown]
  · subst ho
    simp only [Gen.Param.kAllowHidden]
    by_cases hh : hiddenSkip 2 k = true <;> simp [h, hh, Gen.Param.kAllowUnknown]

/-- **Update changes only the mentioned fields** — whether or not it throws. -/
theorem C17_update_frame (ops : FloatOps) (S : Schema) (hS : (allKeys S).Nodup) (option : Nat) (collect : Bool)
    (st : Struct) (kw : List KV) (i : Nat) (f : Field) (hi : S[i]? = some f)
    (hno : ∀ kv ∈ kw, kv.1 ∉ fieldKeys f) :
    (runUpdate ops S option collect st [] [] kw).st i = st i := by
  exact (runUpdate_spec hS ops option collect kw st [] []).frame hi (lastOccK_none_iff.mpr hno)

/-- the mentioned fields of a successful Update hold the parse of their last occurrence -/
theorem C17_update_ok (ops : FloatOps) (S : Schema) (hS : (allKeys S).Nodup) (option : Nat) (collect : Bool)
    (st : Struct) (kw : List KV) (h : (runUpdate ops S option collect st [] [] kw).err = none)
    (i : Nat) (f : Field) (hi : S[i]? = some f) (t : Bytes) (ht : lastOccK (fieldKeys f) kw = some t) :
    parse ops f t = .ok ((runUpdate ops S option collect st [] [] kw).st i) := by
  exact (runUpdate_spec hS ops option collect kw st [] []).value h hi ht

/-- **"not entirely a valid literal"**: `Set` succeeds exactly on `literal` and stores its value -/
theorem C17_set_ok_iff_literal (ops : FloatOps) (f : Field) (hf : EnumsInRange f) (old : Val) (text : Bytes) :
    (∀ v, literal ops f text = some v → setVal ops f old text = (v, none)) ∧
    (literal ops f text = none → (setVal ops f old text).2 ≠ none) :=
  set_ok_iff_literal ops f hf old text

/-- **Dictionary form, struct level.**  `R f a b` = "b is an acceptable re-reading of a for field f" (equality for the
exact kinds, the C14 tolerance for float/double).  If the string form of every field parses back to a related value,
then `Init` from `__DICT__()` — under any option, collecting or not, from any start struct — does not throw, reports
no unknown key and yields a related struct. -/
theorem C17_dict_roundtrip (ops : FloatOps) (S : Schema) (hS : (allKeys S).Nodup) (R : Field → Val → Val → Prop)
    (st : Struct) (kvs : List KV) (hd : dict ops S st = .ok kvs)
    (H : ∀ i f, S[i]? = some f → ∀ s, getString ops f (st i) = .ok s → ∃ v', parse ops f s = .ok v' ∧ R f (st i) v')
    (option : Nat) (collect : Bool) (st0 : Struct) :
    (runInit ops S option collect st0 kvs).err = none ∧
    (runInit ops S option collect st0 kvs).unk = [] ∧
    ∀ i f, S[i]? = some f → R f (st i) ((runInit ops S option collect st0 kvs).st i) := by
  obtain ⟨hkeys, h1⟩ := getDictAux_spec hd
  have hfind : ∀ kv ∈ kvs, ∃ i f, find S kv.1 = some (i, f) ∧ getString ops f (st i) = .ok kv.2 := fun kv hkv => by
    obtain ⟨e, he, hk, hs⟩ := h1 kv hkv
    obtain ⟨hs1, hs2⟩ := (mem_entryMap hS).mp he
    exact ⟨e.2.1, e.2.2, hk ▸ find_of_mem hS hs1 hs2, hs⟩
  have hfe : firstErr ops S option collect kvs = none := firstErr_eq_none_iff.mpr fun kv hkv => by
    obtain ⟨i, f, hf, hs⟩ := hfind kv hkv
    obtain ⟨v', hp, _⟩ := H i f (find_sound hf).1 kv.2 hs
    obtain ⟨k, v⟩ := kv
    rw [argErr_of_find hf (zeroVal f.ty), parse_eq_ok_iff.1 hp]
  have hment : ∀ (i : Nat) (f : Field), S[i]? = some f → lastOccK (fieldKeys f) kvs ≠ none := fun i f hi hn => by
    have hm : f.name ∈ kvs.map (·.1) := hkeys ▸ List.mem_map_of_mem (f := (·.1))
      ((mem_entryMap hS (e := (f.name, i, f))).mpr ⟨hi, by simp [fieldKeys]⟩)
    obtain ⟨kv, hkv, hk⟩ := List.mem_map.mp hm
    exact lastOccK_none_iff.mp hn kv hkv (by simp [hk, fieldKeys])
  have herr : (runInit ops S option collect st0 kvs).err = none := by
    cases he : (runInit ops S option collect st0 kvs).err with
    | none => rfl
    | some e =>
      rcases (C17_init_error_iff ops S hS option collect st0 kvs e).mp he with h | ⟨_, _, i, f, hi, _, hl⟩
      · simp [hfe] at h
      · exact absurd hl (hment i f hi)
  obtain ⟨hv, hu⟩ := C17_init_ok ops S hS option collect st0 kvs herr
  refine ⟨herr, ?_, fun i f hi => ?_⟩
  · rw [hu]
    cases collect
    · rfl
    · simp only [if_true, List.filter_eq_nil_iff]
      intro kv hkv
      obtain ⟨i, f, hf, _⟩ := hfind kv hkv
      simp [hf]
  · have := hv i f hi
    cases hl : lastOccK (fieldKeys f) kvs with
    | none => exact absurd hl (hment i f hi)
    | some t =>
      rw [hl] at this
      obtain ⟨k, hk, hm⟩ := lastOccK_some_mem hl
      obtain ⟨i', f', hf', hs⟩ := hfind (k, t) hm
      cases hf'.symm.trans (find_of_mem hS hi hk)
      obtain ⟨v', hp, hR⟩ := H i f hi t hs
      cases hp.symm.trans this
      exact hR

/-- **Dictionary form, field level** (int, unsigned, int64, bool, string, enum, optional<int>, optional enum,
optional<bool>): the printed form of a well-typed in-range value is a literal of the type denoting exactly
that value. -/
theorem C17_field_roundtrip (ops : FloatOps) (f : Field) (hE : EnumsInRange f) (hN : EnumNamesOk f) (v : Val)
    (hnf : f.ty ≠ .float ∧ f.ty ≠ .double) (hwt : WellTyped f v) (hck : check f v = none) (s : Bytes)
    (hs : getString ops f v = .ok s) : parse ops f s = .ok v := by
  rw [parse_eq_ok_iff, applyArg_of_literal hE _ (literal_getString ops hN hnf hwt hs), hck]

/-- the JSON map reader inverts the JSON map writer on every key-sorted `std::map<std::string, std::string>`: `Save` /
`Load` go through the C16 model of json.h (`Json.writeTop` / `Json.readTop` at type `map<str>`). -/
theorem C17_json_map_roundtrip (kvs : List KV) (h : incK (kvs.map (·.1))) :
    ∃ bs, jsonWriteMap kvs = some bs ∧ jsonReadMap bs = some kvs := by
  have ht : Json.hasType jsonMapTy (toJson kvs) = true := by
    simp [jsonMapTy, toJson, Json.hasType, toJson_keysIncreasing kvs h]
  obtain ⟨bs, hw, st, hr, _, _⟩ := Json.readTop_writeTop jsonMapTy (toJson kvs) (by decide) ht [] rfl
  rw [Json.canon_eq_self jsonMapTy (toJson kvs) (by decide) ht, List.append_nil] at hr
  exact ⟨bs, by simp [jsonWriteMap, hw], by simp [jsonReadMap, hr, ofJson_toJson]⟩

/-- **JSON form (full).**  Whenever `__DICT__()` exists (no enum field holds a non-enumerated value), `Save` produces a
text, and `Load` of that text into ANY struct does not throw and yields a struct related to the saved one field by
field (`R` and `H` as in `C17_dict_roundtrip`). -/
theorem C17_json_roundtrip (ops : FloatOps) (S : Schema) (hS : (allKeys S).Nodup)
    (R : Field → Val → Val → Prop) (st : Struct) (kvs : List KV) (hd : dict ops S st = .ok kvs)
    (H : ∀ i f, S[i]? = some f → ∀ s, getString ops f (st i) = .ok s → ∃ v', parse ops f s = .ok v' ∧ R f (st i) v') :
    ∃ js, save ops S st = .ok js ∧
      ∀ st0, (load ops S st0 js).err = none ∧ ∀ i f, S[i]? = some f → R f (st i) ((load ops S st0 js).st i) := by
  obtain ⟨bs, hw, hr⟩ := C17_json_map_roundtrip kvs (dict_incK hd)
  refine ⟨bs, by simp [save, hd, hw], fun st0 => ?_⟩
  obtain ⟨h1, _, h3⟩ := C17_dict_roundtrip ops S hS R st kvs hd H Gen.Param.kAllowHidden false st0
  simp only [load, hr, init]
  exact ⟨h1, h3⟩

/-- **float / double fields, re-reading a printed value** (conversion = the C14 model of `dmlc::stof`/`stod`, `opsC14`).
If the printed text `t` is one decimal lexeme within `ParseFloat`'s documented limits (`PrintedDecimal`), then `Set`
consumes all of `t` and stores a finite value of the printed sign whose magnitude is within C14's bound `tol` =
1e-6 / 1e-14 (relative) of the decimal value printed, for any prior `errno`; `Check` then decides (`hck`).
What stays a hypothesis is the printing side: that `os << setprecision(9|17) << v` emits such a lexeme whose value
is the P-digit rounding of `v` ("inf"/"nan" and zero are covered by correspondence only).  C14 proves no exactness
for fractional literals, so no exact round trip is claimed for float fields. -/
theorem C17_float_field_roundtrip (stale : Bool) (p32 p64 : Nat → Bytes) (fld : Field) (f : StrToNum.Fmt)
    (hty : (f = .F32 ∧ fld.ty = .float) ∨ (f = .F64 ∧ fld.ty = .double))
    (t : Bytes) (l : StrToNum.Lexeme) (hp : PrintedDecimal f t l)
    (hck : ∀ q, StrToNum.Approx (StrToNum.tol f) q (DmlcModel.Props.C14.absQ (StrToNum.decimalValue l)) →
      check fld (.flt ((⟨l.neg, .fin q⟩ : StrToNum.FVal).bits f)) = none) :
    ∃ q, parse (opsC14 stale p32 p64) fld t = .ok (.flt ((⟨l.neg, .fin q⟩ : StrToNum.FVal).bits f)) ∧
      StrToNum.Approx (StrToNum.tol f) q (DmlcModel.Props.C14.absQ (StrToNum.decimalValue l)) := by
  obtain ⟨q, hc, ha⟩ := c14Conv_printed f stale t l hp
  refine ⟨q, ?_, ha⟩
  rw [parse_eq_ok_iff]
  unfold applyArg setVal
  -- `hc`: the conversion consumed all of `t`, so `setFloat` takes neither the `CHECK_LE` nor the trailing-characters branch
  rcases hty with ⟨rfl, hty⟩ | ⟨rfl, hty⟩ <;> simp [hty, opsC14, setFloat, hc, hck q ha]

end DmlcModel.Props.C17
