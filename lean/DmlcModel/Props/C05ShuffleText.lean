/-
C05 / C03, end to end for InputSplitShuffle over text files: the wrapper model (Split/Shuffle.lean) with its inner split
instantiated by the Split model itself.
-/
import DmlcModel.Props.C03
import DmlcModel.Props.C05Shuffle
namespace DmlcModel.Props.C05
open DmlcModel DmlcModel.Split DmlcModel.Split.Shuffle

/-- the contract `sub` of the InputSplitShuffle model, instantiated with the Split model: what a freshly created text split
delivers for part `i` of `N` (NextRecord, canonical lines) -/
def textSub (files : List Bytes) (N w dw : Nat) (i : Nat) : Shuffle.Res (List Bytes) :=
  match partBlobs Fmt.text files i N w dw (fun _ => true) with
  | .ok bs => .ok (bs.flatMap canon)
  | .error e => .error e

/-- **InputSplitShuffle over text files: the n shuffled parts together deliver every line exactly once**, whatever orders
`std::shuffle` produced (`π k` any permutation of `0 … m-1` for part `k`), for any chunk-buffer size: each part's pass succeeds,
and the passes laid end to end are a permutation of the non-empty lines. -/
theorem C05_shuffle_text_cover (files : List Bytes) (n m w dw : Nat) (hfiles : files ≠ [])
    (hne : ∀ f ∈ files, f ≠ [] ∧ NulFree f) (ht : totalSize files < 2^55) (hn0 : 0 < n) (hm0 : 0 < m)
    (hnm : n * m < 2^32) (hw : w < 2^56) (π : Nat → List Nat) (hπ : ∀ k, k < n → (π k).Perm (List.range m)) :
    ∃ r : Nat → List Bytes, (∀ k, k < n → passOf (textSub files (n * m) w dw) (π k) k m = .ok (r k)) ∧
      ((List.range n).flatMap r).Perm (files.flatMap lines) := by
  have hcov := C03.C03_parts_cover files (n * m) w dw hfiles hne ht (Nat.mul_pos hn0 hm0) hnm hw (fun _ _ => true)
  obtain ⟨r, h1, h2⟩ := shuffle_parts_cover (textSub files (n * m) w dw)
    (fun i => linesOf (partBlobs Fmt.text files i (n * m) w dw (fun _ => true))) n m
    (fun i hi => by
      obtain ⟨bs, hbs⟩ := hcov.1 i hi
      simp only [textSub, hbs, linesOf]) π hπ
  exact ⟨r, h1, hcov.2 ▸ h2⟩

end DmlcModel.Props.C05
