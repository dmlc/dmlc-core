/-
C11, end to end: the text pipeline  files → InputSplit parts → chunks → FillData's thread slices → ParseBlock returns exactly
the rows of the non-empty lines of the files, each parsed on its own — for every number of parts, every buffer size and every
number of parser threads.  Composition of C03 (`C03_parts_cover`, `C03_no_error`) with `C11_fillData_rows`.
-/
import DmlcModel.Props.C03
import DmlcModel.Props.C11
import DmlcModel.Parse.SplitBridge
import DmlcModel.Parse.ChunkBound

namespace DmlcModel.Props.C11
open DmlcModel DmlcModel.Parse

/-- the rows FillData + ParserImpl::Next emit for one chunk `b` lying in memory in front of the bytes `tr` -/
def chunkRows (f : Format) (conv : Conv) (nt : Nat) (b tr : Bytes) : Res (List Row) :=
  ((fillData (f.parseBlock Fixes.current conv) (b ++ tr) b.length nt).bind blocksOf).map List.flatten

/-- the rows of part `k` of `n`: every chunk the part's InputSplit delivers (`NextChunk` until the end, buffer of
`w` words, `kBufferSize = dw`) through FillData with `nt` threads; `trail b` = what lies behind chunk `b` in the
chunk buffer (anything, at least one byte: the buffer ends in a zero word) -/
def partRows (f : Format) (conv : Conv) (nt : Nat) (trail : Bytes → Bytes) (files : List Bytes) (n w dw k : Nat) :
    Res (List Row) :=
  match Split.partBlobs Split.Fmt.text files k n w dw (fun _ => false) with
  | .error _ => .error .check
  | .ok bs => (bs.mapM fun b => chunkRows f conv nt b (trail b)).map List.flatten

def pipelineRows (f : Format) (conv : Conv) (nt : Nat) (trail : Bytes → Bytes) (files : List Bytes) (n w dw : Nat) :
    Res (List Row) :=
  ((List.range n).mapM (partRows f conv nt trail files n w dw)).map List.flatten

theorem rows_nil (f : Format) (conv : Conv) (hL : conv.Local) : rows f conv [] = .ok [] := by
  obtain ⟨gR, gI, gQ, gC, hL⟩ := hL
  exact (lineFormat hL f).rows_empty

theorem chunk_rows (f : Format) (conv : Conv) (hL : conv.Local) (nt : Nat) (h1 : 1 ≤ nt) (hn : nt < 4294967296)
    (b tr : Bytes) (hb : b ≠ []) (he : Split.EndsEol b) (hnf : Split.NulFree b) (htr : tr ≠ [])
    (hsz : b.length + nt < 9223372036854775808) (rb : List (List Row))
    (hl : (Split.lines b).mapM (rows f conv) = .ok rb) (ha : AgreeRows rb.flatten) :
    chunkRows f conv nt b tr = .ok rb.flatten := by
  rw [split_lines_eq] at hl
  obtain ⟨r', hl', hfl⟩ := mapM_unfilter (rows f conv) (rows_nil f conv hL) (eolSplit b) rb hl
  have hT : TermOr (b ++ tr) b.length b := by
    refine Or.inr (Or.inr ?_)
    rcases he with he | ⟨a, e, rfl, hee⟩
    · exact absurd he hb
    · exact ⟨e, by simp, by rw [← split_isEol_eq]; exact hee⟩
  have hg : GoodText f b := by
    cases f with
    | csv prm => exact hnf
    | libsvm _ _ => trivial
    | libfm _ _ => trivial
  have hlen : 0 < b.length := by cases b with | nil => exact absurd rfl hb | cons _ _ => simp
  have htl : 0 < tr.length := by cases tr with | nil => exact absurd rfl htr | cons _ _ => simp
  have := (C11_fillData_rows f conv hL (b ++ tr) b.length nt b (At.whole b tr) hT hlen h1 hn hsz
    (by simp; omega) hg r' hl' (by rw [hfl]; exact ha)).1
  unfold chunkRows
  rw [this, hfl]

/-- **C11 for the whole text pipeline.**  For every non-empty list of non-empty NUL-free files (less than 2^55
bytes in all), every `num_parts` `1 ≤ n < 2^32`, every buffer size `w < 2^56` words (and `kBufferSize` `dw`), every
thread count `1 ≤ nt < 2^32`, every parser `f` (libsvm / libfm / csv, any parameters, `indexing_mode ≥ 0`) and every
local conversion: if no single line makes the parser throw (`hl`: every non-empty line of the files parses on its
own) and the rows agree on their optional parts (`ha`), then the parts `0 … n-1`, each read chunk by chunk through
FillData's `nt` thread slices, deliver exactly the rows of the lines, in order.
The size condition of `C11_fillData_rows` (chunk length + nt < 2^63) is discharged here: every chunk is at most
`2 * totalSize files + 1 < 2^56 + 1` bytes long (`part_chunks`). -/
theorem C11_pipeline (f : Format) (conv : Conv) (hL : conv.Local) (files : List Bytes) (n w dw nt : Nat)
    (trail : Bytes → Bytes) (htrail : ∀ b, trail b ≠ [])
    (hfiles : files ≠ []) (hne : ∀ fl ∈ files, fl ≠ [] ∧ Split.NulFree fl) (ht : Split.totalSize files < 2^55)
    (hn0 : 0 < n) (hn : n < 2^32) (hw : w < 2^56) (h1 : 1 ≤ nt) (hnt : nt < 4294967296)
    (rss : List (List Row)) (hl : (files.flatMap Split.lines).mapM (rows f conv) = .ok rss)
    (ha : AgreeRows rss.flatten) :
    pipelineRows f conv nt trail files n w dw = .ok rss.flatten := by
  -- the lines of the files are the lines of the chunks of the parts, in order (C03)
  have hcover := (C03.C03_parts_cover files n w dw hfiles hne ht hn0 hn hw (fun _ _ => false)).2
  let bsOf : Nat → List Bytes := fun k =>
    match Split.partBlobs Split.Fmt.text files k n w dw (fun _ => false) with
    | .ok bs => bs
    | .error _ => []
  have hpart : ∀ k, k < n → ∃ bs, Split.partBlobs Split.Fmt.text files k n w dw (fun _ => false) = .ok bs ∧ bsOf k = bs ∧
      Split.linesOf (Split.partBlobs Split.Fmt.text files k n w dw (fun _ => false)) = bs.flatMap Split.lines ∧
      (∀ b ∈ bs, b ≠ [] ∧ Split.EndsEol b ∧ Split.NulFree b) ∧
      ∀ b ∈ bs, b.length + nt < 9223372036854775808 := by
    intro k hk
    obtain ⟨bs, hbs⟩ := C03.C03_no_error files n w dw hfiles hne ht hn hw k hk (fun _ => false)
    have hch := part_chunks ⟨hfiles, hne, ht, hn, hw⟩ k dw hk bs hbs
    have hfacts := fun b hb => (hch b hb).1
    refine ⟨bs, hbs, by simp only [bsOf, hbs], ?_, hfacts, fun b hb => by have := (hch b hb).2; omega⟩
    rw [hbs]
    simp only [Split.linesOf]
    exact flatMap_congr_mem fun b hb => Split.canon_eq_lines b (hfacts b hb).2.2
  have hlines : files.flatMap Split.lines = (List.range n).flatMap (fun k => (bsOf k).flatMap Split.lines) := by
    rw [← hcover]
    apply flatMap_congr_mem
    intro k hk
    obtain ⟨bs, _, h2, h3, _, _⟩ := hpart k (List.mem_range.mp hk)
    rw [h3, h2]
  rw [hlines] at hl
  unfold pipelineRows
  apply regroup (rows f conv) (fun k => (bsOf k).flatMap Split.lines) _ (List.range n) _ rss hl ha
  intro k hk rb hrb harb
  obtain ⟨bs, hbs, h2, _, hfacts, hsz⟩ := hpart k (List.mem_range.mp hk)
  unfold partRows
  rw [hbs]
  rw [h2] at hrb
  apply regroup (rows f conv) Split.lines _ bs _ rb hrb harb
  intro b hb rbb hrbb harbb
  exact chunk_rows f conv hL nt h1 hnt b (trail b) (hfacts b hb).1 (hfacts b hb).2.1 (hfacts b hb).2.2 (htrail b)
    (hsz b hb) rbb hrbb harbb

end DmlcModel.Props.C11
