/- C15: non-vacuity witnesses -/
import DmlcModel.Props.C15


namespace DmlcModel.Props.C15
open DmlcModel DmlcModel.Ser

def le : Cfg := ⟨true, true⟩     -- little-endian host, default build
def be : Cfg := ⟨true, false⟩    -- little-endian host, -DDMLC_IO_USE_LITTLE_ENDIAN=0 (swap path)

/-- `vector<pair<string, map<uint32_t, list<int16_t>>>>` -/
abbrev wT : Ty := .vec (.pair .str (.map (.arith .u 4) (.list (.arith .i 2))))
/-- a string with a NUL, an empty list, an empty string, an empty map, extreme integers -/
def wV : Val wT := [([0x61, 0x00, 0x62], [(1, []), (0x80000000, [0xFFFF, 0x8000])]), ([], [])]

example : wT.ok = true := by decide
example : wT.podFree = true ∧ wT.padFree = true := by decide
example : supported le wT = true ∧ supported be wT = true := by decide
theorem wV_wf : wf wT wV := by
  simp only [wf, wV, wfList, natBelow, StrictSorted, Ty.lt]
  decide

example : encode le wT wV =
    [2,0,0,0,0,0,0,0,  3,0,0,0,0,0,0,0, 0x61,0,0x62,  2,0,0,0,0,0,0,0,
       1,0,0,0, 0,0,0,0,0,0,0,0,   0,0,0,0x80, 2,0,0,0,0,0,0,0, 0xFF,0xFF, 0x00,0x80,
     0,0,0,0,0,0,0,0,  0,0,0,0,0,0,0,0] := by rfl
example : encode be wT wV =
    [0,0,0,0,0,0,0,2,  0,0,0,0,0,0,0,3, 0x61,0,0x62,  0,0,0,0,0,0,0,2,
       0,0,0,1, 0,0,0,0,0,0,0,0,   0x80,0,0,0, 0,0,0,0,0,0,0,2, 0xFF,0xFF, 0x80,0x00,
     0,0,0,0,0,0,0,0,  0,0,0,0,0,0,0,0] := by rfl
example : decode le wT (encode le wT wV ++ [7, 7]) = some (wV, [7, 7]) :=
  C15_roundtrip le wT (by decide) (by decide) wV wV_wf _
example : decode be wT (encode be wT wV ++ [7, 7]) = some (wV, [7, 7]) :=
  C15_roundtrip be wT (by decide) (by decide) wV wV_wf _
example : encode le wT wV = layout true wT wV ∧ encode be wT wV = layout false wT wV :=
  ⟨C15_layout le wT (by decide) (by decide) wV wV_wf, C15_layout be wT (by decide) (by decide) wV wV_wf⟩
example : (List.range (encode be wT wV).length).all (fun k => (decode be wT ((encode be wT wV).take k)).isNone) = true :=
  List.all_eq_true.mpr fun k hk => by
    rw [C15_truncation_at be wT (by decide) (by decide) wV wV_wf k (List.mem_range.mp hk)]
    rfl
/-- a big-endian host reading the little-endian stream of a little-endian host -/
example : decode ⟨false, true⟩ wT (encode ⟨true, true⟩ wT wV) = some (wV, []) :=
  C15_cross_host true true wT (by decide) (by decide) wV wV_wf

/-- `set<int16_t>`: iteration order is the signed order (-32768 < -1 < 0 < 1) -/
abbrev sT : Ty := .set (.arith .i 2)
def sV : Val sT := [0x8000, 0xFFFF, 0, 1]
theorem sV_wf : wf sT sV := by
  simp only [wf, sV, wfList, natBelow, StrictSorted, Ty.lt]
  decide
example : wf sT sV := sV_wf
example : decode be sT (encode be sT sV) = some (sV, []) :=
  C15_consumes_exactly be sT (by decide) (by decide) sV sV_wf
/-- an unsorted stream with a duplicate is read into the sorted duplicate-free set -/
example : decode le sT (encode le (.vec (.arith .i 2)) [1, 0xFFFF, 1, 0x8000]) = some ([0x8000, 0xFFFF, 1], []) := by decide

/-- a class with Save/Load holding a POD struct (8 bytes, 4-aligned) and a multimap; default build only -/
abbrev cT : Ty := Ty.cls [.pod 8 4, .mmap .str (.arith .f 8), .uset (.arith .u 1)]
def cV : Val cT := ([1, 2, 3, 4, 5, 6, 7, 8], [([], 0x7FF8000000000001), ([], 0)], [3, 1], ())
example : cT.ok = true ∧ supported le cT = true ∧ supported be cT = false := by decide
theorem cV_wf : wf cT cV := by
  simp only [wf, cT, cV, Ty.cls, wfList, natBelow, lenIs, WeakSorted, Distinct, Ty.lt, Ty.keyEq, List.foldr]
  decide
example : wf cT cV := cV_wf
example : decode le cT (encode le cT cV ++ [9]) = some (cV, [9]) :=
  C15_roundtrip le cT (by decide) (by decide) cV cV_wf _

/-- back to back: three values of different types in one stream -/
example : decodeAll le [wT, sT, cT] (encodeAll le [⟨wT, wV⟩, ⟨sT, sV⟩, ⟨cT, cV⟩]) =
    some ([⟨wT, wV⟩, ⟨sT, sV⟩, ⟨cT, cV⟩], []) := by
  simpa using C15_back_to_back le [⟨wT, wV⟩, ⟨sT, sV⟩, ⟨cT, cV⟩] (by simp +decide [wV_wf, sV_wf, cV_wf]) []

/-! ### `std::pair` of PODs with padding (the class of finding C15-F1) -/

/-- `pair<uint8_t, uint32_t>`: `sizeof` = 8, members at offsets 0 and 4 -/
abbrev pT : Ty := .pair (.arith .u 1) (.arith .u 4)
def pV : Val pT := (0x11, 0x22334455)

example : pT.ok = true ∧ pT.podFree = true ∧ pT.padFree = false := by decide
example : wf pT pV := by simp [wf, pV, natBelow]
/-- members one after the other in every build, no padding on the stream -/
example : encode le pT pV = [0x11, 0x55, 0x44, 0x33, 0x22] := by decide
example : layout true pT pV = [0x11, 0x55, 0x44, 0x33, 0x22] := by decide
example : encode ⟨false, true⟩ pT pV = [0x11, 0x55, 0x44, 0x33, 0x22] := by decide
example : decode le pT (encode le pT pV ++ [9]) = some (pV, [9]) := by decide
example : decode ⟨false, true⟩ pT (encode le pT pV) = some (pV, []) := by decide

end DmlcModel.Props.C15
