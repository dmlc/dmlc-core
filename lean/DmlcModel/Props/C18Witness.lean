/-
C18 — witnesses.  The ManualEvent of the PINNED tree (`if (!signaled_) wait(lock);`, model parameter `loops = false`)
violates the safety half of the property; then concrete reachable states that meet the hypotheses of the C18 theorems.
-/
import DmlcModel.Props.C18
namespace DmlcModel.Props.C18
open DmlcModel.CQueue

/-! ## (1) finding C18-F1: wait() of the pinned code returns without a signal -/

/-- one waiter, nobody ever signals: wait, spurious wake-up, return -/
def pinnedSpurious : List EEvent := [.wLock, .wLoad, .wWait, .spurious, .wRelock, .wUnlock]

/-- no spurious wake-up needed either: signal() wakes the waiter, reset() runs before the waiter re-acquires the mutex, the
waiter returns although the last reset() is later than the signal() -/
def pinnedRace : List EEvent :=
  [.wLock, .wLoad, .wWait, .sStore, .sLock, .sNotify, .sUnlock, .rLock, .rStore, .rUnlock, .wRelock, .wUnlock]

theorem C18_event_safe_false_on_pinned_spurious :
    (erun false einit pinnedSpurious).map (fun s => (s.badReturns, s.signaled, s.sigAfterReset)) = some (1, false, false) := by
  decide

theorem C18_event_safe_false_on_pinned_race :
    (erun false einit pinnedRace).map (fun s => (s.badReturns, s.signaled, s.sigAfterReset)) = some (1, false, false) := by
  decide

/-- the full safety statement is false of the pinned model -/
theorem C18_event_safe_pinned_refuted : ¬ ∀ s, EReach false s → s.badReturns = 0 := by
  intro h
  cases hr : erun false einit pinnedSpurious with
  | none => revert hr; decide
  | some s =>
    have h0 := h s (ereach_run pinnedSpurious EReach.init hr)
    have : (erun false einit pinnedSpurious).map (·.badReturns) = some 1 := by decide
    rw [hr] at this
    simp only [Option.map_some, Option.some.injEq] at this
    omega

/-- the same runs on the repaired model: the waiter goes back to sleep / nothing bad is counted -/
example : (erun true einit [.wLock, .wLoad, .wWait, .spurious, .wRelock, .wLoad, .wWait]).map
    (fun s => (s.badReturns, s.waitset)) = some (0, 1) := by decide
example : (erun true einit pinnedRace) = none := by decide   -- after the re-lock the next step is the load

def e1 : Elem := ⟨1, 5⟩
def e2 : Elem := ⟨2, 5⟩
def e3 : Elem := ⟨3, 9⟩

/-- a popper sleeps, a pusher has inserted an element and is about to unlock: `waitset > 0`, `¬exit`,
queue non-empty (hypotheses of C18_blocks_only_if_empty / C18_deadlock_free) -/
def runBlocked : List QEvent := [.popLock, .popPredLoad, .popWait, .pushLock e1 false]
example : (qrun .fifo qinit runBlocked).map (fun s => (s.waitset, s.exit, s.q.length, hcredit s.holder)) =
    some (1, false, 1, 1) := by decide

/-- the lost-wake-up bound is tight there: 1 ≤ 0 + 0 + 1 -/
example : (qrun .fifo qinit runBlocked).map (fun s => decide (s.q.length = s.woken + s.pendNotify + hcredit s.holder)) =
    some true := by decide

/-- FIFO with a front push: delivery order 2,1 (hypothesis `QReach .fifo s`, non-trivial ghost) -/
def runFront : List QEvent :=
  [.pushLock e1 false, .pushUnlock, .pushLock e2 true, .pushUnlock, .popLock, .popAfterLoad none, .popUnlock]
example : (qrun .fifo qinit runFront).map (fun s => (s.pushedEff, s.popped, s.q)) = some ([e2, e1], [e2], [e1]) := by
  decide

/-- priority variant with a tie: the hint must be maximal (e3), a non-maximal hint is not enabled -/
def runPrio (h : Elem) : List QEvent :=
  [.pushLock e1 false, .pushUnlock, .pushLock e3 false, .pushUnlock, .pushLock e2 true, .pushUnlock,
   .popLock, .popAfterLoad (some h)]
example : (qrun .prio qinit (runPrio e3)).map (fun s => (s.popped, s.q, s.holder)) =
    some ([e3], [e1, e2], Holder.popU true) := by decide
example : qrun .prio qinit (runPrio e1) = none := by decide

/-- kill with a sleeping popper (hypotheses of C18_kill: `exit`, `waitset > 0`) -/
def runKill : List QEvent := [.popLock, .popPredLoad, .popWait, .killLock, .killStore, .killUnlock]
example : (qrun .fifo qinit runKill).map (fun s => (s.exit, s.waitset, s.pendKill)) = some (true, 1, 1) := by decide
example : (qrun .fifo qinit (runKill ++ [.killNotify, .popRelock, .popPredLoad, .popAfterLoad none])).map
    (fun s => (s.holder, s.nwait)) = some (Holder.popU false, 0) := by decide

/-- ManualEvent: a signalled state with an awake waiter and nobody inside a call
(hypotheses of C18_event_live), and a returning waiter (hypothesis of C18_event_safe) -/
def runEv : List EEvent := [.wLock, .wLoad, .wWait, .sStore, .sLock, .sNotify, .sUnlock]
example : (erun true einit runEv).map (fun s => (s.signaled, s.holder, s.sigPending, s.woken)) =
    some (true, EHolder.free, 0, 1) := by decide
example : (erun true einit (runEv ++ [.wRelock, .wLoad])).map (fun s => (s.holder, s.sigAfterReset)) =
    some (EHolder.wU, true) := by decide

end DmlcModel.Props.C18
