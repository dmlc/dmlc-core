/-
C19 — MemoryStringStream, MemoryFixedSizeStream, the local FileStream and the dmlc::ostream / dmlc::istream adaptors
behave as a byte array with a cursor.  The theorems are about the models generated from the *repaired* source
(fixes/C19-1.diff, fixes/C19-2.diff); for the pinned source see C19Witness.lean.
-/
import DmlcModel.Streams.Mem
import DmlcModel.Streams.OStream
import DmlcModel.Streams.IStream
import DmlcModel.Streams.IStreamSet

namespace DmlcModel.Props.C19
open DmlcModel DmlcModel.Streams

theorem C19_spec_short_read_only_at_end (F : Flavor) (a : Arr) (n : Nat) (h : a.cur ≤ a.data.length) :
    Arr.step F a (.read n) =
      (.bytes (peek a.data a.cur n).length (peek a.data a.cur n), { a with cur := a.cur + (peek a.data a.cur n).length }) ∧
    ((peek a.data a.cur n).length < n → a.cur + (peek a.data a.cur n).length = a.data.length) := by
  refine ⟨by simp [Arr.step, h], ?_⟩
  rw [peek_length]; omega

theorem C19_spec_write_lands_at_cursor (F : Flavor) (a : Arr) (bs : Bytes) (hne : bs ≠ [])
    (hroom : F.room a.cur bs.length = none) :
    peek (Arr.step F a (.write bs)).2.data a.cur bs.length = bs ∧
    (Arr.step F a (.write bs)).2.data.take a.cur = (a.data ++ zeros (a.cur - a.data.length)).take a.cur ∧
    (Arr.step F a (.write bs)).2.data.drop (a.cur + bs.length) = a.data.drop (a.cur + bs.length) ∧
    (Arr.step F a (.write bs)).2.cur = a.cur + bs.length := by
  have hlen : a.cur ≤ (a.data ++ zeros (a.cur - a.data.length)).length := by
    simp only [List.length_append, zeros_length]; omega
  simp only [Arr.step, hne, if_false, hroom]
  refine ⟨peek_poke _ _ _ hlen, poke_take_before _ _ _ hlen, ?_, trivial⟩
  rw [poke_drop _ _ _ hlen, List.drop_append, List.drop_of_length_le (l := zeros _) (by rw [zeros_length]; omega),
    List.append_nil]

theorem C19_spec_never_ub (F : Flavor) (a : Arr) (ops : List Op) :
    Out.ub ∉ (run (Arr.step F) a ops).1 ∧ Out.dead ∉ (run (Arr.step F) a ops).1 := by
  induction ops generalizing a with
  | nil => simp [run]
  | cons op ops ih =>
    have h1 := Arr.step_not_ub F a op
    simp only [run, h1, Bool.false_eq_true, if_false, List.mem_cons, not_or]
    refine ⟨⟨fun h => ?_, (ih _).1⟩, (Arr.step_not_dead F a op).symm, (ih _).2⟩
    rw [← h] at h1
    cases h1

theorem C19_refines_array_memfixed (buf : Bytes) (hN : buf.length < 2 ^ 64) (ops : List Op)
    (hops : ∀ op ∈ ops, op.fits64) :
    (run (MemFixed.step Arith.gen) { buf := buf, cur := 0 } ops).1 =
      (run (Arr.step (Flavor.fixed buf.length)) { data := buf, cur := 0 } ops).1 ∧
    (run (MemFixed.step Arith.gen) { buf := buf, cur := 0 } ops).2.abs =
      (run (Arr.step (Flavor.fixed buf.length)) { data := buf, cur := 0 } ops).2 ∧
    (run (MemFixed.step Arith.gen) { buf := buf, cur := 0 } ops).2.buf.length = buf.length :=
  have h := run_refines (MemFixed.step Arith.gen) (Flavor.fixed buf.length) MemFixed.abs (FxInv buf.length)
    (fun s op hs hop => fx_step buf.length hN s hs op hop) ops { buf := buf, cur := 0 }
    ⟨rfl, by show 0 < 18446744073709551616; omega⟩ hops
  ⟨h.1, h.2.1, h.2.2.len⟩

theorem C19_refines_array_memstr (init : Bytes) (hinit : init.length ≤ strMax) (ops : List Op)
    (hops : ∀ op ∈ ops, op.fits64) :
    (run (MemStr.step Arith.gen) { buf := init, cur := 0 } ops).1 =
      (run (Arr.step Flavor.string) { data := init, cur := 0 } ops).1 ∧
    (run (MemStr.step Arith.gen) { buf := init, cur := 0 } ops).2.abs =
      (run (Arr.step Flavor.string) { data := init, cur := 0 } ops).2 :=
  have h := run_refines (MemStr.step Arith.gen) Flavor.string MemStr.abs MsInv (fun s op hs hop => ms_step s hs op hop)
    ops { buf := init, cur := 0 } ⟨hinit, by show 0 < 18446744073709551616; omega⟩ hops
  ⟨h.1, h.2.1⟩

theorem C19_refines_array_file (init : Bytes) (ops : List Op) (hops : ∀ op ∈ ops, op.fits64) :
    (run File.step { data := init, pos := 0 } ops).1 = (run (Arr.step Flavor.file) { data := init, cur := 0 } ops).1 ∧
    (run File.step { data := init, pos := 0 } ops).2.abs = (run (Arr.step Flavor.file) { data := init, cur := 0 } ops).2 :=
  have h := run_refines File.step Flavor.file File.abs (fun _ => True)
    (fun s op _ hop => ⟨(file_step s op hop).1, (file_step s op hop).2, trivial⟩) ops { data := init, pos := 0 } trivial hops
  ⟨h.1, h.2.1⟩

/-- **C19, stores.** MemoryStringStream and the FileStream behave, for every history of
Read/Write/Seek/Tell, like the byte array with a cursor: same return values, same bytes delivered,
same final contents and cursor. -/
theorem C19_refines_array (init : Bytes) (hinit : init.length ≤ strMax) (ops : List Op)
    (hops : ∀ op ∈ ops, op.fits64) :
    ((run (MemStr.step Arith.gen) { buf := init, cur := 0 } ops).1 =
        (run (Arr.step Flavor.string) { data := init, cur := 0 } ops).1 ∧
      (run (MemStr.step Arith.gen) { buf := init, cur := 0 } ops).2.abs =
        (run (Arr.step Flavor.string) { data := init, cur := 0 } ops).2) ∧
    ((run File.step { data := init, pos := 0 } ops).1 = (run (Arr.step Flavor.file) { data := init, cur := 0 } ops).1 ∧
      (run File.step { data := init, pos := 0 } ops).2.abs = (run (Arr.step Flavor.file) { data := init, cur := 0 } ops).2) :=
  ⟨C19_refines_array_memstr init hinit ops hops, C19_refines_array_file init ops hops⟩

/-- **C19, fixed buffer.** For every history, MemoryFixedSizeStream never performs an access outside
its buffer (no `ub`, hence no `dead`), and the buffer keeps its size. -/
theorem C19_fixed_no_oob (buf : Bytes) (hN : buf.length < 2 ^ 64) (ops : List Op) (hops : ∀ op ∈ ops, op.fits64) :
    Out.ub ∉ (run (MemFixed.step Arith.gen) { buf := buf, cur := 0 } ops).1 ∧
    Out.dead ∉ (run (MemFixed.step Arith.gen) { buf := buf, cur := 0 } ops).1 ∧
    (run (MemFixed.step Arith.gen) { buf := buf, cur := 0 } ops).2.buf.length = buf.length := by
  obtain ⟨h1, -, h3⟩ := C19_refines_array_memfixed buf hN ops hops
  have hc := C19_spec_never_ub (Flavor.fixed buf.length) { data := buf, cur := 0 } ops
  exact ⟨h1 ▸ hc.1, h1 ▸ hc.2, h3⟩

/-- a write that does not fit the buffer raises `dmlc::Error` and changes nothing (whatever the
cursor: no wrap-around) -/
theorem C19_fixed_write_rejects (s : MemFixed) (hN : s.buf.length < 2 ^ 64) (bs : Bytes)
    (hne : bs ≠ []) (h : s.buf.length < s.cur + bs.length) :
    MemFixed.step Arith.gen s (.write bs) = (.err .check, s) := by
  have hne' : bs.length ≠ 0 := fun h0 => hne (List.eq_nil_of_length_eq_zero h0)
  have hnf : ¬ s.cur + bs.length ≤ s.buf.length := by omega
  simp only [MemFixed.step, Arith.gen, fxWriteEmpty_spec, fxWriteOk_spec hN, hne', hnf, decide_false, if_false,
    Bool.false_eq_true]

/-- a read that straddles the end returns the bytes that are there (a short count), it does not raise -/
theorem C19_fixed_read_short (s : MemFixed) (hN : s.buf.length < 2 ^ 64) (n : Nat) (hcur : s.cur ≤ s.buf.length) :
    MemFixed.step Arith.gen s (.read n) =
      (.bytes (min n (s.buf.length - s.cur)) (peek s.buf s.cur n), { s with cur := s.cur + min n (s.buf.length - s.cur) }) :=
  fx_read s hN n hcur

/-- For every buffer size below 2^31 (`pbump` takes an `int`) and every history: no access outside the buffer, and at
every moment the `Stream::Write` calls made so far followed by the bytes pending in the put area are exactly the bytes
inserted, in order; `bytes_written()` counts the bytes handed over (modulo 2^64). -/
theorem C19_ostream_any_history (bufSize : Nat) (hb : bufSize < 2 ^ 31) (sink : Arr) (ops : List OOp) :
    ∃ s cs, orun { ob := OBuf.create bufSize, sink := sink } ops = some (s, cs) ∧
      cs.flatten ++ s.ob.pending = inserted ops ∧
      s.ob.pending.length < (if bufSize = 0 then 2 else bufSize) ∧
      s.ob.count = cs.flatten.length % 2 ^ 64 := by
  obtain ⟨hinv, hpend, hcnt, hcap⟩ := create_inv bufSize hb
  obtain ⟨s, cs, hr, heff, -⟩ := orun_eff ops { ob := OBuf.create bufSize, sink := sink } hinv
  refine ⟨s, cs, hr, ?_, ?_, ?_⟩
  · simpa only [hpend, List.nil_append] using heff.bytes
  · rw [← hcap, ← heff.cap]; exact heff.inv.pending_lt
  · rw [heff.count, hcnt, Nat.zero_add]; rfl

/-- **C19, ostream.** After a flush or the destruction of the `ostream` the `Stream::Write` calls made carry, in
order, exactly everything inserted, and `bytes_written()` is that length: for every buffer size below 2^31, every
chunking of the insertions and every interleaving of flushes.  About the calls only: what a wrapped stream holds
afterwards, and which stream got which call under `set_stream`, is not said. -/
theorem C19_ostream (bufSize : Nat) (hb : bufSize < 2 ^ 31) (sink : Arr) (ops : List OOp) (fin : OOp)
    (hfin : fin.syncs = true) :
    ∃ s cs, orun { ob := OBuf.create bufSize, sink := sink } (ops ++ [fin]) = some (s, cs) ∧
      cs.flatten = inserted ops ∧ s.ob.count = (inserted ops).length % 2 ^ 64 := by
  obtain ⟨hinv, hpend, hcnt, -⟩ := create_inv bufSize hb
  obtain ⟨s, cs, hr, heff, hp⟩ := orun_eff (ops ++ [fin]) { ob := OBuf.create bufSize, sink := sink } hinv
  have hbytes := heff.bytes
  rw [hp fin (by simp) hfin, hpend, inserted_append, inserted_syncs hfin] at hbytes
  simp only [List.append_nil, List.nil_append] at hbytes
  refine ⟨s, cs, hr, hbytes, ?_⟩
  rw [heff.count, hcnt, hbytes, Nat.zero_add]
  rfl

/-- For every buffer size and every history of extractions and seeks of the wrapped stream, no access
outside the buffer happens. -/
theorem C19_istream_any_history (bufSize : Nat) (hb : bufSize < 2 ^ 64) (data : Bytes) (ops : List IOp) :
    ∃ s outs, irun { ib := IBuf.create bufSize, src := { data := data, cur := 0 } } ops = some (s, outs) := by
  obtain ⟨s, outs, h, _⟩ := irun_total ops _ (create_iinv bufSize hb _).1
  exact ⟨s, outs, h⟩

def deliveredAll : List IOp → List IOut → Bytes
  | op :: ops, o :: os => IOut.delivered op o ++ deliveredAll ops os
  | _, _ => []

theorem C19_istream_spec_in_order (rest : Bytes) (ops : List IOp) :
    deliveredAll ops (ispecRun rest ops).1 ++ (ispecRun rest ops).2 = rest := by
  induction ops generalizing rest with
  | nil => simp [deliveredAll, ispecRun]
  | cons op ops ih =>
    simp only [ispecRun, deliveredAll, List.append_assoc, ih]
    cases op with
    | get => cases rest <;> simp [ispec, IOut.delivered]
    | peek => cases rest <;> simp [ispec, IOut.delivered]
    | read n => simp [ispec, IOut.delivered]
    | useek p => simp [ispec, IOut.delivered]

theorem C19_istream_spec_eof (rest : Bytes) (n : Nat) :
    ((ispec rest .get).2 = .char none ↔ rest = []) ∧
    (ispec rest (.read n)).2 = .block (rest.take n) ∧ ((rest.take n).length < n ↔ rest.length < n) := by
  refine ⟨?_, rfl, ?_⟩
  · cases rest <;> simp [ispec]
  · rw [List.length_take]; omega

/-- **C19, istream.** For every buffer size and every history of `get` / `peek` / `read n` the adaptor delivers what
the in-order consumer delivers from the wrapped stream's bytes (a prefix, unchanged and in order; EOF exactly when
the stream is exhausted); `bytes_read()` is the number of bytes pulled from the stream and never exceeds it. -/
theorem C19_istream (bufSize : Nat) (hb : bufSize < 2 ^ 64) (data : Bytes) (hd : data.length < 2 ^ 64)
    (ops : List IOp) (hops : ∀ op ∈ ops, op.isSeek = false) :
    ∃ s, irun { ib := IBuf.create bufSize, src := { data := data, cur := 0 } } ops = some (s, (ispecRun data ops).1) ∧
      s.ahead = (ispecRun data ops).2 ∧
      s.ib.count = s.src.cur ∧ s.src.cur ≤ data.length ∧
      s.src.cur + s.ahead.length = data.length + s.buffered.length := by
  obtain ⟨hinv, hah, hcnt⟩ := create_iinv bufSize hb { data := data, cur := 0 }
  obtain ⟨s, _, hr, hA, hc⟩ := irun_spec ops _ hinv hops
  rw [hah] at hr hA
  have hle : s.src.cur ≤ s.src.data.length := hc.le (Nat.zero_le _)
  have hdat : s.src.data = data := hc.data
  have hcount := hc.count
  simp only at hcount
  rw [hcnt, Nat.zero_add, Nat.sub_zero] at hcount
  rw [hdat] at hle
  refine ⟨s, hr, hA, ?_, hle, ?_⟩
  · rw [hcount]; exact u64_of_lt (by omega)
  · simp only [ISt.ahead, List.length_append, List.length_drop, hdat]; omega

/-- `ostream::set_stream(stream j)`: the pending bytes go to the stream attached so far (nothing is lost, nothing
reaches the new stream early), the put area is empty afterwards, `bytes_written()` counts them, and stream `j`, if
the caller has one, is attached from now on, untouched. -/
theorem C19_ostream_set_stream (s : OSt) (h : OInv s.ob) (j : Nat) :
    ∃ s', s.step (.setStream j) = some (s', [s.ob.pending]) ∧ s'.ob.pending = [] ∧
      s'.ob.count = (s.ob.count + s.ob.pending.length) % 2 ^ 64 ∧
      (s'.parked.set s'.idx s'.sink)[s.idx]? = (s.parked.set s.idx (sinkWrite s.sink s.ob.pending))[s.idx]? ∧
      (∀ a, (s.parked.set s.idx (sinkWrite s.sink s.ob.pending))[j]? = some a → s'.idx = j ∧ s'.sink = a) := by
  obtain ⟨ob1, h1, heff, hpend⟩ := setStream_eff s.ob h
  have hcnt : ob1.count = (s.ob.count + s.ob.pending.length) % 2 ^ 64 := by
    have := heff.count; simpa [u64] using this
  rw [OSt.step_setStream s j ob1 [s.ob.pending] h1]
  simp only [List.foldl_cons, List.foldl_nil]
  cases hl : (s.parked.set s.idx (sinkWrite s.sink s.ob.pending))[j]? with
  | none =>
    refine ⟨_, rfl, hpend, hcnt, ?_, fun a ha => by simp at ha⟩
    simp
  | some a =>
    refine ⟨_, rfl, hpend, hcnt, ?_, fun b hb => ⟨rfl, by simpa using hb⟩⟩
    simp only
    by_cases hj : j = s.idx
    · subst hj
      rw [hl]
      have : s.idx < (s.parked.set s.idx (sinkWrite s.sink s.ob.pending)).length := by
        rcases List.getElem?_eq_some_iff.mp hl with ⟨hlt, _⟩; exact hlt
      simp only [List.length_set] at this
      simp [this]
    · rw [List.getElem?_set_ne (fun h => hj h)]

/-- `istream::set_stream(stream a)`: whatever was buffered from the old stream is dropped, everything ahead
is exactly what `a` provides from its cursor on, `bytes_read()` keeps counting -/
theorem C19_istream_attach (s : ISt) (h : IInv s) (a : Arr) :
    IInv { ib := s.ib.setStream, src := a } ∧
    ISt.ahead { ib := s.ib.setStream, src := a } = a.data.drop a.cur ∧
    (IBuf.setStream s.ib).count = s.ib.count :=
  attach_inv s h a

theorem created_rel (bufSize : Nat) (hb : bufSize < 2 ^ 64) (a : Arr) (streams : List Arr) (idx : Nat)
    (hidx : idx < streams.length) :
    FRel streams.length
      { st := { ib := IBuf.create bufSize, src := a }, idx := idx, parked := streams, eofbit := false, failbit := false }
      { rest := a.data.drop a.cur, eofbit := false, failbit := false } :=
  have ⟨hinv, hah, _⟩ := create_iinv bufSize hb a
  ⟨hinv, hah.symm, rfl, rfl, rfl, hidx⟩

/-- For every buffer size and every history on a `dmlc::istream` (extractions through the stream or its rdbuf, `clear`,
`set_stream` to any of the caller's streams, seeks of any stream at any time) no access outside the buffer happens. -/
theorem C19_istream_set_stream_any_history (bufSize : Nat) (hb : bufSize < 2 ^ 64) (a : Arr) (streams : List Arr)
    (idx : Nat) (ops : List FOp) :
    ∃ s outs pr, frun { st := { ib := IBuf.create bufSize, src := a }, idx := idx, parked := streams,
                        eofbit := false, failbit := false } ops = some (s, outs, pr) := by
  obtain ⟨s, outs, pr, h, _⟩ := frun_total ops
    { st := { ib := IBuf.create bufSize, src := a }, idx := idx, parked := streams, eofbit := false, failbit := false }
    (create_iinv bufSize hb a).1
  exact ⟨s, outs, pr, h⟩

/-- **C19, istream with set_stream.** For every buffer size and every history of extractions (through the
`std::istream` members or the rdbuf), `clear` and `set_stream` (any number of switches, also back to a stream that was
repositioned while detached), the bytes delivered are the concatenation of what each attached stream provides from
its cursor on (`pr`, as the run reports it: not computed from `streams` and the history), consumed in order;
`set_stream` clears `eofbit`/`failbit`; a stream that is not `good()` delivers nothing. -/
theorem C19_istream_set_stream (bufSize : Nat) (hb : bufSize < 2 ^ 64) (a : Arr) (streams : List Arr) (idx : Nat)
    (hidx : idx < streams.length) (ops : List FOp) (hok : okHistory streams.length idx ops) :
    ∃ s pr, frun { st := { ib := IBuf.create bufSize, src := a }, idx := idx, parked := streams,
                   eofbit := false, failbit := false } ops =
      some (s, fspecRun { rest := a.data.drop a.cur, eofbit := false, failbit := false } pr ops, pr) :=
  frun_spec streams.length ops _ _ (created_rel bufSize hb a streams idx hidx) hok

end DmlcModel.Props.C19
