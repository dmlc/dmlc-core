/-
C14 — witnesses by kernel evaluation: the repaired defects (findings C14-F1 … F6) behave as the property demands; the open
classes `exp-field-range`, `frac-leading-zeros-19` refute the full statements; `near-max-overflow` lies inside the margin
they leave out.
-/
import DmlcModel.Props.C14

namespace DmlcModel.Props.C14Witness
open DmlcModel DmlcModel.StrToNum DmlcModel.Props.C14

def bz (s : String) : Bytes := s.toList.map (fun c => c.toNat.toUInt8) ++ [0]

def endOf (r : Except Fault PRes) : Option Nat := match r with | .ok p => some p.endIdx | .error _ => none
def okOf {α : Type} (r : Except Fault α) : Option α := match r with | .ok a => some a | .error _ => none

/-- C14-F1: `stof("100e37")` throws `out_of_range` (the defect: it returned `inf`) -/
theorem C14_w_fixed_a : stof 0 (bz "100e37") = .throwRange ∧ stod 0 (bz "100e307") = .throwRange := by decide +kernel
/-- C14-F2: a stale `errno == ERANGE` on entry does not make `stof("inf")` throw; `errno` is left as it was -/
theorem C14_w_fixed_c : stof ERANGE (bz "inf") = .ok ⟨false, .inf⟩ 3 ERANGE ∧ stod 22 (bz "-nan") = .ok ⟨false, .nan⟩ 4 22 := by
  decide +kernel
/-- C14-F3: end index of incomplete tokens -/
theorem C14_w_fixed_d :
    endOf (parseFloat .F32 false (bz "1e")) = some 1 ∧ endOf (parseFloat .F32 false (bz ".")) = some 0 ∧
    endOf (parseFloat .F64 true (bz "-")) = some 0 ∧ endOf (parseFloat .F64 false (bz "  x")) = some 0 ∧
    endOf (parseFloat .F32 false (bz "infinit")) = some 3 ∧ endOf (parseFloat .F32 false (bz "1e+f")) = some 1 ∧
    stof 0 (bz "-") = .throwInvalid ∧ stod 0 (bz ".") = .throwInvalid := by decide +kernel
/-- C14-F4: an unterminated `nan(` is `nan` followed by `(` -/
theorem C14_w_fixed_f : endOf (parseFloat .F32 false (bz "nan(")) = some 3 ∧
    endOf (parseFloat .F32 false (bz "nan(ab_1)")) = some 9 ∧ stof 0 (bz "nan(x") = .ok ⟨false, .nan⟩ 3 0 := by
  decide +kernel
/-- C14-F5, C14-F6: the most negative values parse exactly; the range returns consume the `f` suffix -/
theorem C14_w_fixed_int : okOf (parseSigned 32 10 (bz "-2147483648")) = some (2147483648, 11) ∧
    okOf (parseSigned 64 10 (bz "-9223372036854775808")) = some (9223372036854775808, 20) ∧
    endOf (parseFloat .F32 true (bz "1e100f")) = some 6 := by decide +kernel

/-- class `exp-field-range` (C14-F7): "0.0000000001e39" denotes 1e29, inside the float range; `stof` throws because only the
exponent field (39 > 38) is looked at -/
theorem C14_w_open_exp_field_stof : stof 0 (bz "0.0000000001e39") = .throwRange ∧
    stof 0 (bz "10000000000e-39") = .throwRange := by decide +kernel

def lex1 : Lexeme := { neg := false, intDigits := [0], hasDot := true, fracDigits := [0, 0, 0, 0, 0, 0, 0, 0, 0, 1],
                       exp := some (false, [3, 9]) }

theorem C14_w_lex1 : scanNum (cstr (bz "0.0000000001e39")) = some (.dec lex1, 15) ∧ decimalValue lex1 = 10 ^ 29 := by
  decide +kernel

/-- the full "no spurious exception" statement is false of the code -/
theorem C14_w_no_spurious_refuted : ¬ C14_stof_no_spurious_statement := by
  intro H
  have h := H .F32 0 (bz "0.0000000001e39") (by decide +kernel)
  rw [C14_w_lex1.1] at h
  simp only [] at h
  have hv : (1 : Rat) / 10 ^ 30 ≤ absQ (decimalValue lex1) ∧ absQ (decimalValue lex1) ≤ 10 ^ 30 := by
    rw [C14_w_lex1.2]; decide +kernel
  obtain ⟨v, pos, e, hs⟩ := h hv
  have : stof 0 (bz "0.0000000001e39") = .throwRange := C14_w_open_exp_field_stof.1
  unfold stof at this
  rw [this] at hs
  cases hs

def lex2 : Lexeme := { neg := false, intDigits := [0], hasDot := true,
                       fracDigits := [0, 0, 0, 0, 0, 0, 0, 0, 0, 0, 0, 0, 0, 0, 0, 0, 0, 0, 0, 0, 0, 0, 1, 2, 3, 4], exp := none }

/-- class `frac-leading-zeros-19` (C14-F8): the first 19 fraction digits are zero, the value parses as 0 -/
theorem C14_w_open_frac_zeros :
    okOf (parseFloat .F32 false (bz "0.00000000000000000000001234")) = some ⟨⟨false, .fin 0⟩, 28, false⟩ ∧
    lexemeOf (cstr (bz "0.00000000000000000000001234")) = some lex2 ∧
    decimalValue lex2 = 1234 / 10 ^ 26 := by decide +kernel

/-- the full accuracy statement is false of the code for `float` -/
theorem C14_w_accuracy_refuted : ¬ C14_accuracy_statement .F32 := by
  intro H
  obtain ⟨r, q, hr, hv, hb⟩ := H false (bz "0.00000000000000000000001234") lex2 (by decide +kernel)
    C14_w_open_frac_zeros.2.1 (by decide +kernel)
    (by rw [C14_w_open_frac_zeros.2.2]; decide +kernel) (by rw [C14_w_open_frac_zeros.2.2]; decide +kernel)
  have h1 := C14_w_open_frac_zeros.1
  rw [hr] at h1
  simp only [okOf, Option.some.injEq] at h1
  subst h1
  simp only [FVal.mk.injEq, Mag.fin.injEq] at hv
  obtain ⟨_, hq⟩ := hv
  subst hq
  rw [C14_w_open_frac_zeros.2.2] at hb
  revert hb
  decide +kernel

/-- class `exp-field-range` also breaks accuracy in the unchecked variant: "10000000000e-39" (= 1e-29) gives about 1e-28 -/
theorem C14_w_open_exp_field_value :
    (match parseFloat .F32 false (bz "10000000000e-39") with
     | .ok r => (match r.val.mag with | .fin q => decide ((9 : Rat) / 10 ^ 29 ≤ q) | _ => false)
     | .error _ => false) = true := by decide +kernel

/-- class `near-max-overflow` (C14-F9): FLT_MAX in its 9-digit spelling lies in the normal range but inside the margin
`C14_accuracy_partial` leaves out; the range-checking variant reports a range error and returns infinity -/
theorem C14_w_open_near_max :
    (match parseFloat .F32 true (bz "3.40282347e+38") with
     | .ok r => (match r.val.mag with | .inf => r.erange | _ => false)
     | .error _ => false) = true := by decide +kernel

/-- "  +12345:" meets the hypotheses of `C14_accuracy_partial` and parses to 12345 exactly -/
theorem C14_w_accuracy_sample :
    (lexemeOf (cstr (bz "  +12345:"))).map (fun l => (l.intDigits, l.hasDot, l.exp)) = some ([1, 2, 3, 4, 5], false, none) ∧
    okOf (parseFloat .F32 false (bz "  +12345:")) = some ⟨⟨false, .fin 12345⟩, 8, false⟩ := by decide +kernel
/-- a hard stopper in the middle: the conversion of "1.5e3," does not depend on what follows the comma -/
theorem C14_w_local_sample : okOf (parseFloat .F64 true ((bz "1.5e3,").dropLast ++ [49, 50, 0])) =
    okOf (parseFloat .F64 true ((bz "1.5e3,").dropLast ++ [10, 55, 0])) := by decide +kernel

end DmlcModel.Props.C14Witness
