/-
C12 — parsers return exactly the rows a well-formed document describes: for every table, style and every conversion that is
local and exact, `ParseBlock` on the rendered document returns exactly the rows of the table, in order.  A lexeme means what the
conversion returns for it standing alone (numeric accuracy is C14).  This file: libsvm; libfm: C12Fm.lean; csv: C12Csv.lean.
-/
import DmlcModel.Parse.RenderTable
import DmlcModel.Props.C11Witness

namespace DmlcModel.Props.C12
open DmlcModel DmlcModel.Parse DmlcModel.Props.C11

/-- the row a parsed line means to the reader of the block: label, optional weight and qid, indices (shifted
under 1-based indexing), values if there are any -/
def expectSvmRow (iw mode : Nat) (L : SvmLine) : Row :=
  toRow (if mode > 0 then decRecIdx iw (svmRec L) else svmRec L)

theorem svm_rowRec {gR gI gQ : Bytes → Res Nat} {r : TRow} {L : SvmLine} (h : expLine gR gI gQ r = .ok L)
    (iw mode : Nat) (rec : LineRec) (e : rec = if mode > 0 then decRecIdx iw (svmRec L) else svmRec L) :
    RecOfRow r.qid r rec := by
  obtain ⟨lv, wv, qv, fs, _, hwv, hqv, hfs, rfl⟩ := expLine_ok h
  have hu := feats_vals (·.2) _ expEntry_isSome _ _ hfs
  subst e
  by_cases hm : mode > 0 <;> simp only [hm, if_true, if_false] <;>
    exact ⟨rfl, optVal_isSome hwv, optVal_isSome hqv, fun h => by simpa [decRecIdx, svmRec] using hu.1 h, hu.2⟩

/-- **C12 for libsvm.** For every table `T`, every style `σ` (one per row), every indexing mode and index
width, and every conversion that is local and exact: if the table is well formed (`WfRow`: lexemes, separators
of blanks, end-of-line strings of `\n` / `\r`, blank and comment lines, trailing comments …), its rows agree
on the presence of weights / qids / values, and every lexeme has a meaning (`expLine` succeeds), then
`ParseBlock` on the rendered document returns exactly the rows of the table, in order. -/
theorem C12_libsvm (conv : Conv) (gR gI gQ : Bytes → Res Nat) (gC : Bytes → Res (Nat × Nat))
    (hE : ExactWith conv gR gI gQ gC) (iw mode : Nat) (σ : List RowStyle) (T : List TRow)
    (hlen : σ.length = T.length) (hwf : ∀ z ∈ σ.zip T, WfRow z.1 z.2)
    (hW : (∀ r ∈ T, r.weight.isSome = true) ∨ (∀ r ∈ T, r.weight = none))
    (hQ : (∀ r ∈ T, r.qid.isSome = true) ∨ (∀ r ∈ T, r.qid = none))
    (hV : (∀ r ∈ T, ∀ e ∈ r.entries, e.value.isSome = true) ∨ (∀ r ∈ T, ∀ e ∈ r.entries, e.value = none))
    (hb : (renderSvm σ T).length + 2 < 2 ^ 64) (Ls : List SvmLine)
    (hLs : T.mapM (expLine gR gI gQ) = .ok Ls) :
    rows (.libsvm iw mode) conv (renderSvm σ T) = .ok (Ls.map (expectSvmRow iw mode)) := by
  have F : LineFormat (fun _ => true) (rows (.libsvm iw mode) conv) (svmRecS gR gI gQ iw mode) :=
    lineFormat hE.loc (.libsvm iw mode)
  refine styled_rows F (fun f => f.blanks ++ cPart f.comment) svmContent (expLine gR gI gQ)
    (fun L => if mode > 0 then decRecIdx iw (svmRec L) else svmRec L) (·.qid) σ T hlen (fun z hz f hf => ?_)
    (fun z hz => ⟨svmContent_clean (hwf z hz).line, (hwf z hz).eol, fun L hL => ?_⟩)
    (fun r _ L hL => svm_rowRec hL iw mode _ rfl) hW hQ hV Ls hLs hb
  · have h := endPart_mk ((hwf z hz).filler f hf).blanks ((hwf z hz).filler f hf).comment
    exact ⟨h.clean, ((hwf z hz).filler f hf).eol, svmRecS_none gR gI gQ iw mode (clean_noEol h.clean) h.icbS_nil⟩
  · simp only [svmRecS, svmLineS_render gR gI gQ hE.real hE.index hE.qid z.1.line z.2 (hwf z hz).line L hL,
      Except.map, Option.map]

/-- the conversion of the C11 witnesses (decimal digits at the start of the token run) is local and exact -/
theorem convRun_exact : ExactWith C11Witness.convRun (fun r => .ok (C11Witness.dig r)) (fun r => .ok (C11Witness.dig r))
    (fun r => .ok (C11Witness.dig r)) (fun r => .ok (C11Witness.dig r, (r.takeWhile C11Witness.isDig).length)) := by
  have hex : Exact (fun r => (.ok (C11Witness.dig r) : Res Nat)) := ⟨fun lex tail _ ht => by
    have : (lex ++ tail).takeWhile C11Witness.isDig = lex.takeWhile C11Witness.isDig :=
      takeWhile_append_stop _ _ _ (fun b hb => by
        have := delim_notDigit b (ht b hb)
        simp [C11Witness.isDig, isDigitCharB, Gen.Parse.isdigitchars] at this ⊢
        omega)
    simp [C11Witness.dig, this]⟩
  exact ⟨⟨fun _ _ _ => rfl, fun _ _ _ => rfl, fun _ _ _ => rfl, fun _ _ _ => rfl⟩, hex, hex, hex⟩

/-- "  1:2 qid:7\t3:4 5:6 # c\r\n" preceded by a comment line "# x\n", 1-based: the conclusion of `C12_libsvm`
computed on the model -/
example :
    rows (.libsvm 32 1) C11Witness.convRun
      (renderSvm [{ filler := [{ blanks := [], comment := some [32, 120], eol := [10] }],
                    line := { lead := [32, 32], qidSep := [32], seps := [[9], [32]], trail := [32], comment := some [32, 99] },
                    eol := [13, 10] }]
                 [{ label := [49], weight := some [50], qid := some [55],
                    entries := [{ index := [51], value := some [52] }, { index := [53], value := some [54] }] }])
      = .ok [{ label := some 1, weight := some 2, qid := some 7, field := none, index := [2, 4], value := some [4, 6] }] := by
  decide

end DmlcModel.Props.C12
