/-
C02 — RecordIO streams are self-synchronising; chunk-reader parts tile a chunk.
The property theorems are those named `C02_…`; the window arithmetic of the `RecordIOChunkReader` constructor before `C02_part` is
what that theorem and `C02_tiling` are stated and proved in.
-/
import DmlcModel.RecordIO.Tiling

namespace DmlcModel.Props.C02
open DmlcModel DmlcModel.RecordIO DmlcModel.Gen.RecordIO

/-- **Magic only in headers (word view).** The word image of every record is `magic, L, T` where `L`
is a length word with flag 0 or 1, and no later position of the image looks like a record head
(`magic` followed by a flag-0/1 length word) whatever bytes follow the record: continuation headers
carry flag 2/3, payload words and padded tails are never the magic word. -/
theorem C02_record_image_shape (r : Bytes) (h : r.length < 2 ^ 29) :
    ∃ L T, toWords (writeRecord r).1 = kMagic :: L :: T
      ∧ headAccept (decodeFlag L) = true ∧ skippable (L :: T) = true :=
  record_shape r h

/-- the magic constant can never be read as a length word with a legal flag -/
theorem C02_lrec_never_magic (f n : Nat) (hf : f < 4) (hn : n < 2 ^ 29) : encodeLRec f n ≠ kMagic :=
  Split.flag_ne_magic (by rw [decodeFlag_encode f n (by omega) hn]; omega)

/-- **Resynchronisation.** Scanning a writer-produced stream from ANY 4-byte-aligned offset with
`FindNextRecordIOHead` lands exactly on the start of the next logical record (the least record
start `≥ o`), or on the end of the stream — never inside a payload. -/
theorem C02_resync (rs : List Bytes) (h : ∀ r ∈ rs, r.length < 2 ^ 29) (o : Nat)
    (ha : o % 4 = 0) (hb : o ≤ (writeAll rs).length) :
    findNextHead (writeAll rs) o = some (nextStart rs 0 o) :=
  findNextHead_writeAll rs h o ha hb

/-- the value `nextStart` is a record boundary: the total image length of a prefix of the records -/
theorem C02_resync_is_record_start (rs : List Bytes) (o : Nat) :
    ∃ m, m ≤ rs.length ∧ nextStart rs 0 o = (writeAll (rs.take m)).length :=
  ⟨startIdx rs 0 o, startIdx_le rs 0 o, by rw [nextStart_eq]; simp⟩

/-- unaligned scan arguments are rejected by the `CHECK_EQ`s -/
theorem C02_scan_unaligned (s : Bytes) (o : Nat) (h : o % 4 ≠ 0) : findNextHead s o = none := by
  unfold findNextHead; simp [h]

/-- one `NextRecord` of the chunk reader positioned at a record start returns that record -/
theorem C02_next_at_record (chunk post r : Bytes) (pb pend : Nat) (hr : r.length < 2 ^ 29)
    (hdrop : chunk.drop pb = (writeRecord r).1 ++ post) (hfit : pb + imageLen r ≤ pend) :
    ChunkReader.next { chunk := chunk, pbegin := pb, pend := pend }
      = CRd.record r { chunk := chunk, pbegin := pb + imageLen r, pend := pend } :=
  next_at_record chunk post r pb pend hr hdrop hfit

/-! ### window arithmetic of the `RecordIOChunkReader` constructor -/

/-- size-fits-the-machine guard under which the constructor's `size_t`/`unsigned` arithmetic does
not wrap -/
def Fits (size n : Nat) : Prop := 1 ≤ n ∧ n + 1 < 2 ^ 32 ∧ (size + 3) * n < 2 ^ 64 ∧ size + n < 2 ^ 64

/-- part boundary `k` (byte offset), as computed by the constructor -/
def bound (size n k : Nat) : Nat := crBegin size (crStepAlign (crStepRaw size n)) k

theorem nstep_facts (size n : Nat) (hf : Fits size n) :
    crStepAlign (crStepRaw size n) % 4 = 0 ∧ size ≤ crStepAlign (crStepRaw size n) * n
      ∧ crStepAlign (crStepRaw size n) ≤ size + 3 := by
  obtain ⟨h1, h2, h3, h4⟩ := hf
  have hraw : crStepRaw size n = (size + n - 1) / n := by
    rw [crStepRaw, u64_of_lt h4, sub64_of_le h4 (by omega)]
  have hq := Nat.div_add_mod (size + n - 1) n
  have hm := Nat.mod_lt (size + n - 1) (by omega : n > 0)
  have hqle : (size + n - 1) / n ≤ size := by
    have := Nat.le_mul_of_pos_left size h1
    exact (Nat.div_le_iff_le_mul_add_pred h1).mpr (by omega)
  have halign : crStepAlign (crStepRaw size n) = ((size + n - 1) / n + 3) / 4 * 4 := by
    have h7 : size + 3 ≤ (size + 3) * n := Nat.le_mul_of_pos_right _ (by omega)
    rw [crStepAlign, hraw, u64_of_lt (n := _ + 3) (by omega), Nat.shiftRight_eq_div_pow, Nat.shiftLeft_eq,
      u64_of_lt (by omega)]
  rw [halign]
  refine ⟨by omega, ?_, by omega⟩
  have hge : (size + n - 1) / n ≤ ((size + n - 1) / n + 3) / 4 * 4 := by omega
  have h5 : (size + n - 1) / n * n ≤ ((size + n - 1) / n + 3) / 4 * 4 * n := Nat.mul_le_mul_right n hge
  have h6 : n * ((size + n - 1) / n) = (size + n - 1) / n * n := Nat.mul_comm _ _
  omega

theorem bound_facts (size n : Nat) (hs4 : size % 4 = 0) (hf : Fits size n) :
    (∀ k, k ≤ n → bound size n k % 4 = 0 ∧ bound size n k ≤ size)
    ∧ bound size n 0 = 0 ∧ bound size n n = size
    ∧ (∀ k, k < n → bound size n k ≤ bound size n (k + 1))
    ∧ (∀ k, k < n → crEnd size (crStepAlign (crStepRaw size n)) k = bound size n (k + 1)) := by
  obtain ⟨hn4, hcov, hle⟩ := nstep_facts size n hf
  obtain ⟨h1, h2, h3, h4⟩ := hf
  simp only [bound]
  generalize crStepAlign (crStepRaw size n) = ns at *
  have hmul : ∀ k, k ≤ n → ns * k < 2 ^ 64 := by
    intro k hk
    have : ns * k ≤ (size + 3) * n := Nat.mul_le_mul hle hk
    omega
  have hb : ∀ k, k ≤ n → crBegin size ns k = min size (ns * k) := by
    intro k hk
    rw [crBegin, u64_of_lt (hmul k hk)]
  refine ⟨?_, ?_, ?_, ?_, ?_⟩
  · intro k hk
    rw [hb k hk]
    have : ns * k % 4 = 0 := by
      rw [Nat.mul_mod, hn4]; simp
    constructor
    · by_cases hc : size ≤ ns * k
      · rw [Nat.min_eq_left hc]; exact hs4
      · rw [Nat.min_eq_right (by omega)]; exact this
    · exact Nat.min_le_left _ _
  · rw [hb 0 (by omega)]; simp
  · rw [hb n (Nat.le_refl n)]; exact Nat.min_eq_left hcov
  · intro k hk
    rw [hb k (by omega), hb (k + 1) (by omega)]
    have : ns * k ≤ ns * (k + 1) := Nat.mul_le_mul_left ns (by omega)
    by_cases hc : size ≤ ns * k
    · rw [Nat.min_eq_left hc, Nat.min_eq_left (by omega)]; exact Nat.le_refl _
    · rw [Nat.min_eq_right (by omega)]
      exact Nat.le_min.mpr ⟨by omega, this⟩
  · intro k hk
    rw [hb (k + 1) (by omega)]
    rw [crEnd, u32_of_lt (by omega), u64_of_lt (hmul (k + 1) (by omega))]

/-- the records part `k` of `n` returns: those whose start lies in `[bound k, bound (k+1))` -/
def partSlice (rs : List Bytes) (n k : Nat) : List Bytes :=
  let size := (writeAll rs).length
  (rs.drop (startIdx rs 0 (bound size n k))).take
    (startIdx rs 0 (bound size n (k + 1)) - startIdx rs 0 (bound size n k))

/-- **Each part returns a run of complete records**: part `k` of `n` over a chunk made of whole
records yields exactly the records that start inside its window, no `CHECK` fires. -/
theorem C02_part (rs : List Bytes) (h : ∀ r ∈ rs, r.length < 2 ^ 29) (n k : Nat)
    (hf : Fits (writeAll rs).length n) (hk : k < n) :
    chunkPart (writeAll rs) k n = some (partSlice rs n k) := by
  obtain ⟨hb, _, _, hmono, hend⟩ := bound_facts (writeAll rs).length n (Split.writeAll_length_mod4 rs h) hf
  have h1 := hb k (by omega)
  have h2 := hb (k + 1) (by omega)
  unfold chunkPart ChunkReader.init
  simp only [hend k hk]
  have hbk : crBegin (writeAll rs).length (crStepAlign (crStepRaw (writeAll rs).length n)) k
      = bound (writeAll rs).length n k := rfl
  rw [hbk]
  rw [findNextHead_writeAll rs h _ h1.1 h1.2, findNextHead_writeAll rs h _ h2.1 h2.2]
  exact part_records rs h _ _ (hmono k hk)

/-- **Tiling.** For every chunk made of whole records and every `num_parts = n ≥ 1`, the parts
`0 … n-1` of `RecordIOChunkReader` return disjoint consecutive runs of complete records whose
concatenation is exactly the chunk's records, in order. -/
theorem C02_tiling (rs : List Bytes) (h : ∀ r ∈ rs, r.length < 2 ^ 29) (n : Nat)
    (hf : Fits (writeAll rs).length n) :
    (∀ k, k < n → chunkPart (writeAll rs) k n = some (partSlice rs n k))
    ∧ (List.range n).flatMap (partSlice rs n) = rs := by
  obtain ⟨_, h0, hn, hmono, _⟩ := bound_facts (writeAll rs).length n (Split.writeAll_length_mod4 rs h) hf
  exact ⟨fun k hk => C02_part rs h n k hf hk, slices_cover rs h (bound (writeAll rs).length n) n hmono h0 hn⟩

end DmlcModel.Props.C02
