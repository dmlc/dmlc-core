/-
C12 for libfm: `LibFMParser::ParseBlock` on the rendered document returns exactly the rows of the table, in order; fields and
indices both shifted under 1-based indexing.  The hypotheses `z.1.line.comment = none`, `z.2.qid = none`, `f.comment = none` of
the statement are not used by the proof (`renderFm` never prints a comment or a qid): they only say that the style / table
carries nothing the libfm renderer would silently drop.
-/
import DmlcModel.Parse.RenderFm
import DmlcModel.Props.C11Witness

namespace DmlcModel.Props.C12
open DmlcModel DmlcModel.Parse DmlcModel.Props.C11

/-- the row a parsed libfm line means to the reader of the block: as `expectSvmRow`, fields shifted like the indices -/
def expectFmRow (iw mode : Nat) (L : FmLine) : Row :=
  toRow (if mode > 0 then decRecBoth iw (fmRec L) else fmRec L)

/-- **C12 for libfm**, the statement: as `C12_libsvm`, with `field:index[:value]` entries (fields and indices both
shifted under 1-based indexing), no qid, no comments (blank filler lines only) -/
def C12_libfm_statement : Prop :=
  ∀ (conv : Conv) (gR gI gQ : Bytes → Res Nat) (gC : Bytes → Res (Nat × Nat)), ExactWith conv gR gI gQ gC →
  ∀ (iw mode : Nat) (σ : List RowStyle) (T : List TRow), σ.length = T.length →
    (∀ z ∈ σ.zip T, WfRow z.1 z.2 ∧ z.1.line.comment = none ∧ z.2.qid = none ∧
      (∀ f ∈ z.1.filler, f.comment = none) ∧ ∀ e ∈ z.2.entries, IsDigits e.field) →
    ((∀ r ∈ T, r.weight.isSome = true) ∨ (∀ r ∈ T, r.weight = none)) →
    ((∀ r ∈ T, ∀ e ∈ r.entries, e.value.isSome = true) ∨ (∀ r ∈ T, ∀ e ∈ r.entries, e.value = none)) →
    (renderFm σ T).length + 2 < 2 ^ 64 → ∀ Ls, T.mapM (expLineFm gR gI) = .ok Ls →
      rows (.libfm iw mode) conv (renderFm σ T) = .ok (Ls.map (expectFmRow iw mode))

theorem C12_libfm : C12_libfm_statement := by
  intro conv gR gI gQ gC hE iw mode σ T hlen hwf0 hW hV hb Ls hLs
  have F : LineFormat (fun _ => true) (rows (.libfm iw mode) conv) (fmRecS gR gI iw mode) :=
    lineFormat hE.loc (.libfm iw mode)
  refine styled_rows F Filler.blanks fmContent (expLineFm gR gI)
    (fun L => if mode > 0 then decRecBoth iw (fmRec L) else fmRec L) (fun _ => none) σ T hlen (fun z hz f hf => ?_)
    (fun z hz => ⟨fmContent_clean (hwf0 z hz).1.line (hwf0 z hz).2.2.2.2, (hwf0 z hz).1.eol, fun L hL => ?_⟩)
    (fun r _ L hL => fm_rowRec hL iw mode _ rfl) hW (Or.inr fun _ _ => rfl) hV Ls hLs hb
  · have h := ((hwf0 z hz).1.filler f hf).blanks
    exact ⟨blanks_clean h, ((hwf0 z hz).1.filler f hf).eol, fmRecS_blank gR gI iw mode h⟩
  · simp only [fmRecS, fmLineS_render gR gI hE.real hE.index z.1.line z.2 (hwf0 z hz).1.line (hwf0 z hz).2.2.2.2 L hL,
      Except.map, Option.map]

/-- " 1:2\t3:4:5  6:7:8 \r\n" preceded by a blank line " \t\n", then "2:9 1:10:7\n", 1-based: the conclusion of
`C12_libfm` computed on the model (fields and indices both shifted) -/
example :
    rows (.libfm 32 1) C11Witness.convRun
      (renderFm [{ filler := [{ blanks := [32, 9], comment := none, eol := [10] }],
                   line := { lead := [32], qidSep := [32], seps := [[9], [32, 32]], trail := [32], comment := none },
                   eol := [13, 10] },
                 { filler := [],
                   line := { lead := [], qidSep := [32], seps := [[32]], trail := [], comment := none },
                   eol := [10] }]
                [{ label := [49], weight := some [50],
                   entries := [{ field := [51], index := [52], value := some [53] },
                               { field := [54], index := [55], value := some [56] }] },
                 { label := [50], weight := some [57],
                   entries := [{ field := [49], index := [49, 48], value := some [55] }] }])
      = .ok [{ label := some 1, weight := some 2, qid := none, field := some [2, 5], index := [3, 6], value := some [5, 8] },
             { label := some 2, weight := some 9, qid := none, field := some [0], index := [9], value := some [7] }] := by
  decide

/-- the same document is what `renderFm` says it is (bytes), and the expected rows are the ones of the table -/
example :
    renderFm [{ filler := [{ blanks := [32, 9], comment := none, eol := [10] }],
                line := { lead := [32], qidSep := [32], seps := [[9], [32, 32]], trail := [32], comment := none },
                eol := [13, 10] },
              { filler := [],
                line := { lead := [], qidSep := [32], seps := [[32]], trail := [], comment := none },
                eol := [10] }]
             [{ label := [49], weight := some [50],
                entries := [{ field := [51], index := [52], value := some [53] },
                            { field := [54], index := [55], value := some [56] }] },
              { label := [50], weight := some [57],
                entries := [{ field := [49], index := [49, 48], value := some [55] }] }]
      = [32, 9, 10, 32, 49, 58, 50, 9, 51, 58, 52, 58, 53, 32, 32, 54, 58, 55, 58, 56, 32, 13, 10,
         50, 58, 57, 32, 49, 58, 49, 48, 58, 55, 10] := by
  decide

end DmlcModel.Props.C12
