/-
C07 — life cycle of one ThreadedIter object: `Init` again after `Destroy` (what unittest_threaditer_exc_handling does
after a producer failure).  `Gen.TIter.initSig / initProcessed / initProduceEnd / initClearsExc` are the assignments
`Init(next, beforefirst)` makes in front of the producer thread, read from the source.
-/
import DmlcModel.TIter.Lifecycle
import DmlcModel.Props.C07

namespace DmlcModel.Props.C07Lifecycle
open DmlcModel.TIter DmlcModel.Gen.TIter

/-- `Init` itself assigns the command word, both flags and the stored exception: it does not rely on the constructor
or on what the previous life left behind -/
theorem C07_init_assigns_everything :
    initSig = some kProduce ∧ initProcessed = some false ∧ initProduceEnd = some false ∧ initClearsExc = true := by
  decide

/-- the second life starts in the initial state: wherever in the first life (also after a producer failure) `Destroy`'s
join returns while nothing is lent, `Init` puts the object exactly into `init` -/
theorem C07_reinit_is_init {P : Params} {s s' : State} (h : Reachable P s) (hs : step P s .xStep = some s')
    (hx : s.xloc = .dJoin) (hl : s.lent = []) (hr : s.recycling = []) : reinit s' = init := by
  have hr' : Reachable P s' := .step _ h hs
  refine reinit_eq_init (inv_reachable hr').a ?_
  exact afterDestroy_of_join ((inv_reachable h).a.excl (by rw [hx]; simp)) hs hx hl hr

/-- hence every state of the second life is a reachable state of the same transition system, for the scripts and the
capacity of the second life: all theorems stated over `Reachable` hold in it unchanged -/
theorem C07_second_life {P P' : Params} {s s' t : State} (h : Reachable P s) (hs : step P s .xStep = some s')
    (hx : s.xloc = .dJoin) (hl : s.lent = []) (hr : s.recycling = [])
    (ht : ∃ es : List Event, (es.foldlM (fun st e => step P' st e) (reinit s')) = some t) : Reachable P' t := by
  rw [C07_reinit_is_init h hs hx hl hr] at ht
  obtain ⟨es, hes⟩ := ht
  exact reachable_run es init t .init ((runEvents_eq_foldlM _ P' es init).trans hes)

/-- two items, capacity 1 -/
def Pl : Params := { src := fun _ i => if i < 2 then .item i else .fin, rew := fun _ => .ok, cap := 1 }

/-- the producer queues the first item, a consumer takes it and gives the cell back, then `Destroy`: command posted, the
producer sees it and exits; `Destroy` is about to join -/
def schedDestroy : List Event :=
  [.prod, .prod, .prod, .prod, .nStart false, .nLoadSig, .nExc, .nLock, .nRetItem, .rStart 0, .rExc 0, .rLock 0, .rRet,
   .dStart, .xStep, .prod, .prod]

def sJoin : State := (runEvents true Pl init schedDestroy).getD init
def sDone : State := (stepR true Pl sJoin .xStep).getD init

/-- non-vacuity of `C07_reinit_is_init` / `C07_second_life`: a mid-stream `Destroy` (one item delivered and recycled, one
cell in the free list, the second item never produced) meets the hypotheses -/
example : Reachable Pl sJoin ∧ step Pl sJoin .xStep = some sDone ∧ sJoin.xloc = .dJoin ∧ sJoin.lent = [] ∧
    sJoin.recycling = [] ∧ sJoin.free = [0] ∧ sJoin.delivered.length = 1 ∧ sDone.joined = true ∧ reinit sDone = init :=
  ⟨reachable_run schedDestroy init sJoin ReachableR.init (by rfl), by rfl, by rfl, by rfl, by rfl, by rfl, by rfl, by rfl,
   by rfl⟩

end DmlcModel.Props.C07Lifecycle
