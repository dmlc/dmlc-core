/-
C11 — parsed rows depend only on the lines: invariant under chunking, threads, parts.  Generic in the numeric conversions
`conv` (contract `Conv.Local`); about the model with `Fixes.current`, the repairs the source is found to carry
(`C11_source_is_repaired` stops compiling when one of the `fix:` commits of findings C11-F1..F5 is missing).
-/
import DmlcModel.Parse.Formats
import DmlcModel.Parse.FillRows
import DmlcModel.Parse.Cuts

namespace DmlcModel.Props.C11
open DmlcModel DmlcModel.Parse

/-- the source carries the repairs of findings C11-F1..F5 (read off the source by `Gen.Parse.fix*`) -/
theorem C11_source_is_repaired : Fixes.current = Fixes.repaired := by decide

/-- the rows `P::ParseBlock` + `GetBlock` + `operator[]` hand out for the block `[a, b)` of `mem` -/
def rowsAt (f : Format) (conv : Conv) (mem : Bytes) (a b : Nat) : Res (List Row) :=
  (f.parseBlock Fixes.current conv mem a b).bind rowsOf

/-- … for a NUL-terminated text; applied to one line this is "the line parsed on its own" -/
def rows (f : Format) (conv : Conv) (t : Bytes) : Res (List Row) := rowsAt f conv (t ++ [0]) 0 t.length

/-- **C11, core statement** for a parser `f`: for every text in which no single line makes the parser
throw and whose rows agree on the optional parts they carry, the rows of the block are the
concatenation of the rows of its lines, each parsed on its own (no token of one line influences the
row of another line). -/
def C11_block_is_concat_of_lines_statement (f : Format) : Prop :=
  ∀ (conv : Conv), conv.Local → ∀ (t : Bytes), t.length + 2 < 2 ^ 64 → ∀ (rss : List (List Row)),
    (eolSplit t).mapM (rows f conv) = .ok rss → AgreeRows rss.flatten → rows f conv t = .ok rss.flatten

/-- the text of a chunk is acceptable to parser `f`: csv wants no NUL byte inside -/
def GoodText (f : Format) (t : Bytes) : Prop :=
  match f with
  | .csv _ => ∀ b ∈ t, b ≠ 0
  | _ => True

theorem GoodText.goodB {f : Format} {t : Bytes} (h : GoodText f t) : ∀ b ∈ t, f.goodB b = true := by
  cases f with
  | csv prm => exact fun b hb => by simpa [Format.goodB, nonNulB] using h b hb
  | libsvm _ _ => exact fun _ _ => rfl
  | libfm _ _ => exact fun _ _ => rfl

section
variable {conv : Conv} {gR gI gQ : Bytes → Res Nat} {gC : Bytes → Res (Nat × Nat)}
  (hL : conv.LocalWith gR gI gQ gC) (f : Format)
include hL

theorem blockFormat : BlockFormat f.goodB (f.parseBlock Fixes.current conv) (f.recS gR gI gQ gC) :=
  C11_source_is_repaired ▸ f.blockFormat hL

theorem lineFormat : LineFormat f.goodB (rows f conv) (f.recS gR gI gQ gC) :=
  (blockFormat hL f).lineFormat

end

theorem C11_block_is_concat_of_lines_libsvm (iw mode : Nat) :
    C11_block_is_concat_of_lines_statement (.libsvm iw mode) :=
  fun _ ⟨_, _, _, _, hL⟩ t hb rss hl ha => (lineFormat hL _).concat_of_lines t (fun _ _ => rfl) hb rss hl ha

theorem C11_block_is_concat_of_lines_libfm (iw mode : Nat) :
    C11_block_is_concat_of_lines_statement (.libfm iw mode) :=
  fun _ ⟨_, _, _, _, hL⟩ t hb rss hl ha => (lineFormat hL _).concat_of_lines t (fun _ _ => rfl) hb rss hl ha

/-- the csv instance of the core statement, for texts without a NUL byte inside (a NUL ends the C string the
conversions read, which the locality contract of `conv.cell` does not cover).  "Blank line" for csv = empty
line; a line that holds nothing but a UTF-8 BOM counts as empty (C11-F5). -/
def C11_block_is_concat_of_lines_csv_statement (prm : CsvParam) : Prop :=
  ∀ (conv : Conv), conv.Local → ∀ (t : Bytes), (∀ b ∈ t, b ≠ 0) → t.length + 2 < 2 ^ 64 → ∀ (rss : List (List Row)),
    (eolSplit t).mapM (rows (.csv prm) conv) = .ok rss → AgreeRows rss.flatten → rows (.csv prm) conv t = .ok rss.flatten

theorem C11_block_is_concat_of_lines_csv (prm : CsvParam) : C11_block_is_concat_of_lines_csv_statement prm :=
  fun _ ⟨_, _, _, _, hL⟩ t hn hb rss hl ha =>
    (lineFormat hL (.csv prm)).concat_of_lines t (GoodText.goodB (f := .csv prm) hn) hb rss hl ha

def C11_cut_statement (f : Format) : Prop :=
  ∀ (conv : Conv), conv.Local → ∀ (x y : Bytes) (e : UInt8), isEolB e = true → (x ++ e :: y).length + 2 < 2 ^ 64 →
    ∀ (rss : List (List Row)), (eolSplit (x ++ e :: y)).mapM (rows f conv) = .ok rss → AgreeRows rss.flatten →
    ∃ rx ry, rows f conv (x ++ e :: y) = .ok (rx ++ ry) ∧
      -- thread slices: the cut byte starts the right piece (BackFindEndLine returns its position)
      rows f conv x = .ok rx ∧ rows f conv (e :: y) = .ok ry ∧
      -- chunks and parts: the cut byte ends the left piece (C03: cuts fall directly after an end-of-line byte)
      rows f conv (x ++ [e]) = .ok rx ∧ rows f conv y = .ok ry

/-- two adjacent thread slices `[a,b)`, `[b,c)` of FillData (the cut `b` is the position of an end-of-line
byte, as `BackFindEndLine` returns it): their rows, in order, are the rows of `[a,c)` -/
theorem C11_thread_invariant_libsvm (iw mode : Nat) : C11_cut_statement (.libsvm iw mode) :=
  fun _ ⟨_, _, _, _, hL⟩ x y e he => (lineFormat hL _).cut_rows x y e he fun _ _ => rfl

theorem C11_thread_invariant_libfm (iw mode : Nat) : C11_cut_statement (.libfm iw mode) :=
  fun _ ⟨_, _, _, _, hL⟩ x y e he => (lineFormat hL _).cut_rows x y e he fun _ _ => rfl

/-- **chunks** (any buffer size; C03: every chunk but the last of a part ends directly after an end-of-line byte —
the hypothesis `isEolB p.2`): the rows of the chunks `xᵢ eᵢ`, `z`, in order, are the rows of the whole text -/
def C11_pieces_after_eol_statement (f : Format) : Prop :=
  ∀ (conv : Conv), conv.Local → ∀ (ps : List (Bytes × UInt8)) (z : Bytes), (∀ p ∈ ps, isEolB p.2 = true) →
    (joinAfter ps z).length + 2 < 2 ^ 64 → ∀ (rss : List (List Row)),
    (eolSplit (joinAfter ps z)).mapM (rows f conv) = .ok rss → AgreeRows rss.flatten →
    ∃ rs rz, ps.mapM (fun p => rows f conv (p.1 ++ [p.2])) = .ok rs ∧ rows f conv z = .ok rz ∧
      rows f conv (joinAfter ps z) = .ok (rs.flatten ++ rz)

/-- **thread slices** of FillData (`BackFindEndLine` returns the position of an end-of-line byte, so every slice
but the first starts with one — the hypothesis `isEolB p.1`): rows of `z`, `(eᵢ yᵢ)` in order = rows of the chunk -/
def C11_pieces_at_eol_statement (f : Format) : Prop :=
  ∀ (conv : Conv), conv.Local → ∀ (ps : List (UInt8 × Bytes)) (z : Bytes), (∀ p ∈ ps, isEolB p.1 = true) →
    (joinAt z ps).length + 3 < 2 ^ 64 → ∀ (rss : List (List Row)),
    (eolSplit (joinAt z ps)).mapM (rows f conv) = .ok rss → AgreeRows rss.flatten →
    ∃ rz rs, rows f conv z = .ok rz ∧ ps.mapM (fun p => rows f conv (p.1 :: p.2)) = .ok rs ∧
      rows f conv (joinAt z ps) = .ok (rz ++ rs.flatten)

theorem C11_thread_invariant_nary_libsvm (iw mode : Nat) : C11_pieces_at_eol_statement (.libsvm iw mode) :=
  fun _ ⟨_, _, _, _, hL⟩ ps z he => (lineFormat hL _).pieces_at_eol ps z he fun _ _ => rfl

theorem C11_thread_invariant_nary_libfm (iw mode : Nat) : C11_pieces_at_eol_statement (.libfm iw mode) :=
  fun _ ⟨_, _, _, _, hL⟩ ps z he => (lineFormat hL _).pieces_at_eol ps z he fun _ _ => rfl

theorem C11_chunk_invariant_libsvm (iw mode : Nat) : C11_pieces_after_eol_statement (.libsvm iw mode) :=
  fun _ ⟨_, _, _, _, hL⟩ ps z he => (lineFormat hL _).pieces_after_eol ps z he fun _ _ => rfl

theorem C11_chunk_invariant_libfm (iw mode : Nat) : C11_pieces_after_eol_statement (.libfm iw mode) :=
  fun _ ⟨_, _, _, _, hL⟩ ps z he => (lineFormat hL _).pieces_after_eol ps z he fun _ _ => rfl

/-- **parts** (C03_parts_cover: every part but the last ends directly after an end-of-line byte): the statement of
`C11_chunk_invariant_*` once more, read with the parts as the pieces; the composition with the chunks is `C11_pipeline` -/
theorem C11_part_invariant_libsvm (iw mode : Nat) : C11_pieces_after_eol_statement (.libsvm iw mode) :=
  C11_chunk_invariant_libsvm iw mode
theorem C11_part_invariant_libfm (iw mode : Nat) : C11_pieces_after_eol_statement (.libfm iw mode) :=
  C11_chunk_invariant_libfm iw mode

/-- csv: the same for NUL-free texts -/
theorem C11_thread_invariant_nary_csv (prm : CsvParam) (conv : Conv) (hL : conv.Local)
    (ps : List (UInt8 × Bytes)) (z : Bytes) (he : ∀ p ∈ ps, isEolB p.1 = true) (hn : ∀ b ∈ joinAt z ps, b ≠ 0)
    (hb : (joinAt z ps).length + 3 < 2 ^ 64) (rss : List (List Row))
    (hl : (eolSplit (joinAt z ps)).mapM (rows (.csv prm) conv) = .ok rss) (ha : AgreeRows rss.flatten) :
    ∃ rz rs, rows (.csv prm) conv z = .ok rz ∧ ps.mapM (fun p => rows (.csv prm) conv (p.1 :: p.2)) = .ok rs ∧
      rows (.csv prm) conv (joinAt z ps) = .ok (rz ++ rs.flatten) :=
  let ⟨_, _, _, _, hL⟩ := hL
  (lineFormat hL (.csv prm)).pieces_at_eol ps z he (GoodText.goodB (f := .csv prm) hn) hb rss hl ha

theorem C11_chunk_invariant_csv (prm : CsvParam) (conv : Conv) (hL : conv.Local)
    (ps : List (Bytes × UInt8)) (z : Bytes) (he : ∀ p ∈ ps, isEolB p.2 = true) (hn : ∀ b ∈ joinAfter ps z, b ≠ 0)
    (hb : (joinAfter ps z).length + 2 < 2 ^ 64) (rss : List (List Row))
    (hl : (eolSplit (joinAfter ps z)).mapM (rows (.csv prm) conv) = .ok rss) (ha : AgreeRows rss.flatten) :
    ∃ rs rz, ps.mapM (fun p => rows (.csv prm) conv (p.1 ++ [p.2])) = .ok rs ∧ rows (.csv prm) conv z = .ok rz ∧
      rows (.csv prm) conv (joinAfter ps z) = .ok (rs.flatten ++ rz) :=
  let ⟨_, _, _, _, hL⟩ := hL
  (lineFormat hL (.csv prm)).pieces_after_eol ps z he (GoodText.goodB (f := .csv prm) hn) hb rss hl ha

/-- see `C11_part_invariant_libsvm` -/
theorem C11_part_invariant_csv (prm : CsvParam) (conv : Conv) (hL : conv.Local)
    (ps : List (Bytes × UInt8)) (z : Bytes) (he : ∀ p ∈ ps, isEolB p.2 = true) (hn : ∀ b ∈ joinAfter ps z, b ≠ 0)
    (hb : (joinAfter ps z).length + 2 < 2 ^ 64) (rss : List (List Row))
    (hl : (eolSplit (joinAfter ps z)).mapM (rows (.csv prm) conv) = .ok rss) (ha : AgreeRows rss.flatten) :
    ∃ rs rz, ps.mapM (fun p => rows (.csv prm) conv (p.1 ++ [p.2])) = .ok rs ∧ rows (.csv prm) conv z = .ok rz ∧
      rows (.csv prm) conv (joinAfter ps z) = .ok (rs.flatten ++ rz) :=
  C11_chunk_invariant_csv prm conv hL ps z he hn hb rss hl ha

/-- **FillData's thread slices satisfy the cut hypothesis** of `C11_thread_invariant_nary_*`: thread `tid` parses
`[cutAt tid, cutAt (tid + 1))` (Gen.nstep / sbegin / send and BackFindEndLine); the slices are contiguous and cover the chunk,
and every interior cut is 0 (the slices in front of it are empty) or the position of an end-of-line byte: the non-empty slices
are `z, e₁y₁, e₂y₂, …`, the shape `joinAt z ps` of the n-ary theorems. -/
theorem C11_fillData_slices (mem : Bytes) (size nthread : Nat) (h1 : 1 ≤ nthread) (hn : nthread < 4294967296)
    (hs : size + nthread < 9223372036854775808) (hr : size < mem.length) :
    cutAt mem size nthread 0 = 0 ∧ cutAt mem size nthread nthread = size ∧
    (∀ i, i < nthread → cutAt mem size nthread i ≤ cutAt mem size nthread (i + 1)) ∧
    (∀ i, 0 < i → i < nthread → cutAt mem size nthread i = 0 ∨
      ∃ b, mem[cutAt mem size nthread i]? = some b ∧ isEolB b = true) ∧
    (∀ tid, tid < nthread →
      threadSlice mem size nthread tid = .ok (cutAt mem size nthread tid, cutAt mem size nthread (tid + 1))) :=
  let C := fillData_slices mem size nthread h1 hn hs hr
  ⟨C.first, C.last, C.mono, fun i _ => C.atEol i, C.slice⟩

/-- **FillData.** For every chunk `t` whose end is harmless — it ends with an end-of-line byte, as every chunk of an
InputSplit does, or a NUL / end-of-line byte follows it — every `nthread ≥ 1` and every parser: the rows of the blocks
FillData + ParserImpl::Next emit, in thread order, are the rows of ParseBlock on the whole chunk.  The slices are the real
ones: Gen nstep / sbegin / send + BackFindEndLine. -/
theorem C11_fillData_rows (f : Format) (conv : Conv) (hL : conv.Local) (mem : Bytes) (size nthread : Nat) (t : Bytes)
    (hAt : At mem 0 size t) (hT : TermOr mem size t) (hpos : 0 < size) (h1 : 1 ≤ nthread)
    (hn : nthread < 4294967296) (hs : size + nthread < 9223372036854775808) (hr : size < mem.length)
    (hg : GoodText f t) (rss : List (List Row))
    (hl : (eolSplit t).mapM (rows f conv) = .ok rss) (ha : AgreeRows rss.flatten) :
    ((fillData (f.parseBlock Fixes.current conv) mem size nthread).bind blocksOf).map List.flatten = .ok rss.flatten ∧
    rows f conv t = .ok rss.flatten := by
  obtain ⟨gR, gI, gQ, gC, hL⟩ := hL
  have hlen : size = t.length := by have := hAt.2; omega
  exact ⟨fillData_rows (blockFormat hL f) mem size nthread t hAt hT hpos h1 hn hs hr hg.goodB rss hl ha,
    (lineFormat hL f).concat_of_lines t hg.goodB (by omega) rss hl ha⟩

/-- the rows of a block do not depend on the memory around it, as long as the byte after the block is a
NUL or an end-of-line byte (what FillData's slices and the InputSplit chunks guarantee) -/
theorem C11_trailing_bytes_irrelevant_libsvm (iw mode : Nat) (conv : Conv) (hL : conv.Local)
    (mem mem' : Bytes) (a b a' b' : Nat) (t : Bytes) (hb : t.length + 2 < 2 ^ 64)
    (h : At mem a b t) (h' : At mem' a' b' t) (hT : TermOr mem b t) (hT' : TermOr mem' b' t) :
    rowsAt (.libsvm iw mode) conv mem a b = rowsAt (.libsvm iw mode) conv mem' a' b' := by
  obtain ⟨gR, gI, gQ, gC, hL⟩ := hL
  simp only [rowsAt, Format.parseBlock, C11_source_is_repaired]
  exact (svm_block_eq_at hL iw mode h hT hb).trans (svm_block_eq_at hL iw mode h' hT' hb).symm

theorem C11_trailing_bytes_irrelevant_libfm (iw mode : Nat) (conv : Conv) (hL : conv.Local)
    (mem mem' : Bytes) (a b a' b' : Nat) (t : Bytes) (hb : t.length + 2 < 2 ^ 64)
    (h : At mem a b t) (h' : At mem' a' b' t) (hT : TermOr mem b t) (hT' : TermOr mem' b' t) :
    rowsAt (.libfm iw mode) conv mem a b = rowsAt (.libfm iw mode) conv mem' a' b' := by
  obtain ⟨gR, gI, gQ, gC, hL⟩ := hL
  simp only [rowsAt, Format.parseBlock, C11_source_is_repaired]
  exact (fm_block_eq_at hL iw mode h hT hb).trans (fm_block_eq_at hL iw mode h' hT' hb).symm

theorem icbS_blank_comment (l rest : Bytes) (hl : ∀ b ∈ l, isBlankB b = true) :
    icbS l = [] ∧ icbS (l ++ 35 :: rest) = [] := by
  have h1 := icbS_blanks_append hl []
  rw [List.append_nil] at h1
  exact ⟨h1, by rw [icbS_blanks_append hl]; rfl⟩

/-- a libsvm line of blanks, or of blanks followed by `#…`, contributes no row -/
theorem C11_blank_and_comment_lines_libsvm (iw mode : Nat) (conv : Conv) (hL : conv.Local)
    (l rest : Bytes) (hl : ∀ b ∈ l, isBlankB b = true) (hrest : ∀ b ∈ rest, isEolB b = false)
    (hbl : l.length + 2 < 2 ^ 64) (hbl2 : (l ++ 35 :: rest).length + 2 < 2 ^ 64) :
    rows (.libsvm iw mode) conv l = .ok [] ∧ rows (.libsvm iw mode) conv (l ++ 35 :: rest) = .ok [] := by
  obtain ⟨gR, gI, gQ, gC, hL⟩ := hL
  have F := lineFormat hL (.libsvm iw mode)
  have hne : ∀ b ∈ l, isEolB b = false := fun b hb => nonStop_notEol b (blank_nonStop b (hl b hb))
  have h2 : ∀ b ∈ l ++ 35 :: rest, isEolB b = false := by
    intro b hb
    simp at hb
    rcases hb with hb | rfl | hb
    · exact hne b hb
    · decide
    · exact hrest b hb
  exact ⟨F.rows_none l (fun _ _ => rfl) hbl hne (svmRecS_none gR gI gQ iw mode hne (icbS_blank_comment l rest hl).1),
    F.rows_none _ (fun _ _ => rfl) hbl2 h2 (svmRecS_none gR gI gQ iw mode h2 (icbS_blank_comment l rest hl).2)⟩

/-- a libfm line of blanks contributes no row -/
theorem C11_blank_lines_libfm (iw mode : Nat) (conv : Conv) (hL : conv.Local)
    (l : Bytes) (hl : ∀ b ∈ l, isBlankB b = true) (hbl : l.length + 2 < 2 ^ 64) :
    rows (.libfm iw mode) conv l = .ok [] := by
  obtain ⟨gR, gI, gQ, gC, hL⟩ := hL
  have hne : ∀ b ∈ l, isEolB b = false := fun b hb => nonStop_notEol b (blank_nonStop b (hl b hb))
  exact (lineFormat hL (.libfm iw mode)).rows_none l (fun _ _ => rfl) hbl hne (fmRecS_blank gR gI iw mode hl)

/-- csv: the rows of a block do not depend on the memory around it (the byte after the block readable and a NUL
or an end-of-line byte; NUL-free block) -/
theorem C11_trailing_bytes_irrelevant_csv (prm : CsvParam) (conv : Conv) (hL : conv.Local)
    (mem mem' : Bytes) (a b a' b' : Nat) (t : Bytes) (hb : t.length + 2 < 2 ^ 64) (hn : ∀ x ∈ t, x ≠ 0)
    (h : At mem a b t) (h' : At mem' a' b' t) (hT : TermOr mem b t) (hT' : TermOr mem' b' t)
    (hr : b < mem.length) (hr' : b' < mem'.length) (hb2 : b < 2 ^ 64) (hb2' : b' < 2 ^ 64) :
    rowsAt (.csv prm) conv mem a b = rowsAt (.csv prm) conv mem' a' b' := by
  obtain ⟨gR, gI, gQ, gC, hL⟩ := hL
  have B := blockFormat hL (.csv prm)
  have hg := GoodText.goodB (f := .csv prm) hn
  exact (B.at_rows h hT hr hb2 hg hb).trans (B.at_rows h' hT' hr' hb2' hg hb).symm

/-- csv: an empty line, and a line that holds nothing but a UTF-8 BOM, contribute no row -/
theorem C11_blank_lines_csv (prm : CsvParam) (conv : Conv) (hL : conv.Local) :
    rows (.csv prm) conv [] = .ok [] ∧ rows (.csv prm) conv [239, 187, 191] = .ok [] := by
  obtain ⟨gR, gI, gQ, gC, hL⟩ := hL
  have F := lineFormat hL (.csv prm)
  refine ⟨F.rows_empty, F.rows_none _ (by simp [Format.goodB, nonNulB]) (by simp) (by decide) ?_⟩
  have hd : dropBOM ([239, 187, 191] : Bytes) = [] := by decide
  have he : ([239, 187, 191] : Bytes).dropWhile isEolB = [239, 187, 191] := by decide
  simp [Format.recS, csvRecS, csvLineS, he, hd, Except.map]

end DmlcModel.Props.C11
