/-
C16 witnesses: the pinned `WriteObjectKeyValue` (finding C16-F9), the need for `clean` in `C16_wellformed`, and
reader quirks on malformed input that the property tolerates.
-/
import DmlcModel.Json.Model

namespace DmlcModel.Props.C16
open DmlcModel DmlcModel.Json

/-- the text the pinned code writes for `std::map<std::string,int>{{k, i}}`: `{"` k `": ` i `}` -/
def pinnedMapText (k : Bytes) (i : Int) : Bytes :=
  [123, 34] ++ k ++ [34, 58, 32] ++ IStreamInt.render i ++ [125]

def mapI32 : JTy := .map (.int 32 true)
/-- the key `a"b` -/
def keyQ : Bytes := [97, 34, 98]

/-- pinned tree: `{"a"b": 1}` is what gets written; reading it back raises dmlc::Error … -/
theorem C16_F9_pinned_roundtrip_fails :
    (match readTop mapI32 (pinnedMapText keyQ 1) with | .error .check => true | _ => false) = true := by decide

/-- … and the text is not JSON -/
theorem C16_F9_pinned_not_wellformed : wellFormed (pinnedMapText keyQ 1) = false := by decide

/-- repaired writer: the key is escaped (`{"a\"b": 1}`), the text is JSON and reads back -/
theorem C16_F9_fixed_ok :
    enc mapI32 (.obj [(keyQ, .int 1)]) [] = [123, 34, 97, 92, 34, 98, 34, 58, 32, 49, 125] ∧
    wellFormed (enc mapI32 (.obj [(keyQ, .int 1)]) []) = true ∧
    (match readTop mapI32 (enc mapI32 (.obj [(keyQ, .int 1)]) []) with
      | .ok (.obj [(k, .int 1)], st) => k == keyQ && st.inp.isEmpty
      | _ => false) = true := by decide

/-- a control character other than TAB / LF / CR is written raw: the round trip holds, the text is not
JSON (this is why `C16_wellformed` carries the `clean` hypothesis, as the property does) -/
theorem C16_control_char_raw :
    enc .str (.str [1]) [] = [34, 1, 34] ∧ wellFormed [34, 1, 34] = false ∧
    (match readTop .str [34, 1, 34] with | .ok (.str [1], _) => true | _ => false) = true := by decide

/-- reader quirks on malformed input (tolerated: "returns or raises"): EOF after an element ends an
array (`[1, 2` is accepted), `-1` read into an unsigned wraps, a raw TAB inside a string is accepted -/
theorem C16_reader_quirks :
    (match readTop (.vec (.int 32 true)) [91, 49, 44, 32, 50] with | .ok (.arr [.int 1, .int 2], _) => true | _ => false) = true ∧
    (match readTop (.int 32 false) [45, 49] with | .ok (.int 4294967295, _) => true | _ => false) = true ∧
    (match readTop .str [34, 9, 34] with | .ok (.str [9], _) => true | _ => false) = true := by decide

end DmlcModel.Props.C16
