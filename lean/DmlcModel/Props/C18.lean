/-
C18 — ConcurrentBlockingQueue (FIFO and priority) and ManualEvent are correct under every schedule: any number of
threads, any program, any interleaving at synchronisation operations, spurious wake-ups included.
-/
import DmlcModel.CQueue.Invariant
import DmlcModel.CQueue.Progress

namespace DmlcModel.Props.C18
open DmlcModel.CQueue DmlcModel.Gen.CQueue

/-- FIFO: the elements in delivery order (pushes in the order they took effect, front pushes before everything still
queued) are those already handed out followed by the queue content: each goes to exactly one successful Pop, in order -/
theorem C18_exactly_once_fifo {s : QState} (h : QReach .fifo s) : s.pushedEff = s.popped ++ s.q :=
  (qreach_inv h).2.fifo rfl

/-- both variants: as multisets, pushed = handed out + still queued (nothing lost, nothing duplicated) -/
theorem C18_exactly_once_multiset {m : Mode} {s : QState} (h : QReach m s) :
    s.pushedEff.Perm (s.popped ++ s.q) :=
  (qreach_inv h).2.perm

/-- FIFO: a successful Pop hands out the head of the queue -/
theorem C18_fifo_pop_front {s s' : QState} {hint : Option Elem}
    (hs : qstep .fifo s (.popAfterLoad hint) = some s') (ht : s'.holder = .popU true) :
    ∃ x, s.q = x :: s'.q ∧ s'.popped = s.popped ++ [x] := by
  cases qstep_trans hs
  case popFront hq => exact ⟨_, hq, rfl⟩
  -- the other rules of `popAfterLoad`: for the other variant, or they hand out nothing
  all_goals first | contradiction | cases ht

/-- priority variant: a successful Pop hands out an element of maximal priority among the queued ones -/
theorem C18_priority_order {s s' : QState} {hint : Option Elem}
    (hs : qstep .prio s (.popAfterLoad hint) = some s') (ht : s'.holder = .popU true) :
    ∃ x, x ∈ s.q ∧ (∀ y ∈ s.q, y.prio ≤ x.prio) ∧ s'.popped = s.popped ++ [x] ∧ s'.q = s.q.erase x := by
  cases qstep_trans hs
  case popMax hx hmax => exact ⟨_, hx, by simpa [isMax] using hmax, rfl, rfl⟩
  -- as in `C18_fifo_pop_front`
  all_goals first | contradiction | cases ht

/-- Pop never executes `front()` / `pop_heap` on an empty container -/
theorem C18_no_undefined_pop {m : Mode} {s : QState} (h : QReach m s) : s.holder ≠ .ub :=
  (qreach_inv h).1.noUb

/-- no lost wake-up: with a popper in the wait set and no kill, every queued element is matched by a popper that is already
awake, a `notify_one` still to be issued, or the thread inside the critical section -/
theorem C18_blocks_only_if_empty {m : Mode} {s : QState} (h : QReach m s) (hw : 0 < s.waitset)
    (he : s.exit = false) : s.q.length ≤ s.woken + s.pendNotify + hcredit s.holder :=
  (qreach_inv h).1.noLost hw he

/-- `nwait_consumer_` counts exactly the poppers between `++` and `--` -/
theorem C18_nwait_exact {m : Mode} {s : QState} (h : QReach m s) :
    s.nwait = s.waitset + s.woken + hcount s.holder :=
  (qreach_inv h).1.nwait_eq

/-- SignalForKill: the flag is never cleared; once it is set every Pop that reaches its decision returns false, no popper
goes (back) to sleep, and every popper still in the wait set is covered by a `notify_all` still to be issued -/
theorem C18_kill {m : Mode} {s s' : QState} (h : QReach m s) (hx : s.exit = true) :
    (∀ e, qstep m s e = some s' → s'.exit = true) ∧
    (∀ hint, qstep m s (.popAfterLoad hint) = some s' → s'.holder = .popU false) ∧
    (∀ e, qstep m s e = some s' → s'.holder = .popWait → s.holder = .popWait) ∧
    s.holder ≠ .popWait ∧
    (0 < s.waitset → 0 < s.pendKill ∨ s.holder = .killU) := by
  have hi := (qreach_inv h).1
  refine ⟨fun _ hs => (qstep_exit hx hs).1, fun hint hs => (qstep_exit hx hs).2.2 hint rfl,
    fun _ hs => (qstep_exit hx hs).2.1, fun hw => ?_, hi.killPending hx⟩
  have := hi.waitNoExit hw
  simp [hx] at this

/-- no deadlock: whenever a popper is blocked although an element is queued or the kill flag is set, a step that continues
a call in progress (not a new call, not a spurious wake-up) is enabled -/
theorem C18_deadlock_free {m : Mode} {s : QState} (h : QReach m s) (hw : 0 < s.waitset)
    (hwork : s.q ≠ [] ∨ s.exit = true) :
    ∃ e, e.continues = true ∧ (qstep m s e).isSome = true := by
  have hi := (qreach_inv h).1
  by_cases hf : s.holder = .free
  · cases hex : s.exit
    · have hq : s.q ≠ [] := by
        rcases hwork with hq | hx
        · exact hq
        · simp [hex] at hx
      have hl := hi.noLost hw hex
      have hpos : 0 < s.q.length := List.length_pos_iff.mpr hq
      simp only [hf, hcredit] at hl
      by_cases hwk : 0 < s.woken
      · exact ⟨.popRelock, rfl, by simp only [qstep, hf, hwk, and_self, if_true]; split <;> simp⟩
      · have hpn : 0 < s.pendNotify := by omega
        exact ⟨.pushNotify, rfl, by simp [qstep, hpn, hw]⟩
    · rcases hi.killPending hex hw with hk | hk
      · exact ⟨.killNotify, rfl, by simp [qstep, hk]⟩
      · simp [hf] at hk
  · exact holder_can_step m s hf hi.noUb

/-! ## ManualEvent (the theorems need `evWaitLoops = true`: wait() re-checks the flag after waking) -/

/-- wait() returns only if signal() has stored since the last store of reset() -/
theorem C18_event_safe {s s' : EState} (h : EReach evWaitLoops s) (hs : estep evWaitLoops s .wUnlock = some s') :
    s.sigAfterReset = true ∧ s'.badReturns = 0 := by
  rw [evWaitLoops_spec] at h hs
  have hi := ereach_inv h
  simp only [estep] at hs
  split at hs
  · rename_i hh
    have hsig := hi.retOk hh
    have hg := hi.ghostEq
    simp only [Option.some.injEq] at hs
    subst hs
    simp [hg, hsig, hi.noBad]
  · simp at hs

/-- no wait() ever returned without a signal, in any reachable state -/
theorem C18_event_safe_all {s : EState} (h : EReach evWaitLoops s) : s.badReturns = 0 := by
  rw [evWaitLoops_spec] at h
  exact (ereach_inv h).noBad

/-- no lost signal: if the flag is set while a thread is in the wait set, the `notify_all` of a signal() is still to come -/
theorem C18_event_live_no_lost_signal {s : EState} (h : EReach evWaitLoops s) (hsig : s.signaled = true)
    (hw : 0 < s.waitset) : 0 < s.sigPending ∨ s.holder = .sNotify := by
  rw [evWaitLoops_spec] at h
  exact (ereach_inv h).noLostSignal hsig hw

/-- liveness: from every reachable state in which the flag is set and no reset() holds the mutex before its store, there is
a path of steps each continuing a call already in progress (no new call, no spurious wake-up, no step of a reset() up to
its store) after which every waiter has returned, the flag is still set, and no return was a bad one -/
theorem C18_event_live {s : EState} (h : EReach evWaitLoops s) (hsig : s.signaled = true)
    (hr : s.holder ≠ .rStore) :
    ∃ es : List EEvent, (∀ e ∈ es, e.continues = true ∧ e.isReset = false) ∧
      ∃ s', erun evWaitLoops s es = some s' ∧ s'.holder = .free ∧ s'.waitset = 0 ∧ s'.woken = 0 ∧
        s'.sigPending = 0 ∧ s'.signaled = true ∧ s'.badReturns = 0 := by
  rw [evWaitLoops_spec] at h ⊢
  obtain ⟨es, hes, s', hrun, hall, hbad⟩ := event_live_path h hsig hr
  exact ⟨es, hes, s', hrun, hall.1, hall.2.1, hall.2.2.1, hall.2.2.2.1, hall.2.2.2.2, hbad⟩

end DmlcModel.Props.C18
