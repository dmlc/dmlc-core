/-
C14 — fast number parsing (include/dmlc/strtonum.h; the model follows the repaired code, fixes/C14-1 … C14-6).
The `_partial` results carry the complements of the open classes `exp-field-range`, `frac-leading-zeros-19` as hypotheses; the
full `…_statement`s are refuted in C14Witness; the open class `near-max-overflow` lies inside the margin `δ` they leave out.
-/
import DmlcModel.StrToNum.Accuracy
namespace DmlcModel.Props.C14
open DmlcModel DmlcModel.StrToNum DmlcModel.Gen.StrToNum

/-- `ParseFloat` (all four instantiations) never reads past the terminating NUL, and always returns. -/
theorem C14_no_overread (f : Fmt) (chk : Bool) (s : Bytes) (h : (0 : Byte) ∈ s) :
    parseFloat f chk s ≠ .error .oob ∧ ∃ r, parseFloat f chk s = .ok r := by
  rw [parseFloat_eq h]
  exact ⟨(fun e => by cases e), ⟨_, rfl⟩⟩

/-- `ParseSignedInt` / `ParseUnsignedInt` likewise -/
theorem C14_no_overread_int (bits base : Nat) (s : Bytes) (h : (0 : Byte) ∈ s) :
    parseSigned bits base s ≠ .error .oob ∧ parseUnsigned bits base s ≠ .error .oob := by
  rw [parseSigned_eq hard0 (mem_cstr h), parseUnsigned_eq hard0 (mem_cstr h)]
  constructor <;> split <;> exact fun e => nomatch e

/-- `stof` / `stod` likewise -/
theorem C14_no_overread_sto (f : Fmt) (e0 : Nat) (s : Bytes) (h : (0 : Byte) ∈ s) : sto f e0 s ≠ .fault .oob := by
  rw [sto_spec h]
  rcases scanNum (cstr s) with _ | ⟨l | neg | _, n⟩
  · exact fun e => nomatch e
  · show (if _ then SRes.throwRange else SRes.ok _ _ _) ≠ _
    split <;> exact fun e => nomatch e
  · exact fun e => nomatch e
  · exact fun e => nomatch e

/-- **Locality.**  If `pre` contains a *hard stopper* (`Hard z`: a byte no scanner accepts — NUL, `,` `:` `#` `/` `;` `|` …), the
conversion happens inside `pre`: it succeeds, and result, end index and errno effect are the same whatever follows.
`Parse.Conv.LocalWith` asks this of a conversion; no theorem instantiates it with `parseFloat` / `str2type`.
Trap: `'\n'`, `' '`, `'\t'` are NOT hard stoppers: leading `isspace` bytes are skipped (`C14_ws_skip`). -/
theorem C14_local (f : Fmt) (chk : Bool) (pre e1 e2 : Bytes) (z : Byte) (hz : Hard z) (hm : z ∈ pre) :
    parseFloat f chk (pre ++ e1) = parseFloat f chk (pre ++ e2) ∧ ∃ r, parseFloat f chk (pre ++ e1) = .ok r := by
  rw [parseFloat_local hz e1 hm, parseFloat_local hz e2 hm]
  exact ⟨rfl, _, rfl⟩

/-- NUL `,` `:` `#` `;` `|` `/`: the stoppers the text parsers meet -/
theorem C14_hard_examples : Hard 0 ∧ Hard 44 ∧ Hard 58 ∧ Hard 35 ∧ Hard 59 ∧ Hard 124 ∧ Hard 47 := by
  refine ⟨?_, ?_, ?_, ?_, ?_, ?_, ?_⟩ <;> (constructor <;> decide)

theorem C14_local_spec (f : Fmt) (chk : Bool) (pre ext : Bytes) (z : Byte) (hz : Hard z) (hm : z ∈ pre)
    (h0 : (0 : Byte) ∉ pre) : parseFloat f chk (pre ++ ext) = .ok (parseFloatCoreP f chk pre) := by
  rw [parseFloat_local hz ext hm, cstr_of_not_mem h0]

structure IntToken (ws sg : Bytes) (d : Byte) (ds rest : Bytes) : Prop where
  ws : ∀ c ∈ ws, isSpace c = true
  sg : sg = [] ∨ sg = [43] ∨ sg = [45]
  d : isDigit d = true
  ds : ∀ c ∈ ds, isDigit c = true
  stop : isDigit (hd0 rest) = false
  nul : (0 : Byte) ∈ rest

theorem IntToken.digits {ws sg : Bytes} {d : Byte} {ds rest : Bytes} (t : IntToken ws sg d ds rest) :
    ∀ c ∈ d :: ds, isDigit c = true := by
  intro c hc
  rcases List.mem_cons.mp hc with rfl | hc
  · exact t.d
  · exact t.ds c hc

theorem IntToken.intP {ws sg : Bytes} {d : Byte} {ds rest : Bytes} (t : IntToken ws sg d ds rest) (g : Nat → Byte → Nat) :
    intP g (cstr (ws ++ sg ++ d :: ds ++ rest)) =
      (decide (sg ≠ [45]), (d :: ds).foldl g 0, ws.length + sg.length + (d :: ds).length) := by
  have h0 : (0 : Byte) ∉ ws ++ sg ++ d :: ds := by
    simp only [List.mem_append, not_or]
    exact ⟨⟨not_mem_zero_of_all (p := isSpace) (by decide) t.ws, by rcases t.sg with h | h | h <;> simp [h]⟩,
      not_mem_zero_of_all (p := isDigit) (by decide) t.digits⟩
  have hc : cstr (ws ++ sg ++ d :: ds ++ rest) = ws ++ (sg ++ d :: (ds ++ cstr rest)) := by
    simpa [List.append_assoc] using cstr_append_of_not_mem rest h0
  have hd : (d :: (ds ++ cstr rest)).takeWhile isDigit = d :: ds := by
    show ((d :: ds) ++ cstr rest).takeWhile isDigit = d :: ds
    rw [takeWhile_append_stop isDigit _ _ fun b hb => by rw [← hd0_of_head? hb, hd0_cstr]; exact t.stop,
      takeWhile_all isDigit _ t.digits]
  unfold StrToNum.intP scanP
  rw [hc, intFrontP_shape t.ws t.sg t.d]
  simp only [hd]

theorem IntToken.nul_cstr {ws sg : Bytes} {d : Byte} {ds rest : Bytes} (t : IntToken ws sg d ds rest) :
    (0 : Byte) ∈ cstr (ws ++ sg ++ d :: ds ++ rest) := mem_cstr (by simp [t.nul])

/-- **Signed integers are exact.**  On a token `ws sign? digits` whose value is in the range of the `bits`-bit signed type (the
most negative value included), `ParseSignedInt` (hence `atol`, `Str2Type<int32_t/int64_t>`) returns that value
(two's-complement bit pattern) and the end index just after the digits. -/
theorem C14_int_exact_signed (bits : Nat) (hb : bits = 32 ∨ bits = 64) {ws sg : Bytes} {d : Byte} {ds rest : Bytes}
    (t : IntToken ws sg d ds rest)
    (hr : if sg = [45] then digitsNat (d :: ds) ≤ 2 ^ (bits - 1) else digitsNat (d :: ds) < 2 ^ (bits - 1)) :
    parseSigned bits 10 (ws ++ sg ++ d :: ds ++ rest) =
      .ok (if sg = [45] then (2 ^ bits - digitsNat (d :: ds)) % 2 ^ bits else digitsNat (d :: ds),
           ws.length + sg.length + (d :: ds).length) := by
  rw [parseSigned_eq hard0 t.nul_cstr, if_pos (by decide), t.intP, fold_sStep (d :: ds) t.digits]
  generalize digitsNat (d :: ds) = v at hr ⊢
  by_cases hn : sg = [45]
  · simp only [hn, if_true, decide_not, decide_true, Bool.not_true, Bool.false_eq_true, if_false] at hr ⊢
    congr 2
    simp only [sNegate, sub64]
    rcases hb with rfl | rfl <;> omega
  · simp only [hn, if_false, decide_not, decide_false, Bool.not_false, if_true] at hr ⊢
    congr 2
    rcases hb with rfl | rfl <;> omega

/-- **Unsigned integers are exact** (`strtoull`, `Str2Type<uint32_t/uint64_t>`): no minus sign, value below `2^bits`. -/
theorem C14_int_exact_unsigned (bits : Nat) (hb : bits = 32 ∨ bits = 64) {ws sg : Bytes} {d : Byte} {ds rest : Bytes}
    (t : IntToken ws sg d ds rest) (hs : sg ≠ [45]) (hr : digitsNat (d :: ds) < 2 ^ bits) :
    parseUnsigned bits 10 (ws ++ sg ++ d :: ds ++ rest) =
      .ok (digitsNat (d :: ds), ws.length + sg.length + (d :: ds).length) := by
  rw [parseUnsigned_eq hard0 t.nul_cstr, t.intP, fold_uStep bits (by omega) (d :: ds) t.digits, Nat.mod_eq_of_lt hr]
  exact if_pos (by simpa [uBaseOk] using hs)

/-- `" -2147483648:"`: value `2^31` under a minus sign -/
example : IntToken [32] [45] 50 [49, 52, 55, 52, 56, 51, 54, 52, 56] [58, 0] ∧
    digitsNat (50 :: [49, 52, 55, 52, 56, 51, 54, 52, 56]) = 2 ^ 31 := by
  refine ⟨⟨?_, ?_, ?_, ?_, ?_, ?_⟩, ?_⟩ <;> decide

/-- **End pointer.**  For every NUL-terminated input and all four instantiations the end index is the length of the longest
numeric prefix of the C string (`scanNum`), and `0` when there is none. -/
theorem C14_endptr (f : Fmt) (chk : Bool) (s : Bytes) (h : (0 : Byte) ∈ s) :
    ∃ r, parseFloat f chk s = .ok r ∧ r.endIdx = (numPrefix (cstr s)).getD 0 :=
  ⟨_, parseFloat_spec h, by rw [numPrefix]; rcases scanNum (cstr s) with _ | ⟨_ | _ | _, n⟩ <;> rfl⟩

/-- **`invalid_argument` exactly when no number was consumed**, for every prior `errno`. -/
theorem C14_stof_invalid_iff (f : Fmt) (e0 : Nat) (s : Bytes) (h : (0 : Byte) ∈ s) :
    sto f e0 s = .throwInvalid ↔ numPrefix (cstr s) = none := by
  rw [sto_spec h, numPrefix]
  rcases scanNum (cstr s) with _ | ⟨l | neg | _, n⟩
  · exact ⟨fun _ => rfl, fun _ => rfl⟩
  · show (if _ then SRes.throwRange else SRes.ok _ _ _) = _ ↔ _
    split <;> exact ⟨nofun, nofun⟩
  · exact ⟨nofun, nofun⟩
  · exact ⟨nofun, nofun⟩

def spellingOrNoExp (t : Bytes) : Bool :=
  match scanNum t with
  | some (.inf _, _) => true
  | some (.nan, _) => true
  | some (.dec l, _) => l.exp.isNone
  | none => false

/-- the full "no spurious exception" clause; false: the class `exp-field-range` refutes it (C14Witness) -/
def C14_stof_no_spurious_statement : Prop :=
  ∀ (f : Fmt) (e0 : Nat) (s : Bytes), (0 : Byte) ∈ s →
    (match scanNum (cstr s) with
     | some (.inf _, _) => True
     | some (.nan, _) => True
     | some (.dec l, _) =>
        (match f with
         | .F32 => (1 : Rat) / 10 ^ 30 ≤ absQ (decimalValue l) ∧ absQ (decimalValue l) ≤ 10 ^ 30
         | .F64 => (1 : Rat) / 10 ^ 300 ≤ absQ (decimalValue l) ∧ absQ (decimalValue l) ≤ 10 ^ 300)
     | none => False) →
    ∃ v pos e, sto f e0 s = .ok v pos e

/-- **No spurious exception** (partial): for the inf / infinity / nan / nan(...) spellings and every finite decimal WITHOUT an
exponent part `stof`/`stod` return a value, whatever `errno` was before, and leave `errno` unchanged. -/
theorem C14_stof_no_spurious_partial (f : Fmt) (e0 : Nat) (s : Bytes) (h : (0 : Byte) ∈ s)
    (hk : spellingOrNoExp (cstr s) = true) :
    ∃ v pos, sto f e0 s = .ok v pos e0 := by
  rw [sto_spec h]
  revert hk
  unfold spellingOrNoExp
  rcases scanNum (cstr s) with _ | ⟨l | neg | _, n⟩ <;> intro hk
  · cases hk
  · have : (evalLex f true l).2 = false := by simp [evalLex, Option.isNone_iff_eq_none.mp hk]
    simp only [this]
    exact ⟨_, _, rfl⟩
  · exact ⟨_, _, rfl⟩
  · exact ⟨_, _, rfl⟩

/-- "+Inf", "nan(a_1)x", "-12.5f" -/
example : spellingOrNoExp (cstr [43, 73, 110, 102, 0]) = true ∧
    spellingOrNoExp (cstr [110, 97, 110, 40, 97, 95, 49, 41, 120, 0]) = true ∧
    spellingOrNoExp (cstr [45, 49, 50, 46, 53, 102, 0]) = true := by decide +kernel

/-- **`stof`/`stod` never return an infinity for a finite decimal input** (they throw `out_of_range`), whatever `errno` was
before. -/
theorem C14_stof_never_inf (f : Fmt) (e0 : Nat) (s : Bytes) (h : (0 : Byte) ∈ s) (l : Lexeme)
    (hl : lexemeOf (cstr s) = some l) :
    ∀ neg pos e, sto f e0 s ≠ .ok ⟨neg, .inf⟩ pos e := by
  intro neg pos e hs
  obtain ⟨n, hn⟩ := lexemeOf_eq hl
  rw [sto_spec h, hn] at hs
  simp only [] at hs
  split at hs
  · cases hs
  · rename_i hf
    simp only [SRes.ok.injEq] at hs
    exact hf (evalLex_inf (scanNum_digits hn).2.1 (by rw [hs.1]))

/-- "100e37" -/
example : (lexemeOf (cstr [49, 48, 48, 101, 51, 55, 0])).isSome = true := by decide +kernel

/-- the full accuracy clause (documented limits: at most 19 integer digits, value in the normal range with the margin a
relative-error claim needs); false for `float`: the class `frac-leading-zeros-19` refutes it (C14Witness) -/
def C14_accuracy_statement (f : Fmt) : Prop :=
  ∀ (chk : Bool) (s : Bytes) (l : Lexeme), (0 : Byte) ∈ s → lexemeOf (cstr s) = some l →
    l.intDigits.length ≤ 19 →
    pow2 (f.qmin + (f.prec : Int) - 1) * (1 + 1 / 10 ^ 6) ≤ absQ (decimalValue l) →
    absQ (decimalValue l) * (1 + 1 / 10 ^ 6) ≤ pow2 ((f.emax : Int) + 1) →
    ∃ r q, parseFloat f chk s = .ok r ∧ r.val = ⟨l.neg, .fin q⟩ ∧
      absQ (q - absQ (decimalValue l)) ≤ (match f with | .F32 => 1 / 10 ^ 6 | .F64 => 1 / 10 ^ 14) * absQ (decimalValue l)

theorem digitsVal_nil : digitsVal [] = 0 := rfl

/-- **Accuracy of integer lexemes** (at most 19 digits, no '.', no exponent): the result is the correctly rounded value,
relative error at most `2^-24` (float) / `2^-53` (double). -/
theorem C14_accuracy_integer_lexemes (f : Fmt) (chk : Bool) (s : Bytes) (l : Lexeme) (h : (0 : Byte) ∈ s)
    (hl : lexemeOf (cstr s) = some l) (hlen : l.intDigits.length ≤ 19) (hdot : l.hasDot = false) (hexp : l.exp = none) :
    ∃ r q, parseFloat f chk s = .ok r ∧ r.val = ⟨l.neg, .fin q⟩ ∧
      q ≤ (digitsVal l.intDigits : Rat) + (digitsVal l.intDigits : Rat) * pow2 (-(f.prec : Int)) ∧
      (digitsVal l.intDigits : Rat) ≤ q + (digitsVal l.intDigits : Rat) * pow2 (-(f.prec : Int)) := by
  obtain ⟨n, hn⟩ := lexemeOf_eq hl
  have hP := predecL_exact l.intDigits (scanNum_digits hn).1 hlen
  obtain ⟨q, hq, aq⟩ := rnd_nat f (predecL l.intDigits) (predecL_lt _)
  rw [hP] at aq
  refine ⟨_, q, parseFloat_spec h, ?_, aq.hi, aq.lo⟩
  rw [hn]
  simp only [resOf, mkRes, evalLex, mantissaL, mantissaPVW, hexp, hdot, Bool.false_eq_true, if_false, hq]

/-- which is far inside the property's tolerance 1e-6 / 1e-14 -/
theorem C14_accuracy_tolerance : pow2 (-(Fmt.F32.prec : Int)) ≤ 1 / 10 ^ 6 ∧ pow2 (-(Fmt.F64.prec : Int)) ≤ 1 / 10 ^ 14 := by
  constructor <;> decide +kernel

/-- **Accuracy** (partial).  For a decimal lexeme with at most 19 integer digits whose value, if there is an exponent part, lies
in the normal range of the type (margin 1e-6 at both ends), all four instantiations of `ParseFloat` return a finite value with
the sign of the lexeme, raise no range error, and the relative error is at most `tol` = 1e-6 (float) / 1e-14 (double) —
under the complements of the two open classes: exponent FIELD at most `kMaxExponent` (38 / 308) (`exp-field-range`); at most
19 fraction digits, or mantissa value at least 1e-12 / 1e-4 (`frac-leading-zeros-19`). -/
theorem C14_accuracy_partial (f : Fmt) (chk : Bool) (s : Bytes) (l : Lexeme) (h : (0 : Byte) ∈ s)
    (hl : lexemeOf (cstr s) = some l) (hi : l.intDigits.length ≤ 19)
    (hfr : l.fracDigits.length ≤ 19 ∨ μ f ≤ mantissaValue l)
    (hex : ∀ eneg eds, l.exp = some (eneg, eds) →
      digitsVal eds ≤ kMaxExponent f ∧ minNormal f * (1 + δ) ≤ absQ (decimalValue l) ∧
      absQ (decimalValue l) * (1 + δ) ≤ ovfl f) :
    ∃ r q, parseFloat f chk s = .ok r ∧ r.val = ⟨l.neg, .fin q⟩ ∧ r.erange = false ∧
      Approx (tol f) q (absQ (decimalValue l)) := by
  obtain ⟨n, hn⟩ := lexemeOf_eq hl
  obtain ⟨q, he, ha⟩ := evalLex_approx f chk (scanNum_digits hn) hi hfr hex
  exact ⟨_, q, parseFloat_spec h, by rw [hn, resOf, he]; rfl, by rw [hn, resOf, he]; rfl, ha⟩

/-- the property's interval "well inside the range" -/
def loIn : Fmt → Rat | .F32 => 1 / 10 ^ 30 | .F64 => 1 / 10 ^ 300
def hiIn : Fmt → Rat | .F32 => 10 ^ 30 | .F64 => 10 ^ 300

theorem well_inside (f : Fmt) : minNormal f * (1 + δ) ≤ loIn f ∧ hiIn f * (1 + δ) ≤ ovfl f := by
  cases f <;> decide +kernel

/-- **No spurious exception, decimals with an exponent part** (partial): under the hypotheses of `C14_accuracy_partial` on the
digits and the exponent field, and with the magnitude in 1e-30..1e30 (float) / 1e-300..1e300 (double), `stof`/`stod` return a
value within `tol`, for every prior `errno`, and leave `errno` unchanged. -/
theorem C14_stof_no_spurious_exp_partial (f : Fmt) (e0 : Nat) (s : Bytes) (l : Lexeme) (h : (0 : Byte) ∈ s)
    (hl : lexemeOf (cstr s) = some l) (hi : l.intDigits.length ≤ 19)
    (hfr : l.fracDigits.length ≤ 19 ∨ μ f ≤ mantissaValue l)
    (hfield : ∀ eneg eds, l.exp = some (eneg, eds) → digitsVal eds ≤ kMaxExponent f)
    (hlo : loIn f ≤ absQ (decimalValue l)) (hhi : absQ (decimalValue l) ≤ hiIn f) :
    ∃ q pos, sto f e0 s = .ok ⟨l.neg, .fin q⟩ pos e0 ∧ Approx (tol f) q (absQ (decimalValue l)) := by
  have wi := well_inside f
  have hδ : (0 : Rat) ≤ 1 + δ := by decide +kernel
  obtain ⟨n, hn⟩ := lexemeOf_eq hl
  obtain ⟨q, he, ha⟩ := evalLex_approx f true (scanNum_digits hn) hi hfr (fun eneg eds hx =>
    ⟨hfield eneg eds hx, by grind, by
      have := Rat.mul_le_mul_of_nonneg_right hhi hδ
      grind⟩)
  refine ⟨q, n, ?_, ha⟩
  rw [sto_spec h, hn]
  simp only [he, Bool.false_eq_true, if_false]

/-- **Leading white space.**  `ParseFloat` skips every leading `isspace` byte — space, `\t`, `\r`, `\f` and also `\n` —: the
conversion of `ws ++ t` is that of `t` with the end index shifted by `|ws|` (`0`, no number, stays `0`).  So a blank field
followed by a line break is NOT a stopper: the number on the next line is converted. -/
theorem C14_ws_skip (f : Fmt) (chk : Bool) (ws t : Bytes) (hws : ∀ c ∈ ws, isSpace c = true) (h : (0 : Byte) ∈ t) :
    ∃ r, parseFloat f chk t = .ok r ∧
      parseFloat f chk (ws ++ t) = .ok (if r.endIdx = 0 then r else { r with endIdx := r.endIdx + ws.length }) := by
  have h0 : (0 : Byte) ∉ ws := not_mem_zero_of_all (p := isSpace) (by decide) hws
  refine ⟨_, parseFloat_spec h, ?_⟩
  rw [parseFloat_spec (by simp [h]), cstr_append_of_not_mem t h0, scanNum_ws ws (cstr t) hws]
  rcases hs : scanNum (cstr t) with _ | ⟨k, n⟩
  · rfl
  · rw [if_neg (by cases k <;> exact Nat.ne_of_gt (scanNum_pos hs))]
    cases k <;> rfl

end DmlcModel.Props.C14
