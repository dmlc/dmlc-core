/-
C12 for csv. `C12_csv_statement` is FALSE for the model (and, where noted, for the C++ code); `C12_csv` has the further
hypotheses (A1)–(A4), (A6). Without any one of (A1)–(A4) there is a counterexample, evaluated on the model (documents as
bytes, delimiter ',' = 2c unless said otherwise; `convRun` of C11Witness satisfies every hypothesis of the statement).

(A1) `hfit : ∀ r ∈ T, CsvRowFits prm r` (decidable), four parts:
     a. some column of the row is neither the label nor the weight column.
        "5\n" = 35 0a, label_column = 0                    → LOG(FATAL) "Delimiter ',' is not found"; expected {label 5}.
        "5,6\n" = 35 2c 36 0a, label_column = 0, weight_column = 1 → the same FATAL; expected {label 5, weight 6}.
     b. the cell in the label column, and (real-valued cells) in the weight column, is not empty: csv_parser.h
        pushes the `0` of the failed conversion as label / weight, `expectCsvRow` says "absent".
        ",5\n" = 2c 35 0a, label_column = 0                → label = some 0;  expected label = none.
        "5,,6\n" = 35 2c 2c 36 0a, label 0, weight 1       → weight = some 0; expected weight = none.
     c. the weight column differs from the label column (unless no row is that wide; the constructor CHECK of
        CSVParser is not part of `CsvParam`): the label branch wins, `expectCsvRow` reads both from the cell.
        "5,6\n" = 35 2c 36 0a, label_column = weight_column = 0 → weight = none; expected weight = some 5.
     d. at most 2^32 cells: behind that `column_index` wraps, a second cell lands in the label column and the
        model keeps the last one, `expectCsvRow` the first (not evaluated: the document has 2^32 bytes).
(A2) `hnan`: no expected weight is a NaN bit pattern: `if (!std::isnan(weight)) out->weight.push_back(weight)`.
        "9,6\n" = 39 2c 36 0a, weight_column = 0, a conversion that maps "9" to 0x7fc00000 → weight = none; expected some NaN.
(A3) `hpw`: every row has at least as many pads as cells (`renderCsv` zips them, a short pad list drops cells).
        T = [["5","6"]], pad = [[([],[])]] → renders "5\n" = 35 0a → index [0]; expected index [0,1].
(A4) `hlead`: the cell conversion skips blanks in front of a lexeme (`SkipsBlanks gC`, as strtof / strtoll do),
     or no pad has blanks in front.  The contract of the statement says nothing about `gC (blanks ++ lexeme)`.
        " 5,6\n" = 20 35 2c 36 0a with convRun (stops at the blank) → index [1] values [6]; expected [0,1] / [5,6].
(A5) is no hypothesis of the theorem: nothing is asked of the cell conversion when it is started at the delimiter
     (an empty cell).  The blank-cell guard of ParseBlock stops at the delimiter (fixes/C12-3.diff: `Fixes.csvDelimGuard`,
     read off the source as `Gen.Parse.fixCsvDelimGuard`), so the parser itself recognises the empty cell.  Without that
     guard the statement fails for a blank delimiter, C++ included (finding C12-F3):
        "1\t\t3\n" = 31 09 09 33 0a, delimiter '\t', label_column = 0, a conversion that skips blanks like strtof
        → the empty cell swallows the next one: index [0] values [3]; expected index [1] values [3].
(A6) `hd0 : σ.delim ≠ 0`: the csv line format of C11 (`C11_block_is_concat_of_lines_csv`) is about NUL-free
     texts.  No counterexample ("5\0\06\n" evaluates as expected); a restriction of the proof, not of the model.
-/
import DmlcModel.Props.C12
import DmlcModel.Parse.RenderCsv
import DmlcModel.Parse.CellBlank

namespace DmlcModel.Props.C12
open DmlcModel DmlcModel.Parse DmlcModel.Props.C11

/-- FALSE (counterexamples at the head of the file); `C12_csv` is the theorem. -/
def C12_csv_statement : Prop :=
  ∀ (conv : Conv) (gR gI gQ : Bytes → Res Nat) (gC : Bytes → Res (Nat × Nat)), ExactWith conv gR gI gQ gC →
  (∀ lex tail : Bytes, IsLexeme lex → (∀ b, tail.head? = some b → isDelimB b = true) →
    gC (lex ++ tail) = gC lex ∧ ∀ v k, gC lex = .ok (v, k) → k = lex.length) →
  ∀ (prm : CsvParam) (σ : CsvStyle) (T : List (List (Option Bytes))),
    isDelimB σ.delim = true → isEolB σ.delim = false → σ.delim.toNat = prm.delim →
    σ.eol.length = T.length → σ.pad.length = T.length → (∀ e ∈ σ.eol, isEolStr e) →
    (∀ r ∈ T, r ≠ [] ∧ r.getLast? ≠ some none ∧ ∀ c ∈ r, ∀ lex, c = some lex → IsLexeme lex) →
    (∀ ps ∈ σ.pad, ∀ p ∈ ps, blanksOnly p.1 ∧ blanksOnly p.2 ∧ (isBlankB σ.delim = true → p.1 = [] ∧ p.2 = [])) →
    (renderCsv σ T).length + 2 < 2 ^ 64 →
    ∀ rws, T.mapM (expectCsvRow gC prm) = .ok rws → AgreeRows rws →
      rows (.csv prm) conv (renderCsv σ T) = .ok rws

/-- **C12 for csv.**  For every table `T` of cells (`none` = empty cell), every style `σ` (delimiter, blanks
around each cell, end-of-line string per row), every `CsvParam` and every conversion that is local and exact
(cell conversion: exact on a lexeme followed by a delimiter byte, end pointer directly behind the lexeme):
`ParseBlock` on the rendered document returns exactly the rows `expectCsvRow` describes — label / weight
columns routed, empty cells absent but numbered — in order. -/
theorem C12_csv (conv : Conv) (gR gI gQ : Bytes → Res Nat) (gC : Bytes → Res (Nat × Nat))
    (hE : ExactWith conv gR gI gQ gC)
    (hC : ∀ lex tail : Bytes, IsLexeme lex → (∀ b, tail.head? = some b → isDelimB b = true) →
      gC (lex ++ tail) = gC lex ∧ ∀ v k, gC lex = .ok (v, k) → k = lex.length)
    (prm : CsvParam) (σ : CsvStyle) (T : List (List (Option Bytes)))
    (hdd : isDelimB σ.delim = true) (hde : isEolB σ.delim = false) (hd : σ.delim.toNat = prm.delim)
    (hel : σ.eol.length = T.length) (hpl : σ.pad.length = T.length) (heol : ∀ e ∈ σ.eol, isEolStr e)
    (hT : ∀ r ∈ T, r ≠ [] ∧ r.getLast? ≠ some none ∧ ∀ c ∈ r, ∀ lex, c = some lex → IsLexeme lex)
    (hpad : ∀ ps ∈ σ.pad, ∀ p ∈ ps, blanksOnly p.1 ∧ blanksOnly p.2 ∧ (isBlankB σ.delim = true → p.1 = [] ∧ p.2 = []))
    (hb : (renderCsv σ T).length + 2 < 2 ^ 64)
    (hfit : ∀ r ∈ T, CsvRowFits prm r)                                            -- (A1)
    (hpw : ∀ z ∈ T.zip σ.pad, z.1.length ≤ z.2.length)                            -- (A3)
    (hlead : SkipsBlanks gC ∨ ∀ ps ∈ σ.pad, ∀ p ∈ ps, p.1 = [])                   -- (A4)
    (hd0 : σ.delim ≠ 0)                                                           -- (A6)
    (rws : List Row) (hrws : T.mapM (expectCsvRow gC prm) = .ok rws) (hag : AgreeRows rws)
    (hnan : ∀ r ∈ rws, ∀ w, r.weight = some w → isNaNBits w = false) :           -- (A2)
    rows (.csv prm) conv (renderCsv σ T) = .ok rws := by
  have F : LineFormat nonNulB (rows (.csv prm) conv) (csvRecS gC prm) := lineFormat hE.loc (.csv prm)
  have D : Delim prm σ.delim := ⟨hd, hdd, hde, hd0⟩
  have hdoc : renderCsv σ T = joinPieces ((T.zip (σ.eol.zip σ.pad)).flatMap fun te =>
      [(lineOf σ.delim (te.1.zip te.2.2), te.2.1)]) := by
    simp only [renderCsv, joinPieces, List.flatMap_assoc, List.flatMap_cons, List.flatMap_nil, List.append_nil]
    congr 1; funext r; rw [← lineOf_eq]; rfl
  have hmem : ∀ te ∈ T.zip (σ.eol.zip σ.pad),
      te.1 ∈ T ∧ te.2.1 ∈ σ.eol ∧ te.2.2 ∈ σ.pad ∧ (te.1.zip te.2.2).map (·.1) = te.1 := by
    intro ⟨r, e, ps⟩ hte
    obtain ⟨h1, h2⟩ := mem_zip_zip T σ.eol σ.pad r e ps hte
    exact ⟨(List.of_mem_zip h1).1, h2, (List.of_mem_zip h1).2, List.map_fst_zip (hpw (r, ps) h1)⟩
  have hcell : ∀ te ∈ T.zip (σ.eol.zip σ.pad), ∀ cp ∈ te.1.zip te.2.2, CellOk gC σ.delim cp := by
    intro te hte cp hcp
    obtain ⟨m1, _, m3, _⟩ := hmem te hte
    obtain ⟨c1, c2⟩ := List.of_mem_zip hcp
    obtain ⟨p1, p2, p3⟩ := hpad te.2.2 m3 cp.2 c2
    exact ⟨p1, p2, p3, fun lex hl => (hT te.1 m1).2.2 cp.1 c1 lex hl, hlead.imp id (fun h => h te.2.2 m3 cp.2 c2)⟩
  -- the rows are those of the cell values, row by row
  rw [funext (expectCsvRow_eq gC prm)] at hrws
  obtain ⟨valss, hvalss, h2⟩ := mapM_bind_split _ _ T rws hrws
  obtain rfl : valss.map (csvRowOfVals prm) = rws := Except.ok.inj ((List.mapM_pure ..).symm.trans h2)
  have hrow : (valss.map fun vals => toRow (csvRec (csvFold prm {} vals))) = valss.map (csvRowOfVals prm) :=
    List.map_congr_left fun vals hv => by
      obtain ⟨r, hr, hrv⟩ := mapM_mem _ _ _ hvalss vals hv
      exact toRow_csvFold prm vals (colsOk_of_fits hrv (hfit r hr)).1 (hnan _ (List.mem_map_of_mem hv))
  have hexp : (T.zip (σ.eol.zip σ.pad)).mapM (fun te => te.1.mapM (cellVal gC)) = .ok valss := by
    rw [zip_mapM_fst _ _ _ (by simp only [List.length_zip]; omega)]; exact hvalss
  rw [hdoc] at hb ⊢
  rw [← hrow]
  refine F.table_recs _ _ (fun vals => csvRec (csvFold prm {} vals)) _ valss hexp ?_ ?_ ?_ ?_
    (agreeRecs_of_rows _ (by rw [List.map_map]; exact hrow ▸ hag)
      (fun r hr => by obtain ⟨v, _, rfl⟩ := List.mem_map.mp hr; exact Or.inl (by simp [csvRec]))
      (Or.inr fun r hr => by obtain ⟨v, _, rfl⟩ := List.mem_map.mp hr; rfl)) hb
  · intro te hte p hp
    obtain rfl := List.mem_singleton.mp hp
    exact ⟨clean_noEol (lineOf_clean D _ (hcell te hte)), heol _ (hmem te hte).2.1⟩
  · intro te hte p hp
    obtain rfl := List.mem_singleton.mp hp
    exact clean_nonNul (lineOf_clean D _ (hcell te hte))
  · intro b hb
    simp only [nonNulB, bne_iff_ne, ne_eq]
    rintro rfl; exact absurd hb (by decide)
  · intro te hte vals hvals
    obtain ⟨m1, _, _, hfst⟩ := hmem te hte
    have hle := piece_length_le ((T.zip (σ.eol.zip σ.pad)).flatMap fun te => [(lineOf σ.delim (te.1.zip te.2.2), te.2.1)])
      _ (List.mem_flatMap.mpr ⟨te, hte, List.mem_singleton_self _⟩)
    exact mapM_fillers _ [] _ _ (fun _ h => nomatch h)
      (csv_line_rec hC D (te.1.zip te.2.2) vals (fun e => (hT te.1 m1).1 (by rw [← hfst, e]; rfl))
        (by rw [hfst]; exact (hT te.1 m1).2.1) (hcell te hte) (by rw [hfst]; exact hvals) (by rw [hfst]; exact hfit te.1 m1)
        (by simp only at hle; omega))

/-- "1,,2 ,3\r\n4,5,6,7\t\n" (label_column 0, weight_column 2; an empty cell, blanks behind cells, both kinds of
line end) with the conversion of C11Witness: the conclusion of `C12_csv` computed on the model -/
example :
    rows (.csv ⟨0, 2, 44, true⟩) C11Witness.convRun
      (renderCsv { delim := 44, eol := [[13, 10], [10]],
                   pad := [[([], []), ([], []), ([], [32]), ([], [])], [([], []), ([], []), ([], []), ([], [9])]] }
                 [[some [49], none, some [50], some [51]], [some [52], some [53], some [54], some [55]]])
      = .ok [{ label := some 1, weight := some 2, qid := none, field := none, index := [1], value := some [3] },
             { label := some 4, weight := some 6, qid := none, field := none, index := [0, 1], value := some [5, 7] }] := by
  decide

/-- " 1 ,,\t2,30 \r\n4,5,6, 7\n" with a conversion that skips blanks in front of a number (`cellBlank`): blanks
on both sides of cells.  Every hypothesis of `C12_csv` holds, so the theorem applies … -/
example :
    rows (.csv ⟨0, 2, 44, true⟩) { C11Witness.convRun with cell := cellBlank }
      (renderCsv { delim := 44, eol := [[13, 10], [10]],
                   pad := [[([32], [32]), ([], []), ([9], []), ([], [32])], [([], []), ([], []), ([], []), ([32], [])]] }
                 [[some [49], none, some [50], some [51, 48]], [some [52], some [53], some [54], some [55]]])
      = .ok [{ label := some 1, weight := some 2, qid := none, field := none, index := [1], value := some [30] },
             { label := some 4, weight := some 6, qid := none, field := none, index := [0, 1], value := some [5, 7] }] :=
  C12_csv { C11Witness.convRun with cell := cellBlank } _ _ _ gCBlank
    ⟨⟨convRun_exact.loc.real, convRun_exact.loc.index, convRun_exact.loc.qid, fun _ _ _ => rfl⟩,
      convRun_exact.real, convRun_exact.index, convRun_exact.qid⟩
    gCBlank_exact ⟨0, 2, 44, true⟩ _ _ (by decide) (by decide) (by decide) (by decide) (by decide)
    (by simp only [isEolStr]; decide) (by simp only [IsLexeme]; decide) (by simp only [blanksOnly]; decide) (by decide)
    (by decide) (by decide) (Or.inl gCBlank_skips) (by decide)
    _ (by decide) ⟨Or.inl (by decide), Or.inl (by decide), Or.inr (by decide), Or.inl (by decide)⟩ (by decide)

/-- … and its conclusion, computed on the model -/
example :
    rows (.csv ⟨0, 2, 44, true⟩) { C11Witness.convRun with cell := cellBlank }
      (renderCsv { delim := 44, eol := [[13, 10], [10]],
                   pad := [[([32], [32]), ([], []), ([9], []), ([], [32])], [([], []), ([], []), ([], []), ([32], [])]] }
                 [[some [49], none, some [50], some [51, 48]], [some [52], some [53], some [54], some [55]]])
      = .ok [{ label := some 1, weight := some 2, qid := none, field := none, index := [1], value := some [30] },
             { label := some 4, weight := some 6, qid := none, field := none, index := [0, 1], value := some [5, 7] }] := by
  decide

/-- "1\t\t3\t4\n5\t6\t\t7\n" with delimiter TAB (a white-space delimiter, no blanks around cells), label_column 0 and
the blank-skipping conversion `cellBlank` (which, started at a TAB, would skip it and convert the next cell): the
empty cells are absent but numbered — finding C12-F3 repaired.  Every hypothesis of `C12_csv` holds … -/
example :
    rows (.csv ⟨0, 4294967295, 9, true⟩) { C11Witness.convRun with cell := cellBlank }
      (renderCsv { delim := 9, eol := [[10], [10]],
                   pad := [[([], []), ([], []), ([], []), ([], [])], [([], []), ([], []), ([], []), ([], [])]] }
                 [[some [49], none, some [51], some [52]], [some [53], some [54], none, some [55]]])
      = .ok [{ label := some 1, weight := none, qid := none, field := none, index := [1, 2], value := some [3, 4] },
             { label := some 5, weight := none, qid := none, field := none, index := [0, 2], value := some [6, 7] }] :=
  C12_csv { C11Witness.convRun with cell := cellBlank } _ _ _ gCBlank
    ⟨⟨convRun_exact.loc.real, convRun_exact.loc.index, convRun_exact.loc.qid, fun _ _ _ => rfl⟩,
      convRun_exact.real, convRun_exact.index, convRun_exact.qid⟩
    gCBlank_exact ⟨0, 4294967295, 9, true⟩ _ _ (by decide) (by decide) (by decide) (by decide) (by decide)
    (by simp only [isEolStr]; decide) (by simp only [IsLexeme]; decide) (by simp only [blanksOnly]; decide) (by decide)
    (by decide) (by decide) (Or.inl gCBlank_skips) (by decide)
    _ (by decide) ⟨Or.inl (by decide), Or.inr (by decide), Or.inr (by decide), Or.inl (by decide)⟩ (by decide)

/-- … and its conclusion, computed directly on the model -/
example :
    rows (.csv ⟨0, 4294967295, 9, true⟩) { C11Witness.convRun with cell := cellBlank }
      [49, 9, 9, 51, 9, 52, 10, 53, 9, 54, 9, 9, 55, 10]
      = .ok [{ label := some 1, weight := none, qid := none, field := none, index := [1, 2], value := some [3, 4] },
             { label := some 5, weight := none, qid := none, field := none, index := [0, 2], value := some [6, 7] }] := by
  decide

/-- the same document on the model of the source WITHOUT fixes/C12-3.diff (`csvDelimGuard := false`): each empty
cell swallows the next one, the entries are numbered 0,1 instead of 1,2 and 0,2 — the defect C12-F3 as observed on
the real parser -/
example :
    csvRows { Fixes.repaired with csvDelimGuard := false } { C11Witness.convRun with cell := cellBlank } ⟨0, 4294967295, 9, true⟩
      [49, 9, 9, 51, 9, 52, 10, 53, 9, 54, 9, 9, 55, 10]
      = .ok [{ label := some 1, weight := none, qid := none, field := none, index := [0, 1], value := some [3, 4] },
             { label := some 5, weight := none, qid := none, field := none, index := [0, 1], value := some [6, 7] }] := by
  decide

end DmlcModel.Props.C12
