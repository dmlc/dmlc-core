/-
C03, file-list part — from the URI string and the file system to the list of files the text splitter
partitions (`InputSplitBase::Init` / `InitInputFileInfo` / `ConvertToURIs`), and the cover theorem of C03
restated for a splitter constructed from a URI.
-/
import DmlcModel.Split.FilesRecursive
import DmlcModel.Props.C03

namespace DmlcModel.Props.C03
open DmlcModel DmlcModel.Split

/-- any URI, any matcher, any recursion flag, a file system with unique names: a successful `InitInputFileInfo`
yields a non-empty list of regular, non-empty files of the file system, each listed with its size -/
theorem C03_file_list_entries (rx : Name → Name → Bool) (fs : FileSys) (uri : Bytes) (rc : Bool) (infos : List Info)
    (hU : fs.Pairwise (fun a b => a.1 ≠ b.1)) (h : initInputFileInfo rx fs uri rc = .ok infos) :
    infos ≠ [] ∧ ∀ i ∈ infos, i.kind = .file ∧ i.size ≠ 0 ∧
      (∃ c, (i.name, c) ∈ fs ∧ contentOf fs i.name = c ∧ i.size = c.length) :=
  initInputFileInfo_entries rx fs uri rc infos hU h

/-- the vector `file_offset_` filled by `Init` is the vector of prefix sums of the listed sizes (total below
2^64: no `size_t` wrap-around), and, when the sizes are those of the contents, the vector the Base model's
`filePtrOf` searches -/
theorem C03_file_offsets (fs : FileSys) (infos : List Info) (h : (infos.map (·.size)).sum < 2^64) :
    initOffsets 0 infos = (List.range (infos.length + 1)).map (fun j => ((infos.take j).map (·.size)).sum) ∧
    ((∀ i ∈ infos, i.size = (contentOf fs i.name).length) →
      initOffsets 0 infos = offsetsFrom 0 (infos.map (fun i => contentOf fs i.name))) :=
  ⟨by simpa only [Nat.zero_add] using initOffsets_prefix_sums infos 0 (by omega),
   fun hsz => initOffsets_eq_offsetsFrom fs infos 0 hsz (by omega)⟩

/-- `C03_parts_cover` from the URI: if the URI expands to `infos` whose contents are NUL-free, then for any
matcher / recursion flag no part fails and the parts' canonical lines concatenate to the non-empty lines of the
listed files, in list order -/
theorem C03_parts_cover_uri (rx : Name → Name → Bool) (fs : FileSys) (uri : Bytes) (rc : Bool) (infos : List Info)
    (hU : fs.Pairwise (fun a b => a.1 ≠ b.1)) (h : initInputFileInfo rx fs uri rc = .ok infos)
    (hnul : ∀ i ∈ infos, NulFree (contentOf fs i.name))
    (ht : totalSize (infos.map (fun i => contentOf fs i.name)) < 2^55) (n w dw : Nat) (hn0 : 0 < n) (hn : n < 2^32)
    (hw : w < 2^56) (pick : Nat → Nat → Bool) :
    (∀ k, k < n → ∃ bs, partBlobsUri Fmt.text rx fs uri rc k n w dw (pick k) = .ok bs) ∧
    (List.range n).flatMap (fun k => linesOf (partBlobsUri Fmt.text rx fs uri rc k n w dw (pick k)))
      = (infos.map (fun i => contentOf fs i.name)).flatMap lines := by
  obtain ⟨g1, g2, _⟩ := contents_of_ok rx fs uri rc infos hU h
  have hne : ∀ f ∈ infos.map (fun i => contentOf fs i.name), f ≠ [] ∧ NulFree f := by
    intro f hf
    refine ⟨g2 f hf, ?_⟩
    obtain ⟨i, hi, hfi⟩ := List.mem_map.1 hf
    rw [← hfi]
    exact hnul i hi
  have hc := C03_parts_cover _ n w dw g1 hne ht hn0 hn hw pick
  simp only [partBlobsUri_eq Fmt.text rx fs uri rc infos h]
  exact hc

/-- what the file list is: for a ';'-list of canonical absolute names over a well-formed file system,
`InitInputFileInfo` without recursion yields the concatenation, in URI order, of what each piece names — the file
itself if it is non-empty, the non-empty files directly inside if it is a directory (in file-system order), nothing
if it names neither; "Cannot find any files" (`check`) exactly when that list is empty -/
theorem C03_file_list (rx : Name → Name → Bool) (hrx : LiteralRx rx) (fs : FileSys) (hfs : FsOk fs)
    (pieces : List Name) (hp : ∀ p ∈ pieces, CanonName p) :
    initInputFileInfo rx fs (joinSemi pieces) false =
      (if (pieces.flatMap (expandSpec fs)).isEmpty then .error .check else .ok (pieces.flatMap (expandSpec fs))) :=
  initInputFileInfo_canon_flat rx fs hrx hfs.1 pieces hp false (fun h => nomatch h)

/-- the steps of `C03_file_list`: `dmlc::Split` recovers the pieces, the `URI` constructor leaves a canonical name
alone, `ConvertToURIs` keeps a piece iff it names a file or a directory, and the loop body of
`InitInputFileInfo` lists what it names -/
theorem C03_file_list_steps (rx : Name → Name → Bool) (hrx : LiteralRx rx) (fs : FileSys) (hfs : FsOk fs)
    (pieces : List Name) (hp : ∀ p ∈ pieces, CanonName p) :
    splitDelim (joinSemi pieces) 59 = pieces ∧
    (∀ p ∈ pieces, uriName p = p ∧
      expandOne rx fs p = (if (fs.any (fun e => e.1 == p) || isDirOf fs p) then [p] else []) ∧
      ((fs.any (fun e => e.1 == p) || isDirOf fs p) = true → infoOne fs false p = .ok (expandSpec fs p)) ∧
      ((fs.any (fun e => e.1 == p) || isDirOf fs p) = false → expandSpec fs p = [])) :=
  ⟨splitDelim_joinSemi pieces (fun p h => (canonFacts p (hp p h)).2.2.2),
   fun p h => ⟨uriName_canon p (hp p h), expandOne_canon rx fs hrx hfs.1 p (hp p h),
     fun hex => infoOne_canon fs hfs.1 p (hp p h) hex false (fun h => nomatch h),
     expandSpec_absent fs p (hp p h).noTrail⟩⟩

/-- the two combined: for a ';'-list of canonical names that names at least one non-empty file, with NUL-free
listed contents, no part of the `n`-way split of the splitter constructed from the URI fails, and the parts'
canonical lines concatenate to the non-empty lines of the named files, in URI order (a directory's files in
file-system order) -/
theorem C03_parts_cover_canonical_uri (rx : Name → Name → Bool) (hrx : LiteralRx rx) (fs : FileSys) (hfs : FsOk fs)
    (pieces : List Name) (hp : ∀ p ∈ pieces, CanonName p) (hne : pieces.flatMap (expandSpec fs) ≠ [])
    (hnul : ∀ i ∈ pieces.flatMap (expandSpec fs), NulFree (contentOf fs i.name))
    (ht : totalSize ((pieces.flatMap (expandSpec fs)).map (fun i => contentOf fs i.name)) < 2^55)
    (n w dw : Nat) (hn0 : 0 < n) (hn : n < 2^32) (hw : w < 2^56) (pick : Nat → Nat → Bool) :
    (∀ k, k < n → ∃ bs, partBlobsUri Fmt.text rx fs (joinSemi pieces) false k n w dw (pick k) = .ok bs) ∧
    (List.range n).flatMap (fun k => linesOf (partBlobsUri Fmt.text rx fs (joinSemi pieces) false k n w dw (pick k)))
      = (pieces.flatMap (expandSpec fs)).flatMap (fun i => lines (contentOf fs i.name)) := by
  have h := C03_file_list rx hrx fs hfs pieces hp
  rw [if_neg (mt List.isEmpty_iff.1 hne)] at h
  have hc := C03_parts_cover_uri rx fs (joinSemi pieces) false _ hfs.2.1 h hnul ht n w dw hn0 hn hw pick
  rw [List.flatMap_map] at hc
  exact hc

/-- the same list with `recurse_directories = true` when no named directory has sub-directories (`FlatDir`); no
sortedness needed -/
theorem C03_file_list_flat_recursive (rx : Name → Name → Bool) (hrx : LiteralRx rx) (fs : FileSys) (hfs : FsOk fs)
    (pieces : List Name) (hp : ∀ p ∈ pieces, CanonName p) (rc : Bool) (hflat : rc = true → ∀ p ∈ pieces, FlatDir fs p) :
    initInputFileInfo rx fs (joinSemi pieces) rc =
      (if (pieces.flatMap (expandSpec fs)).isEmpty then .error .check else .ok (pieces.flatMap (expandSpec fs))) :=
  initInputFileInfo_canon_flat rx fs hrx hfs.1 pieces hp rc hflat

/-- what the file list is with `recurse_directories = true`, directories nested to any depth, over a file system
whose entries are in increasing bytewise name order (`FsSorted`: the iteration order of MemFS's `std::map`): the
concatenation, in URI order, of what each piece names recursively — a non-empty file itself, or the non-empty files
below a directory in breadth-first order: by increasing depth, files of equal depth in file-system order.  In
particular `ListDirectoryRecursive` never hits the model's iteration bound -/
theorem C03_file_list_recursive (rx : Name → Name → Bool) (hrx : LiteralRx rx) (fs : FileSys) (hfs : FsOk fs)
    (hs : FsSorted fs) (pieces : List Name) (hp : ∀ p ∈ pieces, CanonName p) :
    initInputFileInfo rx fs (joinSemi pieces) true =
      (if (pieces.flatMap (expandSpecBfs fs)).isEmpty then .error .check else .ok (pieces.flatMap (expandSpecBfs fs))) :=
  initInputFileInfo_canon_rec rx fs hrx hfs.1 hs pieces hp

/-- `C03_parts_cover_canonical_uri` with `recurse_directories = true` over a sorted file system: the parts' canonical
lines concatenate to the non-empty lines of the files named recursively, in URI order, a directory's files in
breadth-first order -/
theorem C03_parts_cover_canonical_uri_recursive (rx : Name → Name → Bool) (hrx : LiteralRx rx) (fs : FileSys)
    (hfs : FsOk fs) (hs : FsSorted fs) (pieces : List Name) (hp : ∀ p ∈ pieces, CanonName p)
    (hne : pieces.flatMap (expandSpecBfs fs) ≠ [])
    (hnul : ∀ i ∈ pieces.flatMap (expandSpecBfs fs), NulFree (contentOf fs i.name))
    (ht : totalSize ((pieces.flatMap (expandSpecBfs fs)).map (fun i => contentOf fs i.name)) < 2^55)
    (n w dw : Nat) (hn0 : 0 < n) (hn : n < 2^32) (hw : w < 2^56) (pick : Nat → Nat → Bool) :
    (∀ k, k < n → ∃ bs, partBlobsUri Fmt.text rx fs (joinSemi pieces) true k n w dw (pick k) = .ok bs) ∧
    (List.range n).flatMap (fun k => linesOf (partBlobsUri Fmt.text rx fs (joinSemi pieces) true k n w dw (pick k)))
      = (pieces.flatMap (expandSpecBfs fs)).flatMap (fun i => lines (contentOf fs i.name)) := by
  have h := C03_file_list_recursive rx hrx fs hfs hs pieces hp
  rw [if_neg (mt List.isEmpty_iff.1 hne)] at h
  have hc := C03_parts_cover_uri rx fs (joinSemi pieces) true _ hfs.2.1 h hnul ht n w dw hn0 hn hw pick
  rw [List.flatMap_map] at hc
  exact hc

/-- without sortedness of the file system: a successful `InitInputFileInfo` with `recurse_directories = true` lists
exactly, as a set, what the pieces name recursively — a non-empty file itself, or all non-empty files below a
directory; the order, the multiplicities and the absence of the model's iteration-bound outcome are not stated -/
theorem C03_file_list_recursive_members (rx : Name → Name → Bool) (hrx : LiteralRx rx) (fs : FileSys) (hfs : FsOk fs)
    (pieces : List Name) (hp : ∀ p ∈ pieces, CanonName p) (infos : List Info)
    (h : initInputFileInfo rx fs (joinSemi pieces) true = .ok infos) :
    ∀ i, i ∈ infos ↔ i ∈ pieces.flatMap (expandSpecRec fs) :=
  initInputFileInfo_canon_rec_mem rx fs hrx hfs.1 pieces hp infos h

/-! non-vacuity: the file system { "/r/a" ↦ "x\n", "/r/d/b" ↦ "", "/r/d/c" ↦ "yz" } is well-formed, the URI
"/r/a;/r/d;/r/zz;/r/a" is the ';'-join of four canonical names and expands to "/r/a", "/r/d/c", "/r/a" (the empty
file and the missing name dropped, the repeated name kept) with offsets 0, 2, 4, 6; the hypotheses of
`C03_parts_cover_canonical_uri` hold for it -/
example : FsOk FilesEx.fs := by decide +kernel
example : ∀ p ∈ FilesEx.pieces, CanonName p := by decide +kernel
example : joinSemi FilesEx.pieces = FilesEx.uri := by decide +kernel
example : LiteralRx (fun a b => a == b) := literalRx_beq
example : FilesEx.pieces.flatMap (expandSpec FilesEx.fs) = FilesEx.infos := by decide +kernel
example : okOf (initInputFileInfo (fun a b => a == b) FilesEx.fs FilesEx.uri false) = some FilesEx.infos := by decide +kernel
example : initOffsets 0 FilesEx.infos = [0, 2, 4, 6] := by decide +kernel
example : ∀ i ∈ FilesEx.pieces.flatMap (expandSpec FilesEx.fs), NulFree (contentOf FilesEx.fs i.name) := by decide +kernel
example : totalSize ((FilesEx.pieces.flatMap (expandSpec FilesEx.fs)).map (fun i => contentOf FilesEx.fs i.name)) = 6 := by
  decide +kernel
example : okOf (initInputFileInfo (fun a b => a == b) FilesEx.fs [47, 114, 47, 122, 122] false) = none := by decide +kernel
example : ∀ p ∈ FilesEx.pieces, FlatDir FilesEx.fs p := by decide +kernel
example : okOf (initInputFileInfo (fun a b => a == b) FilesEx.fs FilesEx.uri true) = some FilesEx.infos := by decide +kernel
/-- "/r" with recursion: breadth-first, "/r/a" then "/r/d/c"; without recursion only "/r/a" -/
example : (okOf (initInputFileInfo (fun a b => a == b) FilesEx.fs [47, 114] true)).map (fun l => l.map (·.name))
    = some [[47, 114, 47, 97], [47, 114, 47, 100, 47, 99]] := by decide +kernel
example : (okOf (initInputFileInfo (fun a b => a == b) FilesEx.fs [47, 114] false)).map (fun l => l.map (·.name))
    = some [[47, 114, 47, 97]] := by decide +kernel
example : [([47, 114] : Name)].flatMap (expandSpecRec FilesEx.fs) =
    [{ name := [47, 114, 47, 97], size := 2, kind := .file }, { name := [47, 114, 47, 100, 47, 99], size := 2, kind := .file }] := by
  decide +kernel

/-- a deeper sorted file system { "/r/a", "/r/d/b" (empty), "/r/d/c", "/r/d/e/f", "/r/g" }: "/r" with recursion
lists "/r/a", "/r/g" (depth 0), "/r/d/c" (depth 1), "/r/d/e/f" (depth 2) -/
example : FsOk FilesEx.fsDeep ∧ FsSorted FilesEx.fsDeep := by decide +kernel
example : FsSorted FilesEx.fs := by decide +kernel
example : (expandSpecBfs FilesEx.fsDeep [47, 114]).map (·.name) =
    [[47, 114, 47, 97], [47, 114, 47, 103], [47, 114, 47, 100, 47, 99], [47, 114, 47, 100, 47, 101, 47, 102]] := by decide +kernel
example : okOf (initInputFileInfo (fun a b => a == b) FilesEx.fsDeep [47, 114] true)
    = some (expandSpecBfs FilesEx.fsDeep [47, 114]) := by decide +kernel

end DmlcModel.Props.C03
