/- C05 / C04, end to end for InputSplitShuffle over RecordIO files (see C05ShuffleText.lean for the text case). -/
import DmlcModel.Props.C04
import DmlcModel.Props.C05ShuffleText
namespace DmlcModel.Props.C05
open DmlcModel DmlcModel.Split DmlcModel.Split.Shuffle DmlcModel.RecordIO

/-- what a freshly created recordio split delivers for part `i` of `N` (NextRecord) -/
def recSub (rss : List (List Bytes)) (N w dw : Nat) (i : Nat) : Shuffle.Res (List Bytes) :=
  partBlobs Fmt.recordio (rss.map writeAll) i N w dw (fun _ => true)

/-- **InputSplitShuffle over RecordIO files: the n shuffled parts together deliver every record exactly once**,
byte-identical, whatever orders the shuffles produced -/
theorem C05_shuffle_rec_cover (rss : List (List Bytes)) (n m w dw : Nat) (hne : rss ≠ [])
    (hrss : ∀ rs ∈ rss, rs ≠ [] ∧ ∀ r ∈ rs, r.length < 2^29) (ht : totalSize (rss.map writeAll) < 2^56)
    (hn0 : 0 < n) (hm0 : 0 < m) (hnm : n * m < 2^32) (hw2 : 2 ≤ w) (hw : w < 2^56)
    (π : Nat → List Nat) (hπ : ∀ k, k < n → (π k).Perm (List.range m)) :
    ∃ r : Nat → List Bytes, (∀ k, k < n → passOf (recSub rss (n * m) w dw) (π k) k m = .ok (r k)) ∧
      ((List.range n).flatMap r).Perm rss.flatten := by
  obtain ⟨r, h1, h2⟩ := shuffle_parts_cover (recSub rss (n * m) w dw)
    (fun i => recsIn rss.flatten 0 (bndR rss (n * m) i) (bndR rss (n * m) (i + 1))) n m
    (fun i hi => C04.C04_part_records rss (n * m) w dw hne hrss ht hnm hw2 hw i hi) π hπ
  exact ⟨r, h1, records_parts_telescope ⟨hrss, Nat.lt_of_lt_of_le ht (by decide), Nat.mul_pos hn0 hm0, hnm⟩ ▸ h2⟩

end DmlcModel.Props.C05
