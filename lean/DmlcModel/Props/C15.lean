/-
C15 — binary serializer: exact round trip and consumption, fixed little-endian layout independent of
the host, short reads fail.

Quantification: every type `t` of the universe `Ty` (nested arbitrarily) that is well formed (`t.ok`) and compiles in
the configuration (`supported c t`: plain POD structs only without byte swapping), every well-formed value `v`
(`wf t v`), every configuration `c = ⟨hostLE, ioLE⟩` (so both values of the swap flag), every following stream
content `rest`.

Finding C15-F1 (fixes/C15-1.diff): the raw fast path of `Handler<std::pair<TA, TB>>` is taken only for pair objects
without padding (on the pinned tree it wrote the pair object with its padding), so the layout and cross-host clauses
hold for every POD-free type.
-/
import DmlcModel.Ser.Layout

namespace DmlcModel.Props.C15
open DmlcModel DmlcModel.Ser

/-- **round trip and exact consumption**: reading what `Write` produced, whatever follows it in the
stream, returns `true` with an equal value and leaves exactly the following bytes unread.  (For the
unordered containers the model lists a container by its iteration sequence and the re-inserted
container in insertion order; equality of these lists implies equality as multisets, which is what
the harness compares.) -/
theorem C15_roundtrip (c : Cfg) (t : Ty) (hok : t.ok = true) (hs : supported c t = true)
    (v : Val t) (hv : wf t v) (rest : Bytes) :
    decode c t (encode c t v ++ rest) = some (v, rest) :=
  (decode_exact c t hok (Bool.or_eq_true_iff.mp hs) v hv).rt rest

/-- the read consumes exactly the bytes written: nothing is left of a stream holding one value -/
theorem C15_consumes_exactly (c : Cfg) (t : Ty) (hok : t.ok = true) (hs : supported c t = true)
    (v : Val t) (hv : wf t v) : decode c t (encode c t v) = some (v, []) :=
  List.append_nil (encode c t v) ▸ C15_roundtrip c t hok hs v hv []

/-- **values can be streamed back to back**: any sequence of typed values written into one stream is
read back, in order, as the same sequence, leaving what followed -/
theorem C15_back_to_back (c : Cfg) (vs : List TVal)
    (h : ∀ tv ∈ vs, tv.1.ok = true ∧ supported c tv.1 = true ∧ wf tv.1 tv.2) (rest : Bytes) :
    decodeAll c (vs.map (·.1)) (encodeAll c vs ++ rest) = some (vs, rest) := by
  induction vs with
  | nil => rfl
  | cons tv vs ih =>
    obtain ⟨t, v⟩ := tv
    have ht := h ⟨t, v⟩ (by simp)
    simp only [List.map_cons, encodeAll, decodeAll, List.append_assoc,
      C15_roundtrip c t ht.1 ht.2.1 v ht.2.2]
    rw [ih (fun x hx => h x (by simp [hx]))]

/-- a stream cut inside a value: on the first `k` bytes of its encoding, `k` short of all, the read fails -/
theorem C15_truncation_at (c : Cfg) (t : Ty) (hok : t.ok = true) (hs : supported c t = true)
    (v : Val t) (hv : wf t v) (k : Nat) (hk : k < (encode c t v).length) :
    decode c t ((encode c t v).take k) = none :=
  (decode_exact c t hok (Bool.or_eq_true_iff.mp hs) v hv).tr k hk

/-- **a stream that ends early makes `Read` return false**: every strict prefix of an encoding -/
theorem C15_truncation (c : Cfg) (t : Ty) (hok : t.ok = true) (hs : supported c t = true)
    (v : Val t) (hv : wf t v) (p : Bytes) (hp : p <+: encode c t v) (hne : p ≠ encode c t v) :
    decode c t p = none := by
  rw [List.prefix_iff_eq_take.mp hp]
  exact C15_truncation_at c t hok hs v hv p.length
    (Nat.lt_of_le_of_ne hp.length_le fun h => hne (hp.eq_of_length h))

/-- **fixed layout**: the bytes written are the documented layout — scalars and 64-bit counts in the
stream's byte order, elements in iteration order, pair members adjacent — a function of `ioLE` and
the value only, not of the host's byte order (plain POD structs excluded, as in the property) -/
theorem C15_layout (c : Cfg) (t : Ty) (hok : t.ok = true) (hpf : t.podFree = true)
    (v : Val t) (hv : wf t v) : encode c t v = layout c.ioLE t v :=
  encode_eq_layout c t hok hpf v hv

theorem C15_layout_host_independent (h₁ h₂ io : Bool) (t : Ty) (hok : t.ok = true)
    (hpf : t.podFree = true) (v : Val t) (hv : wf t v) :
    encode ⟨h₁, io⟩ t v = encode ⟨h₂, io⟩ t v := by
  rw [C15_layout ⟨h₁, io⟩ t hok hpf v hv, C15_layout ⟨h₂, io⟩ t hok hpf v hv]

/-- **data written on one host type is readable on the other**: a host of the opposite byte order,
configured for the same stream byte order, reads the equal value and consumes everything -/
theorem C15_cross_host (h io : Bool) (t : Ty) (hok : t.ok = true) (hpf : t.podFree = true)
    (v : Val t) (hv : wf t v) :
    decode ⟨!h, io⟩ t (encode ⟨h, io⟩ t v) = some (v, []) := by
  rw [C15_layout_host_independent h (!h) io t hok hpf v hv]
  exact C15_consumes_exactly ⟨!h, io⟩ t hok (by simp [supported, hpf]) v hv

end DmlcModel.Props.C15
