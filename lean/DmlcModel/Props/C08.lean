/-
C08 — ThreadedIter::BeforeFirst restarts the stream cleanly at any point of consumption (items prefetched, cells lent or
in `out_data_`, after the end, repeatedly): the most general client may call it whenever no other call is in progress.
-/
import DmlcModel.TIter.Progress
import DmlcModel.TIter.Deadlock
import DmlcModel.TIter.Corollaries

namespace DmlcModel.Props.C08
open DmlcModel.TIter DmlcModel.Gen.TIter

variable {P : Params} {s s' t : State}

/-- when BeforeFirst returns normally the producer has been rewound for THIS call (the pass number is one more than when
the call started) and nothing of the new pass has been delivered yet; with `C07_order`/`C07_produced` the following Next
calls deliver the new pass from position 0 -/
theorem C08_fresh_pass (h : Reachable P s) (hs : step P s .xStep = some s') (hx : s.xloc = .bExc1) (hr : s'.ret = .ok) :
    s'.pass = s'.bfPass + 1 ∧ s'.delivered = [] ∧ s'.xloc = .idle := by
  have he := (inv_reachable h).e.bf3 (Or.inr hx)
  cases stepR_trans hs
  case bExc1 =>
    cases hexc : s.exc with
    | true => simp [hexc] at hr
    | false => simp [hexc] at he; exact ⟨he.1, he.2, rfl⟩
  all_goals simp_all  -- the other rules of `xStep` start from another location

/-- every item that is delivered, queued or in flight belongs to the current pass: nothing produced before a
rewind survives it -/
theorem C08_current_pass_only (h : Reachable P s) :
    ∀ it, it ∈ s.delivered ++ qitems s ++ optList s.pitem → it.pass = s.pass := by
  intro it hit
  have hi := (inv_reachable h).c1
  rw [hi.order] at hit
  exact (hi.src it hit).1

/-- no stale item: after BeforeFirst has returned, every item delivered at any later time was produced in a later pass
than the one the call interrupted -/
theorem C08_no_stale (h : Reachable P s) (hret : s.pass = s.bfPass + 1) (hst : Steps P s t) :
    ∀ it, it ∈ t.delivered → s.bfPass < it.pass := by
  intro it hit
  have hp := C08_current_pass_only (steps_reachable h hst) it (by simp [hit])
  have := steps_pass_mono hst
  omega

/-- the rewind callback runs exactly once per posted BeforeFirst (one more is pending while the command word still says
so) -/
theorem C08_rewind_once (h : Reachable P s) (hn : s.thrown = false) :
    s.bfPosted = s.rewCalls + (if s.sig = kBeforeFirst then 1 else 0) :=
  (inv_reachable h).e.rew hn

/-- while BeforeFirst is in progress no other consumer call is (the documented contract, kept by the client model) -/
theorem C08_exclusive (h : Reachable P s) (hx : s.xloc ≠ .idle) : busy s = 0 ∧ s.outCall = false :=
  (inv_reachable h).a.excl hx

/-- BeforeFirst cannot get stuck (failure-free scripts): instance of C07_deadlock_free -/
theorem C08_returns_no_deadlock (hn : NoFail P) (hcap : 1 ≤ P.cap) (h : Reachable P s) (hx : s.xloc ≠ .idle) :
    ∃ e : Event, e.isProgress = true ∧ (step P s e).isSome = true :=
  deadlock_free_of_inv hcap (inv_reachable h).a (inv_reachable h).b (invD_reachable_noFail hn h) (Or.inr hx)

def C08_returns_statement (P : Params) : Prop :=
  NoFail P → 1 ≤ P.cap → ∀ s, Reachable P s → s.xloc ≠ .idle →
    ¬ ∃ f : Nat → State, f 0 = s ∧ ∀ n, ∃ e : Event, e.isProgress = true ∧ step P (f n) e = some (f (n + 1))

theorem C08_returns_finite (P : Params) : C08_returns_statement P :=
  fun _ _ _ hr _ => no_infinite_progress hr

/-- BeforeFirst returns: started in any contract-allowed state, every execution of it (and of the producer) is finite and
can only stop with the call returned -/
theorem C08_returns (hn : NoFail P) (hcap : 1 ≤ P.cap) (h : Reachable P s) :
    (∀ t, ProgSteps P s t → (∀ e : Event, e.isProgress = true → step P t e = none) → t.xloc = .idle) ∧
    (∃ t, ProgSteps P s t ∧ t.xloc = .idle) :=
  runs_to h fun _ ht hq => (Quiescent.returned hq
    (deadlock_free_of_inv hcap (inv_reachable ht).a (inv_reachable ht).b (invD_reachable_noFail hn ht))).2

end DmlcModel.Props.C08
