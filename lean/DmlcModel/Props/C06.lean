/-
C06 — indexed RecordIO: index-range parts and shuffled epochs cover each record once.
The theorems are about the code WITH the repairs of C06-F1 .. C06-F3 (fixes/C06-1..3.diff) and of C05-F1 in
`InputSplitBase::BeforeFirst` (fixes/C05-1.diff); whether they are present is read from the source on every run
(`Gen.Indexed.readIndexSentinel`, `resetPushesSentinel`, `emptyAssigns`, `nextRecordOwn`, `bfEmptyClears`) and the lemmas
`fix_*` stop compiling when one is missing.
-/
import DmlcModel.Indexed.Wrap

namespace DmlcModel.Props.C06
open DmlcModel.Indexed
open DmlcModel.RecordIO (writeAll)

/-- what the property quantifies over: `N ≥ 1` records as in C01 (each shorter than 2^29 bytes), a data
file below 2^62 bytes, index lines listing the record start offsets in any order -/
structure Input (rs : List Bytes) (idx : List Nat) : Prop where
  ne : rs ≠ []
  short : ∀ r ∈ rs, r.length < 2 ^ 29
  bnd : (writeAll rs).length < 2 ^ 62
  idx : idx.Perm (starts rs)

/-- the k-th of n contiguous slices of width `⌈N/n⌉` of the offset-sorted record list -/
def slice (rs : List Bytes) (n k : Nat) : List Bytes :=
  (rs.drop (k * Indexed.step rs.length n)).take (Indexed.step rs.length n)

/-- the records at the positions `p` (a shuffled pass) -/
def permuted (rs : List Bytes) (p : List Nat) : List Bytes := p.filterMap (fun i => rs[i]?)

def slicePositions (N n k : Nat) : List Nat := List.range' (sliceBegin N n k) (sliceEnd N n k - sliceBegin N n k)

/-- the i-th call is `sched i`; `none` = some call ended abnormally -/
def drainRecs (sched : Nat → Pull) (s : St) : Option (List Bytes) :=
  match drain sched (s.chunk.rest.length + s.file.length + 1) 0 s with
  | .ok evs => some (evs.flatMap decode)
  | .error _ => none

def partRecs (rs : List Bytes) (idx : List Nat) (k n batch : Nat) (shuffle : Bool) (w : Nat) (p : List Nat)
    (sched : Nat → Pull) : Option (List Bytes) :=
  match mk (writeAll rs) idx k n batch shuffle w p with
  | .ok s => drainRecs sched s
  | .error _ => none

theorem seg_eq_slice (rs : List Bytes) (n k : Nat) :
    seg rs (sliceBegin rs.length n k) (sliceEnd rs.length n k) = slice rs n k := by
  unfold seg slice; exact slice_eq rs n k

theorem passOrder_slice (rs : List Bytes) (sh : Bool) (p : List Nat) (n k : Nat) :
    passOrder rs sh p (sliceBegin rs.length n k) (sliceEnd rs.length n k) =
      if sh then permuted rs p else slice rs n k := by
  cases sh <;> simp [passOrder, permuted, seg_eq_slice]

/-- the fuel `drainRecs` / `wdrainRecs` give the drain: every record takes at least 8 bytes of chunk or file -/
theorem todo_lt {rs : List Bytes} {sh : Bool} {s : St} {cell : Option Chunk}
    {ib ie : Nat} {todo : List Bytes} : Serves rs sh s cell ib ie todo →
    todo.length < (match cell with | some c => c.rest.length | none => 0) + s.file.length + 1 := by
  intro h
  obtain ⟨pend, hh, rfl⟩ := h.holds
  have hN := Split.writeAll_length_ge rs h.core.short
  have h1 := Split.writeAll_length_ge pend (Split.short_append.1 h.short).1
  have h2 := unread_length_le rs sh s ib ie h.core
  rw [h.core.file, List.length_append]
  cases cell with
  | none => cases (show pend = [] from hh); simp; omega
  | some c => dsimp only; rw [hh.1]; omega

theorem drainRecs_of {rs : List Bytes} {sh : Bool} {s : St} {ib ie : Nat}
    {todo : List Bytes} (h : Serves rs sh s (some s.chunk) ib ie todo) {sched : Nat → Pull}
    (hsched : ∀ i, PullOk (sched i)) : drainRecs sched s = some todo := by
  obtain ⟨evs, e1, e2⟩ := drain_spec hsched h (todo_lt h)
  unfold drainRecs
  rw [e1]
  simp only [e2]


/-- the `n` slices of width `⌈N/n⌉` tile the record list: parts together are every record exactly once, in order -/
theorem C06_slices_tile (rs : List Bytes) (n : Nat) (hn : 0 < n) : (List.range n).flatMap (slice rs n) = rs := by
  rw [show slice rs n = fun k => seg rs (sliceBegin rs.length n k) (sliceBegin rs.length n (k + 1)) from
      funext fun k => (seg_eq_slice rs n k).symm,
    flatMap_range_telescope (seg rs) _ n (seg_self rs _) fun k _ =>
      (seg_append rs _ _ _ (by rw [sliceBegin_zero]; omega) (sliceBegin_le_end _ n k)).symm,
    sliceBegin_zero, sliceBegin_last _ n hn]
  simp [seg]

/-- at the level of index positions: the position ranges of the parts are consecutive and cover `[0, N)` -/
theorem C06_positions_tile (N n : Nat) (hn : 0 < n) : (List.range n).flatMap (slicePositions N n) = List.range N := by
  refine (flatMap_range_telescope (fun a b => List.range' a (b - a)) (sliceBegin N n) n (by simp) fun k _ => ?_).trans ?_
  · have hle := sliceBegin_le_end N n k
    rw [sliceBegin_zero, Nat.sub_zero, Nat.sub_zero, show sliceBegin N n (k + 1) = sliceBegin N n k +
      (sliceBegin N n (k + 1) - sliceBegin N n k) from (Nat.add_sub_cancel' hle).symm, Nat.add_sub_cancel_left]
    simpa using List.range'_append_1 (s := 0)
  · rw [sliceBegin_zero, sliceBegin_last N n hn, List.range_eq_range']
    rfl

/-! ### the bare class -/

/-- **C06_slice.** Without shuffling, part `k` of `n` yields exactly the records at the sorted-index positions
of the k-th slice, byte-identical and in order — for index lines in any order, any batch size, whatever mix of
`NextRecord` / `NextBatch(b)` / `NextChunk` calls consumes it. -/
theorem C06_slice (rs : List Bytes) (idx : List Nat) (hin : Input rs idx) (k n batch w : Nat) (p : List Nat)
    (hn : 0 < n) (hn32 : n < 2 ^ 32) (hk : k < n) (hbatch : 1 ≤ batch ∧ batch < 2 ^ 32)
    (sched : Nat → Pull) (hsched : ∀ i, PullOk (sched i)) :
    partRecs rs idx k n batch false w p sched = some (slice rs n k) := by
  obtain ⟨s, e1, _, e2⟩ := mk_spec rs hin.short hin.bnd hin.ne idx hin.idx k n batch false w p ⟨hn, hn32, hk, nofun⟩ hbatch
  unfold partRecs
  simp only [e1, drainRecs_of e2 hsched]
  simp [passOrder, seg_eq_slice]

/-- **C06_parts_cover.** The parts `0 .. n-1` together yield every record exactly once, byte-identical. -/
theorem C06_parts_cover (rs : List Bytes) (idx : List Nat) (hin : Input rs idx) (n batch w : Nat)
    (hn : 0 < n) (hn32 : n < 2 ^ 32) (hbatch : 1 ≤ batch ∧ batch < 2 ^ 32)
    (sched : Nat → Nat → Pull) (hsched : ∀ k i, PullOk (sched k i)) :
    (∀ k, k < n → partRecs rs idx k n batch false w [] (sched k) = some (slice rs n k)) ∧
    (List.range n).flatMap (slice rs n) = rs :=
  ⟨fun k hk => C06_slice rs idx hin k n batch w [] hn hn32 hk hbatch (sched k) (hsched k), C06_slices_tile rs n hn⟩

theorem permuted_perm (rs : List Bytes) (p : List Nat) (ib ie : Nat) (hle : ib ≤ ie) (hN : ie ≤ rs.length)
    (hp : p.Perm (List.range' ib (ie - ib))) : (permuted rs p).Perm (seg rs ib ie) := by
  unfold permuted seg
  rw [← filterMap_range' rs (ie - ib) ib (by omega)]
  exact hp.filterMap _

/-- **C06_shuffled_pass.** With shuffling, after any history of pulls and `BeforeFirst` calls, the pass started
by `BeforeFirst` (whose shuffle produced `p`) yields exactly the slice's records in the order `p` — hence a
permutation of the slice that depends only on what the seeded generator produced — however it is consumed. -/
theorem C06_shuffled_pass (rs : List Bytes) (idx : List Nat) (hin : Input rs idx) (k n batch w : Nat) (p₀ : List Nat)
    (hn : 0 < n) (hn32 : n < 2 ^ 32) (hk : k < n) (hbatch : 1 ≤ batch ∧ batch < 2 ^ 32)
    (hp₀ : p₀.Perm (slicePositions rs.length n k))
    (ops : List Op) (hops : OpsOk rs.length true (sliceBegin rs.length n k) (sliceEnd rs.length n k) ops)
    (hnoreset : finalSlice rs.length (sliceBegin rs.length n k) (sliceEnd rs.length n k) ops =
      (sliceBegin rs.length n k, sliceEnd rs.length n k))
    (p : List Nat) (hp : p.Perm (slicePositions rs.length n k))
    (sched : Nat → Pull) (hsched : ∀ i, PullOk (sched i)) :
    ∃ s₀ s₁ s₂, mk (writeAll rs) idx k n batch true w p₀ = .ok s₀ ∧ run s₀ ops = .ok s₁ ∧
      beforeFirst s₁ p = .ok s₂ ∧ drainRecs sched s₂ = some (permuted rs p) ∧
      (permuted rs p).Perm (slice rs n k) := by
  obtain ⟨s₀, e1, _, e2⟩ := mk_spec rs hin.short hin.bnd hin.ne idx hin.idx k n batch true w p₀ ⟨hn, hn32, hk, fun _ => hp₀⟩
    hbatch
  obtain ⟨s₁, todo, f1, f2⟩ := run_spec ops e2 hops
  rw [hnoreset] at f2
  obtain ⟨s₂, g1, _, g2⟩ := bf_serves p f2.core.toBase (fun _ => hp)
  refine ⟨s₀, s₁, s₂, e1, f1, g1, drainRecs_of g2 hsched, ?_⟩
  · rw [← seg_eq_slice]
    exact permuted_perm rs p _ _ (sliceBegin_le_end _ _ _) (sliceEnd_le _ _ _) hp

/-- **C06_batch_independent.** The record list of a part does not depend on the batch size given at
construction, nor on how the part is consumed (singly, in batches of any sizes, in chunks, or any mixture). -/
theorem C06_batch_independent (rs : List Bytes) (idx : List Nat) (hin : Input rs idx) (k n w : Nat) (shuffle : Bool)
    (p : List Nat) (hn : 0 < n) (hn32 : n < 2 ^ 32) (hk : k < n)
    (hp : shuffle = true → p.Perm (slicePositions rs.length n k))
    (b₁ b₂ : Nat) (hb₁ : 1 ≤ b₁ ∧ b₁ < 2 ^ 32) (hb₂ : 1 ≤ b₂ ∧ b₂ < 2 ^ 32)
    (sched₁ sched₂ : Nat → Pull) (h₁ : ∀ i, PullOk (sched₁ i)) (h₂ : ∀ i, PullOk (sched₂ i)) :
    partRecs rs idx k n b₁ shuffle w p sched₁ = partRecs rs idx k n b₂ shuffle w p sched₂ ∧
    partRecs rs idx k n b₁ shuffle w p sched₁ =
      some (if shuffle then permuted rs p else slice rs n k) := by
  have key : ∀ b (hb : 1 ≤ b ∧ b < 2 ^ 32) sched (hs : ∀ i, PullOk (sched i)),
      partRecs rs idx k n b shuffle w p sched = some (if shuffle then permuted rs p else slice rs n k) := by
    intro b hb sched hs
    obtain ⟨s, e1, _, e2⟩ := mk_spec rs hin.short hin.bnd hin.ne idx hin.idx k n b shuffle w p ⟨hn, hn32, hk, hp⟩ hb
    unfold partRecs
    simp only [e1, drainRecs_of e2 hs]
    exact congrArg some (passOrder_slice rs shuffle p n k)
  exact ⟨by rw [key b₁ hb₁ sched₁ h₁, key b₂ hb₂ sched₂ h₂], key b₁ hb₁ sched₁ h₁⟩

/-- **C06_no_uninit.** No history of `NextRecord` / `NextBatch` / `NextChunk` / `BeforeFirst` / `ResetPartition`
calls on an object constructed for any part — including parts that receive no records — ends abnormally: no
read of an uninitialised member, no out-of-range access, no failed `CHECK`; and the object can still be
consumed to the end afterwards. -/
theorem C06_no_uninit (rs : List Bytes) (idx : List Nat) (hin : Input rs idx) (k n batch w : Nat) (shuffle : Bool)
    (p₀ : List Nat) (hn : 0 < n) (hn32 : n < 2 ^ 32) (hk : k < n) (hbatch : 1 ≤ batch ∧ batch < 2 ^ 32)
    (hp₀ : shuffle = true → p₀.Perm (slicePositions rs.length n k))
    (ops : List Op) (hops : OpsOk rs.length shuffle (sliceBegin rs.length n k) (sliceEnd rs.length n k) ops)
    (sched : Nat → Pull) (hsched : ∀ i, PullOk (sched i)) :
    ∃ s₀ s₁ recs, mk (writeAll rs) idx k n batch shuffle w p₀ = .ok s₀ ∧ run s₀ ops = .ok s₁ ∧
      drainRecs sched s₁ = some recs := by
  obtain ⟨s₀, e1, _, e2⟩ := mk_spec rs hin.short hin.bnd hin.ne idx hin.idx k n batch shuffle w p₀ ⟨hn, hn32, hk, hp₀⟩ hbatch
  obtain ⟨s₁, todo, f1, f2⟩ := run_spec ops e2 hops
  exact ⟨s₀, s₁, _, e1, f1, drainRecs_of f2 hsched⟩

/-- **C06_reset_history.** However many `ResetPartition` (and other) calls an object has seen, after
`ResetPartition(k, n)` it yields exactly what a freshly constructed part `(k, n)` yields: the slice, in order
without shuffling, in the order of the shuffle result `p` with shuffling. -/
theorem C06_reset_history (rs : List Bytes) (idx : List Nat) (hin : Input rs idx) (k₀ n₀ batch w : Nat) (shuffle : Bool)
    (p₀ : List Nat) (hn₀ : 0 < n₀) (hn₀32 : n₀ < 2 ^ 32) (hk₀ : k₀ < n₀) (hbatch : 1 ≤ batch ∧ batch < 2 ^ 32)
    (hp₀ : shuffle = true → p₀.Perm (slicePositions rs.length n₀ k₀))
    (ops : List Op) (hops : OpsOk rs.length shuffle (sliceBegin rs.length n₀ k₀) (sliceEnd rs.length n₀ k₀) ops)
    (k n : Nat) (p : List Nat) (hn : 0 < n) (hn32 : n < 2 ^ 32) (hk : k < n)
    (hp : shuffle = true → p.Perm (slicePositions rs.length n k))
    (sched : Nat → Pull) (hsched : ∀ i, PullOk (sched i)) :
    ∃ s₀ s₁ s₂, mk (writeAll rs) idx k₀ n₀ batch shuffle w p₀ = .ok s₀ ∧ run s₀ ops = .ok s₁ ∧
      resetPartition s₁ k n p = .ok s₂ ∧
      drainRecs sched s₂ = some (if shuffle then permuted rs p else slice rs n k) := by
  obtain ⟨s₀, e1, _, e2⟩ := mk_spec rs hin.short hin.bnd hin.ne idx hin.idx k₀ n₀ batch shuffle w p₀ ⟨hn₀, hn₀32, hk₀, hp₀⟩ hbatch
  obtain ⟨s₁, todo, f1, f2⟩ := run_spec ops e2 hops
  obtain ⟨s₂, g1, _, g2⟩ := reset_serves f2.core.toOnFile ⟨hn, hn32, hk, hp⟩
  refine ⟨s₀, s₁, s₂, e1, f1, g1, ?_⟩
  rw [drainRecs_of g2 hsched]
  exact congrArg some (passOrder_slice rs shuffle p n k)


/-! ### the public path: `InputSplit::Create(uri, index_uri, k, n, "indexed_recordio", shuffle, seed, batch)`

`W` is the object `Create` returns (the prefetching wrapper around the splitter). -/

def wdrainRecs (dw : Nat) (sched : Nat → WPull) (w : W) : Option (List Bytes) :=
  match wdrain dw sched ((match w.cur with | some c => c.rest.length | none => 0) + w.base.file.length + 1) 0 w with
  | .ok evs => some (evs.flatMap wdecode)
  | .error _ => none

theorem wdrainRecs_of {rs : List Bytes} (dw : Nat) {sh : Bool} {w : W}
    {ib ie : Nat} {todo : List Bytes} (h : Serves rs sh w.base w.cur ib ie todo) (sched : Nat → WPull) :
    wdrainRecs dw sched w = some todo := by
  obtain ⟨evs, e1, e2⟩ := wdrain_spec dw sched h (todo_lt h)
  unfold wdrainRecs
  rw [e1]
  simp only [e2]

/-- **C06, public path, one statement for every history.**  For every part `(k₀, n₀)` (also one that receives no
records), every batch size, shuffle on or off, every history `ops` of `NextRecord` / `NextChunk` / `BeforeFirst`
/ `ResetPartition` calls on the created object: nothing ends abnormally, and a pass started afterwards by
`ResetPartition(k, n)` — consumed by records, by chunks or any mixture — yields exactly slice `k` of `n`: in index order
without shuffling, in the order of the shuffle result with shuffling (a permutation of the slice). -/
theorem C06_public_history (rs : List Bytes) (idx : List Nat) (hin : Input rs idx) (k₀ n₀ batch dw : Nat)
    (shuffle : Bool) (p₀ : List Nat) (hn₀ : 0 < n₀) (hn₀32 : n₀ < 2 ^ 32) (hk₀ : k₀ < n₀)
    (hbatch : 1 ≤ batch ∧ batch < 2 ^ 32) (hp₀ : shuffle = true → p₀.Perm (slicePositions rs.length n₀ k₀))
    (ops : List WOp) (hops : WOpsOk rs.length shuffle (sliceBegin rs.length n₀ k₀) (sliceEnd rs.length n₀ k₀) ops)
    (k n : Nat) (p₁ p₂ : List Nat) (hn : 0 < n) (hn32 : n < 2 ^ 32) (hk : k < n)
    (hp : shuffle = true → p₁.Perm (slicePositions rs.length n k) ∧ p₂.Perm (slicePositions rs.length n k))
    (sched : Nat → WPull) :
    ∃ w₀ w₁ w₂, W.create (writeAll rs) idx k₀ n₀ batch shuffle dw p₀ = .ok w₀ ∧ wrun dw w₀ ops = .ok w₁ ∧
      w₁.resetPartition k n p₁ p₂ = .ok w₂ ∧
      wdrainRecs dw sched w₂ = some (if shuffle then permuted rs p₂ else slice rs n k) ∧
      (shuffle = true → (permuted rs p₂).Perm (slice rs n k)) := by
  obtain ⟨w₀, e1, e2⟩ := create_spec rs hin.short hin.bnd hin.ne idx hin.idx k₀ n₀ batch shuffle dw p₀
    ⟨hn₀, hn₀32, hk₀, hp₀⟩ hbatch
  obtain ⟨w₁, todo, f1, f2⟩ := wrun_spec dw ops e2 hops
  obtain ⟨w₂, g1, g2⟩ := wreset_serves f2.core.toOnFile ⟨hn, hn32, hk, fun h => (hp h).1⟩ ⟨hn, hn32, hk, fun h => (hp h).2⟩
  refine ⟨w₀, w₁, w₂, e1, f1, g1, ?_, ?_⟩
  · rw [wdrainRecs_of dw g2 sched]
    exact congrArg some (passOrder_slice rs shuffle p₂ n k)
  · intro hsh
    rw [← seg_eq_slice]
    exact permuted_perm rs p₂ _ _ (sliceBegin_le_end _ _ _) (sliceEnd_le _ _ _) (hp hsh).2

/-- **C06, public path: a freshly created part.**  `Create(.., k, n, .., shuffle, seed, batch)` consumed to the end
by records, by chunks or any mixture yields slice `k` of `n` (permuted by the first shuffle result `p` when
shuffling), independently of `batch`. -/
theorem C06_public_slice (rs : List Bytes) (idx : List Nat) (hin : Input rs idx) (k n batch dw : Nat) (shuffle : Bool)
    (p : List Nat) (hn : 0 < n) (hn32 : n < 2 ^ 32) (hk : k < n) (hbatch : 1 ≤ batch ∧ batch < 2 ^ 32)
    (hp : shuffle = true → p.Perm (slicePositions rs.length n k)) (sched : Nat → WPull) :
    ∃ w, W.create (writeAll rs) idx k n batch shuffle dw p = .ok w ∧
      wdrainRecs dw sched w = some (if shuffle then permuted rs p else slice rs n k) := by
  obtain ⟨w, e1, e2⟩ := create_spec rs hin.short hin.bnd hin.ne idx hin.idx k n batch shuffle dw p ⟨hn, hn32, hk, hp⟩ hbatch
  refine ⟨w, e1, ?_⟩
  rw [wdrainRecs_of dw e2 sched]
  exact congrArg some (passOrder_slice rs shuffle p n k)

/-- **C06, public path: every pass.**  After any history, `BeforeFirst` (shuffle result `p`) starts a pass that
yields the records of the slice currently selected, in the order `p` (shuffling) or in index order. -/
theorem C06_public_pass (rs : List Bytes) (idx : List Nat) (hin : Input rs idx) (k₀ n₀ batch dw : Nat)
    (shuffle : Bool) (p₀ : List Nat) (hn₀ : 0 < n₀) (hn₀32 : n₀ < 2 ^ 32) (hk₀ : k₀ < n₀)
    (hbatch : 1 ≤ batch ∧ batch < 2 ^ 32) (hp₀ : shuffle = true → p₀.Perm (slicePositions rs.length n₀ k₀))
    (ops : List WOp) (hops : WOpsOk rs.length shuffle (sliceBegin rs.length n₀ k₀) (sliceEnd rs.length n₀ k₀) ops)
    (p : List Nat)
    (hp : shuffle = true → p.Perm (List.range'
            (wfinalSlice rs.length (sliceBegin rs.length n₀ k₀) (sliceEnd rs.length n₀ k₀) ops).1
            ((wfinalSlice rs.length (sliceBegin rs.length n₀ k₀) (sliceEnd rs.length n₀ k₀) ops).2 -
              (wfinalSlice rs.length (sliceBegin rs.length n₀ k₀) (sliceEnd rs.length n₀ k₀) ops).1)))
    (sched : Nat → WPull) :
    ∃ w₀ w₁ w₂, W.create (writeAll rs) idx k₀ n₀ batch shuffle dw p₀ = .ok w₀ ∧ wrun dw w₀ ops = .ok w₁ ∧
      w₁.beforeFirst p = .ok w₂ ∧
      wdrainRecs dw sched w₂ = some (if shuffle then permuted rs p else
        seg rs (wfinalSlice rs.length (sliceBegin rs.length n₀ k₀) (sliceEnd rs.length n₀ k₀) ops).1
               (wfinalSlice rs.length (sliceBegin rs.length n₀ k₀) (sliceEnd rs.length n₀ k₀) ops).2) := by
  obtain ⟨w₀, e1, e2⟩ := create_spec rs hin.short hin.bnd hin.ne idx hin.idx k₀ n₀ batch shuffle dw p₀
    ⟨hn₀, hn₀32, hk₀, hp₀⟩ hbatch
  obtain ⟨w₁, todo, f1, f2⟩ := wrun_spec dw ops e2 hops
  obtain ⟨w₂, g1, g2⟩ := wbf_serves w₁ p f2.core.toBase hp
  exact ⟨w₀, w₁, w₂, e1, f1, g1, wdrainRecs_of dw g2 sched⟩

end DmlcModel.Props.C06
