/-
C11 / C13, the `Next` layer (src/data/parser.h): the real cursor loop of `ParserImpl::Next` gives the blocks of `pipeline`
(what the driver runs), the prefetching `ThreadedParser` wrapper is transparent, and every block is handed out while the
parser still holds the cell it lies in.
-/
import DmlcModel.Parse.ParserNext
import DmlcModel.ExceptLemmas

namespace DmlcModel.Props.C11
open DmlcModel DmlcModel.Parse DmlcModel.Parse.PNext

theorem mapM_nonEmpty_flatten {α : Type} (g : α → Res (List Container)) (xs : List α) (r : List (List Row)) :
    ((xs.mapM g).bind fun css => (nonEmpty css.flatten).mapM rowsOf) = .ok r ↔
      ∃ bss, xs.mapM (fun x => (g x).bind blocksOf) = .ok bss ∧ r = bss.flatten := by
  induction xs generalizing r with
  | nil => simp [nonEmpty, pure, Except.pure, Except.bind, eq_comm]
  | cons x xs ih =>
    constructor
    · intro h
      obtain ⟨css0, h0, h⟩ := bind_ok_iff.mp h
      obtain ⟨cs, css, hg, hm, rfl⟩ := mapM_cons_ok_iff.mp h0
      rw [List.flatten_cons, nonEmpty, List.filter_append] at h
      obtain ⟨b, r', hb, hr', rfl⟩ := mapM_append_ok_iff.mp h
      obtain ⟨bss, hX, rfl⟩ := (ih r').mp (bind_ok_iff.mpr ⟨css, hm, hr'⟩)
      exact ⟨b :: bss, mapM_cons_ok_iff.mpr ⟨b, bss, bind_ok_iff.mpr ⟨cs, hg, hb⟩, hX, rfl⟩, rfl⟩
    · rintro ⟨bss0, h0, rfl⟩
      obtain ⟨b, bss, hb, hX, rfl⟩ := mapM_cons_ok_iff.mp h0
      obtain ⟨cs, hg, hb⟩ := bind_ok_iff.mp hb
      obtain ⟨css, hm, hr'⟩ := bind_ok_iff.mp ((ih bss.flatten).mpr ⟨bss, hX, rfl⟩)
      refine bind_ok_iff.mpr ⟨cs :: css, mapM_cons_ok_iff.mpr ⟨cs, css, hg, hm, rfl⟩, ?_⟩
      rw [List.flatten_cons, nonEmpty, List.filter_append]
      exact mapM_append_ok_iff.mpr ⟨b, bss.flatten, hb, hr', rfl⟩

theorem pipeline_eq (f : Format) (fx : Fixes) (conv : Conv) (nthread : Nat) (chunks : List (Bytes × Nat)) :
    pipeline f fx conv nthread chunks =
      (chunks.mapM fun c => (fillData (f.parseBlock fx conv) c.1 c.2 nthread).bind blocksOf).map List.flatten := by
  unfold pipeline
  cases chunks.mapM fun c => (fillData (f.parseBlock fx conv) c.1 c.2 nthread).bind blocksOf <;> rfl

/-- **`ParserImpl::Next` as a loop = the specification `pipeline`**: one succeeds exactly when the other does, with the
same blocks in the same order.  (When they fail they may name different causes: the loop runs every `ParseNext` first, the real
object interleaves them with the reads – either way the consumer sees an exception.) -/
theorem C11_parser_next_loop (f : Format) (fx : Fixes) (conv : Conv) (nthread : Nat) (chunks : List (Bytes × Nat))
    (bs : List (List Row)) :
    pipelineLoop f fx conv nthread chunks = .ok bs ↔ pipeline f fx conv nthread chunks = .ok bs := by
  rw [pipeline_eq]
  unfold pipelineLoop
  have key := mapM_nonEmpty_flatten (fun (c : Bytes × Nat) => fillData (f.parseBlock fx conv) c.1 c.2 nthread) chunks bs
  have hl : (do
      let css ← chunks.mapM fun c => fillData (f.parseBlock fx conv) c.1 c.2 nthread
      let cs ← piDrain {} css
      cs.mapM rowsOf) = ((chunks.mapM fun c => fillData (f.parseBlock fx conv) c.1 c.2 nthread).bind fun css =>
        (nonEmpty css.flatten).mapM rowsOf) := by
    cases chunks.mapM fun c => fillData (f.parseBlock fx conv) c.1 c.2 nthread with
    | error e => rfl
    | ok css => simp [bind, Except.bind, piDrain_fresh]
  rw [hl, key]
  cases chunks.mapM fun c => (fillData (f.parseBlock fx conv) c.1 c.2 nthread).bind blocksOf with
  | error e => simp [Except.map]
  | ok bss => simp [Except.map]; exact eq_comm

/-- **the `ThreadedParser` wrapper is transparent and every block is owned when handed out** -/
theorem C11_threaded_parser_transparent (f : Format) (fx : Fixes) (conv : Conv) (nthread : Nat)
    (chunks : List (Bytes × Nat)) :
    pipelineThreaded f fx conv nthread chunks =
      (pipelineLoop f fx conv nthread chunks).map (·.map fun r => (r, true)) := by
  unfold pipelineThreaded pipelineLoop
  cases hm : chunks.mapM fun (c : Bytes × Nat) => fillData (f.parseBlock fx conv) c.1 c.2 nthread with
  | error e => simp [bind, Except.bind, Except.map]
  | ok css =>
    simp only [bind, Except.bind, tpDrain_eq {} css TP.wf_init, piDrain_fresh, TP.cur, List.nil_append]
    exact List.mapM_map.trans (mapM_map_res rowsOf (fun r => (r, true)) _)

/-- **a block is handed out only while its cell is held**: whenever `ThreadedParser::Next` returns a block in a state reached
from the constructor, `tmp_` is the cell that contains it – its `Recycle` has not happened yet – and when `Next` returns false
no cell is held -/
theorem C11_threaded_block_owned (s : TP) (cells : List (List Container)) (hw : s.Wf) :
    ∃ o s' cells', tpNext s cells = .ok (o, s', cells') ∧ s'.Wf ∧
      (∀ c, o = some c → ∃ d, s'.tmp = some d ∧ 1 ≤ s'.ptr ∧ d[s'.ptr - 1]? = some c) ∧
      (o = none → s'.tmp = none ∧ cells' = []) := by
  obtain ⟨o, s', cells', h1, h2, _, h4, h5⟩ := tpNext_spec s cells hw
  exact ⟨o, s', cells', h1, h2, h4, h5⟩

/-- **cells are given back exactly once**: in every state reached from the constructor by `Next` calls, the number
of cells taken from the iterator = the number given back + the one held (if any) -/
theorem C11_threaded_cells_balanced (s : TP) (cells : List (List Container)) (hw : s.Wf)
    (o : Option Container) (s' : TP) (cells' : List (List Container)) (h : tpNext s cells = .ok (o, s', cells')) :
    s'.taken = s'.recycled + (if s'.tmp.isSome then 1 else 0) := by
  obtain ⟨o2, s2, c2, h1, h2, _⟩ := tpNext_spec s cells hw
  rw [h] at h1
  cases h1
  exact h2.2

/-- the source gives the cell back where the model does: one `Recycle` in `ThreadedParser::Next`, after the scan loop
has run to its end, before `iter_.Next`, under `if (tmp_ != NULL)` (read off src/data/parser.h on every run) -/
theorem C11_threaded_source_shape :
    Gen.Parse.tpRecycleSites = 1 ∧ Gen.Parse.tpRecycleAfterScan = true ∧ Gen.Parse.tpRecycleGuarded = true := by decide

/-- the factories of src/data.cc have the modelled shape: all three read a "text" split, libsvm / libfm are wrapped in
`ThreadedParser`, csv is returned bare, and all pass the same positive thread count -/
theorem C11_factory_shape :
    Gen.Parse.factoryTextSplits = 3 ∧ Gen.Parse.factoryThreadedWrappers = 2 ∧ 1 ≤ Gen.Parse.factoryThreads := by decide

/-- non-vacuity: two cells, the first with an empty container in the middle and one at its end; the third `Next`
crosses into the second cell (one `Recycle`); every block is owned -/
example :
    tpDrain {} [[{ offset := [0, 1], label := [7], index := [3] }, {}, { offset := [0, 0], label := [9] }, {}], [{}],
      [{ offset := [0, 0], label := [9] }]] =
      .ok [({ offset := [0, 1], label := [7], index := [3] }, true), ({ offset := [0, 0], label := [9] }, true),
        ({ offset := [0, 0], label := [9] }, true)] := by
  rw [tpDrain_eq _ _ TP.wf_init]; simp [TP.cur, nonEmpty, Container.size]

end DmlcModel.Props.C11
