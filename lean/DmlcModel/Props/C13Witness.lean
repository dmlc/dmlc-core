/-
C13 witnesses: (a) non-vacuity; (b) the misbehaviour of the PINNED code (before fixes/C13-1..3), on hand transcriptions
of the pinned statements (`Pinned.*`), each refuting the property on a concrete input; (c) the open class
`mixed-presence-push`: without `Compatible` the repaired code raises dmlc::Error.
-/
import DmlcModel.Props.C13

deriving instance DecidableEq for Except

namespace DmlcModel.Props.C13
open DmlcModel DmlcModel.RowBlock

def lim32 : Nat := 2 ^ 32 - 1

/-- three rows (2, 1, 0 entries) with label, weight, field and value; no qid -/
def b3 : Block :=
  { size := 3, offset := [0, 2, 3, 3], label := some [10, 11, 12], weight := some [20, 21, 22], qid := none,
    field := some [1, 2, 3], index := some [5, 6, 7], value := some [30, 31, 32] }

/-- the same rows without weight -/
def b3nw : Block := { b3 with weight := none }

def r1 : RowVal := { label := some 9, weight := none, qid := some 4, field := none, index := [8], value := some [33] }

-- (a)
example : Sound b3 = true := by decide
example : b3.off0 + b3.ndata < 2 ^ 62 := by decide
example : Compatible Container.empty b3 = true := by decide
example : FitsLim lim32 b3 := by
  refine ⟨by decide, ?_⟩
  intro l hl; cases hl; decide
example : r1.WF := ⟨fun fs h => (by cases h), fun vs h => (by cases h; rfl)⟩
example : Compatible Container.empty (rowBlock r1) = true := by decide
example : (b3.slice 1 3).map Sound = .ok true := by decide

/-- pushing the slice [1,3) of `b3` into an empty container stores exactly rows 1 and 2 -/
theorem C13_witness_slice_push :
    (match b3.slice 1 3 with
     | .ok s => (match getBlock (pushBlock lim32 Container.empty s).1 with
                 | .ok v => v.rows
                 | .error e => .error e)
     | .error e => .error e) =
    .ok [{ label := some 11, weight := some 21, qid := none, field := some [3], index := [7], value := some [32] },
         { label := some 12, weight := some 22, qid := none, field := some [], index := [], value := some [] }] := by
  decide

/-- Save then Load returns the container and consumes exactly the image (4 trailing bytes stay) -/
theorem C13_witness_save_load :
    load 4 Container.empty (save 4 (pushBlock lim32 Container.empty b3).1 ++ [1, 2, 3, 4]) =
      .ok (pushBlock lim32 Container.empty b3).1 [1, 2, 3, 4] := by
  refine (C13_save_load 4 (by decide) _ _ _ ⟨⟨elemsLt_of_all _ _ ?_, ?_⟩, ⟨elemsLt_of_all _ _ ?_, ?_⟩,
    ⟨elemsLt_of_all _ _ ?_, ?_⟩, ⟨elemsLt_of_all _ _ ?_, ?_⟩, ⟨elemsLt_of_all _ _ ?_, ?_⟩, ⟨elemsLt_of_all _ _ ?_, ?_⟩,
    ⟨elemsLt_of_all _ _ ?_, ?_⟩, ?_, ?_⟩).1 <;> decide

set_option maxRecDepth 16384 in
example : (save 4 (pushBlock lim32 Container.empty b3).1).length = 8 * 7 + 8 * 4 + 4 * 3 + 4 * 3 + 4 * 3 + 4 * 3 + 4 * 3 + 8 := by
  decide

/-- a two-page cache file (page test "at least 2 rows") is read back as all rows in order -/
theorem C13_witness_disk_pages :
    (match buildCacheWith (fun _ => true) 4 lim32 [b3, b3] with
     | .ok (file, _) => (match readPages 4 (file.length + 1) file, diskPass 4 file with
                         | .ok pages, .ok rs => some (pages.length, rs.length)
                         | _, _ => none)
     | .error _ => none) = some (2, 6) := by decide +kernel

-- (b)
namespace Pinned

/-- `GetBlock` of the pinned tree: the label / index / value CHECKs only -/
def getBlock (c : Container) : R Block :=
  match c.offset.getLast? with
  | none => .error .oob
  | some back =>
    if Gen.RowBlock.gbLabelGuard c.label.length && !Gen.RowBlock.gbLabelEq c.label.length c.offset.length then
      .error .check
    else if !Gen.RowBlock.gbIndexEq back c.index.length then .error .check
    else if !Gen.RowBlock.gbValueOk back c.value.length then .error .check
    else .ok { size := Gen.RowBlock.gbSize c.offset.length, offset := c.offset,
               label := beginPtr c.label, weight := beginPtr c.weight, qid := beginPtr c.qid,
               field := beginPtr c.field, index := beginPtr c.index, value := beginPtr c.value }

/-- `Push(RowBlock)` of the pinned tree for a block with label: entries read at `batch.index[i]`,
`batch.field[i]`, `batch.value` (position 0), `field` written at `offset.back()` -/
def pushBlock (lim : Nat) (c : Container) (b : Block) : Container × Option Err :=
  let stepFieldP (c : Container) : Container × Option Err :=
    match b.field with
    | none => (c, none)
    | some fl =>
      match ndataOf b, c.offset.getLast? with
      | .ok (_, nd), some back =>
        let f1 := c.field ++ List.replicate nd 0
        let res := copyGo (fun x => decide (x ≤ lim)) id fl id back nd 0 f1 c.maxField
        ({ c with field := res.1, maxField := res.2.1 }, res.2.2)
      | _, _ => (c, some .oob)
  let stepIndexP (c : Container) : Container × Option Err :=
    match ndataOf b, c.offset.getLast? with
    | .ok (_, nd), some back =>
      let i1 := c.index ++ List.replicate nd 0
      let res := copyGo (fun x => decide (x ≤ lim)) id (ext b.index) id back nd 0 i1 c.maxIndex
      ({ c with index := res.1, maxIndex := res.2.1 }, res.2.2)
    | _, _ => (c, some .oob)
  let stepValueP (c : Container) : Container × Option Err :=
    match b.value with
    | none => (c, none)
    | some vl =>
      match ndataOf b with
      | .ok (_, nd) =>
        let v1 := c.value ++ List.replicate nd 0
        match rdSeg vl 0 nd with
        | .error e => ({ c with value := v1 }, some e)
        | .ok xs =>
          match writeSeg v1 (v1.length - nd) xs with
          | .ok v2 => ({ c with value := v2 }, none)
          | .error e => ({ c with value := v1 }, some e)
      | .error e => (c, some e)
  andThen (andThen (andThen (andThen (andThen (andThen (stepLabel b c) (stepWeight b)) (stepQid b)) stepFieldP)
    stepIndexP) stepValueP) (stepOffset c.label.length b)

end Pinned

/-- the emissions of `"1:2 1:1\n3 1:1\n"` (finding C13-F1, DESIGN section 6): two rows, only the first carries a weight -/
def f7lines : List Line :=
  [{ label := some 0x3f800000, weight := some 0x40000000, qid := none, entries := [{ index := 1, value := some 0x3f800000 }] },
   { label := some 0x40400000, weight := none, qid := none, entries := [{ index := 1, value := some 0x3f800000 }] }]

/-- PINNED: the libsvm parser hands out a block whose weight array is shorter than its rows; reading row 1
through `operator[]` leaves the array.  (C13-F1, fixed by C13-1.) -/
theorem C13_witness_pinned_short_weight :
    (match parseSvm f7lines with
     | .ok c => (match Pinned.getBlock c with
                 | .ok b => some (Sound b, b.size, (ext b.weight).length, b.row 1)
                 | .error _ => none)
     | .error _ => none) = some (false, 2, 1, .error .oob) := by decide

/-- REPAIRED: the same input makes the parser raise dmlc::Error -/
theorem C13_witness_fixed_short_weight :
    (match parseSvm f7lines with
     | .ok c => handOut c
     | .error e => .error e) = .error .check := by decide

/-- PINNED: pushing the slice [1,3) copies the entries of rows 0,1 (positions 0..) under the labels of rows 1,2
(C13-F2, fixed by C13-2); compare `C13_witness_slice_push`. -/
theorem C13_witness_pinned_slice_push :
    (match b3.slice 1 3 with
     | .ok s => (match getBlock (Pinned.pushBlock lim32 Container.empty s).1 with
                 | .ok v => v.rows
                 | .error e => .error e)
     | .error e => .error e) =
    .ok [{ label := some 11, weight := some 21, qid := none, field := some [1], index := [5], value := some [30] },
         { label := some 12, weight := some 22, qid := none, field := some [], index := [], value := some [] }] := by
  decide

/-- PINNED: a block with `field` pushed into a container that has entries but no `field` writes `field` at
`offset.back()`, i.e. outside the array (heap overflow under ASan) -/
theorem C13_witness_pinned_field_oob :
    (Pinned.pushBlock lim32 (pushBlock lim32 Container.empty { b3 with field := none }).1 b3).2 = some .oob := by
  decide

-- (c)
/-- open class `mixed-presence-push`: `Push(Row)` stores a weight, the following block has none; the pair is
not `Compatible`, and the repaired container refuses to hand out a block (dmlc::Error) -/
theorem C13_witness_mixed_presence :
    Compatible (pushRow lim32 Container.empty r1).1 b3nw = false ∧
    (pushBlock lim32 (pushRow lim32 Container.empty r1).1 b3nw).2 = none ∧
    getBlock (pushBlock lim32 (pushRow lim32 Container.empty r1).1 b3nw).1 = .error .check := by decide

/-- **The full statement of the property for `Push(RowBlock)`** -- no `Compatible` hypothesis: every sound block
pushed into every container satisfying the invariant is appended row by row.  It is FALSE of the code (pinned
and repaired): `C13_push_block_statement_false`.  `C13_push_block` is the proved part; its extra hypothesis
`Compatible c b` is exactly the complement of the open finding class `mixed-presence-push`. -/
def C13_push_block_statement : Prop :=
  ∀ (lim : Nat) (c : Container) (b : Block), Good c → Sound b = true → FitsLim lim b → b.off0 + b.ndata < 2 ^ 62 →
    c.offset.length + b.size < 2 ^ 62 → c.index.length + b.ndata < 2 ^ 62 →
    ∃ c' bc bc' rc rb rc', pushBlock lim c b = (c', none) ∧ getBlock c = .ok bc ∧ getBlock c' = .ok bc' ∧
      bc.rows = .ok rc ∧ b.rows = .ok rb ∧ bc'.rows = .ok rc' ∧
      rc'.map RowVal.norm = rc.map RowVal.norm ++ rb.map RowVal.norm

theorem C13_push_block_statement_false : ¬ C13_push_block_statement := by
  intro h
  have g : Good (pushRow lim32 Container.empty r1).1 :=
    good_of_getBlock (b := view (pushRow lim32 Container.empty r1).1) (by decide) (by unfold ContainerSmall; decide) (by decide)
  have fit : FitsLim lim32 b3nw := by
    refine ⟨by decide, ?_⟩
    intro l hl; cases hl; decide
  obtain ⟨c', _, bc', _, _, _, e, _, e', _⟩ :=
    h lim32 (pushRow lim32 Container.empty r1).1 b3nw g (by decide) fit (by decide) (by decide) (by decide)
  have hc : c' = (pushBlock lim32 (pushRow lim32 Container.empty r1).1 b3nw).1 := by rw [e]
  rw [hc, C13_witness_mixed_presence.2.2] at e'
  cases e'

end DmlcModel.Props.C13
