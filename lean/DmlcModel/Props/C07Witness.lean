/-
C07 witnesses (non-vacuity of the hypotheses `Reachable P s`, `inCall s`, `NoFail P`, and of the bounds); the harness
replays schedules of the same shape on the real code.
-/
import DmlcModel.TIter.Runs

namespace DmlcModel.Props.C07Witness
open DmlcModel.TIter

def P3 (cap : Nat) : Params := { src := fun p i => if i < 3 then .item (100 * p + i) else .fin, rew := fun _ => .ok, cap := cap }

theorem C07_witness_noFail : NoFail (P3 1) := by
  constructor
  · intro p i; simp only [P3]; split <;> simp
  · intro p; simp [P3]

/-- two consumers wait in Next, the queue is empty, the producer is inside its callback -/
theorem C07_witness_two_waiters :
    ∃ t, runEvents true (P3 2) init
      [.nStart false, .nStart false, .nLoadSig, .nLoadSig, .nExc, .nExc, .nLock, .nLock, .prod] = some t ∧
      t.nW = 2 ∧ t.nwaitC = 2 ∧ t.queue = [] ∧ t.ploc = .call ∧ inCall t := by
  refine ⟨_, rfl, rfl, rfl, rfl, rfl, Or.inl (by decide)⟩

/-- the allocation bound is attained: max_capacity = 1, a consumer holds cell 0 while the producer allocates
cell 1 (allocated = 2 = cap + maxLent), and the consumer's item is position 0 -/
theorem C07_witness_alloc_bound_tight :
    ∃ t, runEvents true (P3 1) init
      [.prod, .prod, .prod, .prod, .nStart false, .nLoadSig, .nExc, .nLock, .prod, .prod] = some t ∧
      t.allocated = 2 ∧ t.maxLent = 1 ∧ t.lent = [0] ∧ t.pcell = some 1 ∧
      t.delivered = [⟨0, 0, 0⟩] ∧ t.pitem = some ⟨0, 1, 1⟩ := by
  refine ⟨_, rfl, rfl, rfl, rfl, rfl, rfl, rfl⟩

/-- the queue can exceed max_capacity (the bound is on allocations, not on the queue length): cap = 1, the
consumer recycles cell 0 while cell 1 is queued, the producer refills cell 0 -/
theorem C07_witness_queue_exceeds_cap :
    ∃ t, runEvents true (P3 1) init
      [.prod, .prod, .prod, .prod, .nStart false, .nLoadSig, .nExc, .nLock, .prod, .prod, .prod, .prod,
       .nRetItem, .rStart 0, .rExc 0, .rLock 0, .prod, .prod, .prod, .prod] = some t ∧
      t.queue.length = 2 ∧ t.allocated = 2 := by
  refine ⟨_, rfl, rfl, rfl⟩

/-- Next returns false after the end: with a source that is exhausted at once, a `Next(DType**)` call goes through
`nRetEnd` and the ghost flag `srcEnded` is set -/
theorem C07_witness_end :
    ∃ t, runEvents true { (P3 3) with src := fun _ _ => .fin } init
      [.prod, .prod, .prod, .nStart false, .nLoadSig, .nExc, .nLock, .nRetEnd] = some t ∧ t.ret = .nextEnd ∧
      t.srcEnded = true := by
  refine ⟨_, rfl, rfl, rfl⟩

end DmlcModel.Props.C07Witness
