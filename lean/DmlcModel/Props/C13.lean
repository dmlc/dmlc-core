/-
C13 — row blocks are structurally sound; containers and row iterators preserve rows.
The model follows the repaired code (fixes/C13-1..3).  `Sound b` is the predicate of the property, `Good c` the container
invariant, `Compatible c b` the decidable side condition of Push(RowBlock) (open finding class `mixed-presence-push`).
-/
import DmlcModel.RowBlock.Parser
import DmlcModel.RowBlock.Iter

namespace DmlcModel.Props.C13
open DmlcModel DmlcModel.RowBlock

/-- **Blocks handed out by `GetBlock` are sound** whenever the offsets are non-decreasing: the six CHECKs are
exactly what is needed (with the pinned three CHECKs this is false, see C13Witness). -/
theorem C13_getBlock_sound (c : Container) (b : Block) (hm : mono c.offset = true) (hs : ContainerSmall c)
    (h : getBlock c = .ok b) : Sound b = true :=
  sound_of_getBlock hm hs h

/-- **Parser blocks are sound** (libsvm / libfm / csv push disciplines, any list of per-line emissions, any mix
of weight / qid / value presence): if ParseBlock ends without dmlc::Error and `ParserImpl::Next` hands the
container out (through `GetBlock`) without dmlc::Error, the block is sound. -/
theorem C13_parser_blocks_sound (ls : List Line) (c : Container) (b : Block) (hs : ContainerSmall c)
    (hp : parseSvm ls = .ok c ∨ parseFm ls = .ok c ∨ parseCsv ls = .ok c)
    (ho : handOut c = .ok (some b)) : Sound b = true := by
  rcases hp with h | h | h
  · exact handOut_sound (parseSvm_mono h) hs ho
  · exact handOut_sound (parseFm_mono h) hs ho
  · exact handOut_sound (parseCsv_mono h) hs ho

/-- reading any row of a sound block stays inside every array (no `ub:oob`, no error) -/
theorem C13_sound_rows_readable (b : Block) (hs : Sound b = true) :
    (∀ i, i < b.size → ∃ r, b.row i = .ok r) ∧ ∃ rs, b.rows = .ok rs ∧ rs.length = b.size :=
  ⟨fun _ hi => ⟨_, row_eq_rowT hs hi⟩, b.rowsT, rows_sound hs, by simp [Block.rowsT]⟩

/-- **Slices**: `Slice(bgn, e)` of a sound block is sound and its rows are rows `bgn..e-1` of the block. -/
theorem C13_slice_sound (b : Block) (bgn e : Nat) (hs : Sound b = true) (h1 : bgn ≤ e) (h2 : e ≤ b.size)
    (h3 : b.size < 2 ^ 64) :
    ∃ s rs, b.slice bgn e = .ok s ∧ Sound s = true ∧ b.rows = .ok rs ∧
      s.rows = .ok ((rs.drop bgn).take (e - bgn)) :=
  ⟨b.sliceT bgn e, b.rowsT, slice_ok b h1 h2 h3, sound_slice hs h1 h2, rows_sound hs, by
    rw [rows_sound (sound_slice hs h1 h2), rowsT_slice b h1 h2]⟩

/-- **Push(RowBlock)**, `b` any sound block (in particular any slice): no exception, the invariant is kept,
the new container's block is sound, and its rows are the old rows followed by the rows of `b`. -/
theorem C13_push_block (lim : Nat) (c : Container) (b : Block) (g : Good c) (hs : Sound b = true)
    (hc : Compatible c b = true) (hfit : FitsLim lim b) (hb : b.off0 + b.ndata < 2 ^ 62)
    (hsm : c.offset.length + b.size < 2 ^ 62) (hnd : c.index.length + b.ndata < 2 ^ 62) :
    ∃ c' bc bc' rc rb rc', pushBlock lim c b = (c', none) ∧ Good c' ∧
      getBlock c = .ok bc ∧ getBlock c' = .ok bc' ∧ Sound bc' = true ∧
      bc.rows = .ok rc ∧ b.rows = .ok rb ∧ bc'.rows = .ok rc' ∧
      rc'.map RowVal.norm = rc.map RowVal.norm ++ rb.map RowVal.norm := by
  have g' := good_pushed g hs hc hsm hnd
  exact ⟨_, view c, view (pushed c b), _, _, _, pushBlock_closed g hs hfit hb hsm hnd, g', getBlock_good g,
    getBlock_good g', sound_view g', rows_sound (sound_view g), rows_sound hs, rows_sound (sound_view g'),
    rowsT_pushed g hs hc⟩

/-- **Push(Row)**: the rows afterwards are the old rows followed by the row as stored. -/
theorem C13_push_row (lim : Nat) (c : Container) (r : RowVal) (g : Good c) (wf : r.WF)
    (hc : Compatible c (rowBlock r) = true)
    (hix : ∀ x ∈ r.index, x ≤ lim) (hfl : ∀ fs, r.field = some fs → ∀ x ∈ fs, x ≤ lim)
    (hsm : c.offset.length + 1 < 2 ^ 62) (hnd : c.index.length + r.index.length < 2 ^ 62) :
    ∃ c' bc bc' rc rc', pushRow lim c r = (c', none) ∧ Good c' ∧
      getBlock c = .ok bc ∧ getBlock c' = .ok bc' ∧ Sound bc' = true ∧
      bc.rows = .ok rc ∧ bc'.rows = .ok rc' ∧
      rc'.map RowVal.norm = rc.map RowVal.norm ++ [r.stored.norm] := by
  have hnd' : (rowBlock r).ndata = r.index.length := by simp [Block.ndata, rowBlock]
  have hs := sound_rowBlock r wf (by omega)
  have g' := good_pushed g hs hc (by simpa [rowBlock] using hsm) (by rw [hnd']; exact hnd)
  refine ⟨_, view c, view (pushed c (rowBlock r)), _, _, pushRow_eq_pushed wf hix hfl, g', getBlock_good g,
    getBlock_good g', sound_view g', rows_sound (sound_view g), rows_sound (sound_view g'), ?_⟩
  rw [rowsT_pushed g hs hc, rowBlock_rowsT r wf]
  rfl

/-- **Save / Load**: `Load` returns exactly the container saved and leaves exactly the bytes that follow
(so images can be read back to back); at the end of the stream it reports end-of-file. -/
theorem C13_save_load (iw : Nat) (hiw : 0 < iw) (c old : Container) (rest : Bytes) (h : InRange iw c) :
    load iw old (save iw c ++ rest) = .ok c rest ∧ load iw old [] = .eof :=
  ⟨load_save iw c old rest h, load_nil iw old⟩

/-- containers reached by pushes are in range, hence survive Save/Load -/
theorem C13_save_load_good (iw : Nat) (hiw : 0 < iw) (c old : Container) (rest : Bytes) (g : Good c)
    (v : Vals iw c) : load iw old (save iw c ++ rest) = .ok c rest :=
  load_save iw c old rest (inRange_of g v)

/-- **BasicRowIter**: for any list of sound blocks with the same optional arrays, every one of the `n` passes
delivers the rows of all blocks, in order. -/
theorem C13_iter_basic (P : Sig) (lim : Nat) (blocks : List Block) (n : Nat)
    (hok : ∀ b ∈ blocks, BlockOk P lim b) (h1 : 1 + sumSize blocks < 2 ^ 62) (h2 : sumData blocks < 2 ^ 62) :
    ∃ rs, basicPasses lim blocks n = .ok (List.replicate n rs) ∧ rs.map RowVal.norm = blocksRowsN blocks :=
  basicPasses_ok blocks n hok h1 h2

/-- **DiskRowIter**: for every page-size test (in particular `MemCostBytes() >= kPageSize`), the cache file
is built without error and a pass over it (now, later, or by a second iterator reusing the file: `diskPass`
depends on the file only) delivers the rows of all blocks, in order. -/
theorem C13_iter_disk (P : Sig) (full : Nat → Bool) (iw : Nat) (hiw : 0 < iw) (blocks : List Block)
    (hok : ∀ b ∈ blocks, BlockOk P (256 ^ iw - 1) b ∧ BlockRange b)
    (h1 : 1 + sumSize blocks < 2 ^ 62) (h2 : sumData blocks < 2 ^ 62) :
    ∃ file nc rs, buildCacheWith full iw (256 ^ iw - 1) blocks = .ok (file, nc) ∧ diskPass iw file = .ok rs ∧
      rs.map RowVal.norm = blocksRowsN blocks :=
  diskPass_ok full blocks hok h1 h2

theorem C13_iter_disk_kPageSize (P : Sig) (iw : Nat) (hiw : 0 < iw) (blocks : List Block)
    (hok : ∀ b ∈ blocks, BlockOk P (256 ^ iw - 1) b ∧ BlockRange b)
    (h1 : 1 + sumSize blocks < 2 ^ 62) (h2 : sumData blocks < 2 ^ 62) :
    ∃ file nc rs, buildCache iw (256 ^ iw - 1) blocks = .ok (file, nc) ∧ diskPass iw file = .ok rs ∧
      rs.map RowVal.norm = blocksRowsN blocks :=
  diskPass_ok Gen.RowBlock.pageFull blocks hok h1 h2

/-- the number of consistency CHECKs counted in the source of `GetBlock` is six, as many as `getBlock` spells out
(the constant is generated; `getBlock` does not consult it) -/
theorem C13_getBlock_checks : Gen.RowBlock.gbCheckCount = 6 := gbCheckCount_spec

end DmlcModel.Props.C13
