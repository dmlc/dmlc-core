/-
C10 — the prefetching wrapper (ThreadedInputSplit) and the on-disk cache (CachedInputSplit) are transparent
and race-free.  The theorems are stated for the code the Gen files were generated from: `Gen.Wrap.cacheBufWords` (C10-F1) and
`Gen.Wrap.resetOnCaller` (C10-F2) are regenerated from the source on every run; on the pinned tree
`C10_cache_buffer_fits` and `C10_race_free` do not compile (their refutations are in C10Witness.lean).
-/
import DmlcModel.Wrap.Cached
import DmlcModel.Wrap.Threaded
import DmlcModel.Wrap.TIterLink
import DmlcModel.Wrap.BaseLink
import DmlcModel.Wrap.NameLemmas
import DmlcModel.Props.C05

namespace DmlcModel.Props.C10
open DmlcModel.Wrap DmlcModel.Gen.Wrap

/-- **Chunks of any size fit their replay buffer**: the buffer the cache reader sizes for a chunk of `len`
bytes (`len` is a `size_t`) holds the chunk and the `'\0'` that `ExtractNextRecord` may store at `end`. -/
theorem C10_cache_buffer_fits (len : Nat) (h : len < 2 ^ 64) : 4 * cacheBufWords len ≥ len + 1 :=
  cacheBufWords_fits len h

example : 4 * cacheBufWords 8 ≥ 8 + 1 := by decide

/-- **Cache file format**: what the replay producer reads back from the file the first pass wrote is the
chunk list, for every chunk list (the length prefix written and the one read have the same width). -/
theorem C10_cache_format (cs : List Bytes) (h : ∀ c ∈ cs, c.length < 2 ^ 64) :
    decodeFile (encAll cs) = cs.map Item.chunk ∧ readOverflows (decodeFile (encAll cs)) = false := by
  rw [decodeFile_encAll cs h]
  exact ⟨rfl, readOverflows_chunkItems cs h⟩

example : decodeFile (encAll [[1, 2, 3], [], [7]]) = [Item.chunk [1, 2, 3], Item.chunk [], Item.chunk [7]] := by decide

/-- **CachedInputSplit is transparent**, for every base chunk sequence `cs` (nothing is assumed of the base split: the cache
wrapper never rewinds it, `cs` is what `NextChunkEx` yields until it returns false) and every history: the first object
fetches exactly the base split's cells (pass 1 = base pass); in every state reachable by `NextRecord` / `NextChunk` /
`BeforeFirst` / destroy-and-reopen (`CReach`) what the iterator will still fetch is a suffix of the base pass; `BeforeFirst`
at any point succeeds and starts a pass over ALL chunks of the base pass with the complete cache file on disk; and an object
destroyed in ANY reachable state (the destructor finishes a first pass, `Gen.Wrap.dtorDrains`, fixes/C10-3.diff) leaves the
complete file, which a later object replays chunk for chunk, whatever base split it is given. -/
theorem C10_cached_transparent (cs : List Chunk) (hl : ∀ c ∈ cs, c.bytes.length < 2 ^ 64) :
    (∃ s0, cOpen none cs = .ok s0 ∧ s0.tmp = none ∧ s0.rest = cs ∧ CReach cs s0) ∧
    ∀ s, CReach cs s →
      (∃ k, upcoming s = (allBytes cs).drop k) ∧
      (∃ s', cBeforeFirst s = .ok s' ∧ s'.tmp = none ∧ upcoming s' = allBytes cs ∧ s'.file = encAll (allBytes cs)) ∧
      (cClose s = some (encAll (allBytes cs)) ∧
        ∀ cs', ∃ s', cOpen (some (encAll (allBytes cs))) cs' = .ok s' ∧ s'.tmp = none ∧ upcoming s' = allBytes cs ∧
          CReach cs s') := by
  have hl' : ∀ b ∈ allBytes cs, b.length < 2 ^ 64 := by
    intro b hb
    simp only [allBytes, List.mem_map] at hb
    obtain ⟨c, hc, rfl⟩ := hb
    exact hl c hc
  refine ⟨⟨{ phase := .preproc, rest := cs }, rfl, rfl, rfl, CReach.first⟩, ?_⟩
  intro s hs
  have hg := good_of_reach cs hl' s hs
  refine ⟨upcoming_of_good _ s hg, ?_, ?_⟩
  · obtain ⟨s', h1, h2, h3, h4, h5⟩ := good_beforeFirst _ hl' s hg
    refine ⟨s', h1, h5, ?_, h3⟩
    unfold upcoming
    rw [h2, h4]
    exact filterMap_chunkItems _
  · have hc := good_close _ s hg
    refine ⟨hc, ?_⟩
    intro cs'
    have ho : cOpen (some (encAll (allBytes cs))) cs' =
        .ok { phase := .replay, file := encAll (allBytes cs), items := chunkItems (allBytes cs) } := by
      unfold cOpen
      exact startReplay_encAll _ hl'
    refine ⟨_, ho, rfl, ?_, CReach.reopen cs' hs hc ho⟩
    unfold upcoming
    exact filterMap_chunkItems _

/-- non-vacuity: a two-chunk base pass, `BeforeFirst` on the freshly opened object: the replay phase is reachable -/
example : ∃ s, CReach [⟨[97, 10], 2⟩, ⟨[98, 10], 2⟩] s ∧ s.phase = .replay :=
  ⟨_, CReach.bf CReach.first rfl, rfl⟩

/-- **Cache-file names** (`URISpec`, `uri#cachefile`): for a fixed cache prefix, distinct parts `(k, n)`,
`(k', n')` (`k < n`, `k' < n'`; any magnitude) get distinct cache files -- so no object ever replays a file
another part wrote. -/
theorem C10_cache_name_injective (base : List Char) (k n k' n' : Nat) (hk : k < n) (hk' : k' < n')
    (h : cacheName base k n = cacheName base k' n') : k = k' ∧ n = n' :=
  cacheSuffix_injective k n k' n' hk hk' (List.append_cancel_left h)

/-- ... and the name has the documented form `<cachefile>.split<n>.part<k>` (nothing for a single part), `<n>`
and `<k>` being the full decimal renderings (`dec`: digits only, `fromDigits (dec n) = n`) -/
theorem C10_cache_name_form (base : List Char) (k n : Nat) :
    cacheName base k n = (if n = 1 then base else base ++ (".split".toList ++ dec n ++ ".part".toList ++ dec k)) ∧
    fromDigits (dec n) 0 = n ∧ (∀ c ∈ dec n, c.isDigit = true) := by
  refine ⟨?_, fromDigits_dec n, dec_digits n⟩
  unfold cacheName cacheSuffixChars
  by_cases h : n = 1
  · simp [h, cacheSuffixNeeded]
  · have e : cacheSuffixNeeded n = true := by simp [cacheSuffixNeeded, h]
    have t1 : cacheSplitTag.toList = ".split".toList := by decide
    have t2 : cachePartTag.toList = ".part".toList := by decide
    simp only [e, h, if_true, if_false, t1, t2]

example : String.ofList (cacheName "cc".toList 10 100) = "cc.split100.part10" := by decide
example : dec 65536 = "65536".toList ∧ dec 0 = ['0'] := by decide
example : cacheName "cc".toList 10 100 ≠ cacheName "cc".toList 1 100 :=
  fun h => absurd (C10_cache_name_injective _ 10 100 1 100 (by decide) (by decide) h).1 (by decide)

/-- **What the wrapper theorems assume about the base split, and why it holds.**  The Wrap model treats a pass of the base
split over partition `(k, n)` as ONE chunk list `B k n` (`BasePass`), i.e. it assumes: whatever the base split has read or
buffered before, the `ResetPartition(k, n)` / `BeforeFirst` that starts a pass makes the following `NextChunkEx` calls
deliver exactly the chunk sequence of a freshly constructed split for that partition.  For the Split model this is C05
(`C05_reset_mkSt` for `ResetPartition`, `C05_beforeFirst` + `C05_range_stable` for `BeforeFirst`).  Statement: after
`ResetPartition(k, n)` on a bare split `s` in ANY state, consuming it to the end with `NextChunk` yields exactly the chunk
byte strings of `splitPass F files w dw k n`, the instantiation of `B` the driver runs.  Not proved in Lean, tied by
correspondence and by the harness oracle: that `NextChunkEx` into a cell of the iterator yields the same bytes as `NextChunk`
through the split's own `tmp_chunk_` (`Chunk::Load` does not depend on the cell it fills). -/
theorem C10_base_pass (F : Split.Fmt) (hF : Split.ExtractNoneIff F) (s s' : Split.St) (k n : Nat) (hn : n ≠ 0)
    (h : Split.step F s (.reset k n) = (s', .done)) (hbare : s'.wrap = none)
    (files : List Bytes) (w dw : Nat)
    (hfiles : s.base.files = files.filter (fun f => !f.isEmpty)) (hw : s.base.bufWords = w)
    (fresh : Split.St) (hfresh : Split.mkSt F files k n w false dw = .ok fresh) :
    convRes (Split.drain F (fun _ => false) s').2 = (splitPass F files w dw k n).map allBytes := by
  rw [splitPass_partBlobs F files w dw k n hn]
  unfold Split.partBlobs
  rw [hfresh]
  simp only
  congr 1
  apply DmlcModel.Props.C05.C05_reset_mkSt F hF s s' k n h files w dw false hfiles hw fresh hfresh
  rw [hbare, mkSt_bare F files k n w dw fresh hfresh]
  trivial

/-- both formats of the repository satisfy the side condition -/
example := C10_base_pass Split.Fmt.text Split.extractNoneIff_text
example := C10_base_pass Split.Fmt.recordio Split.extractNoneIff_recordio

/-- the instantiated base on a concrete input: "ab\ncd\n", 1-word buffer, part 0 of 1 = two chunks -/
example : (match splitPass Split.Fmt.text [[97, 98, 10, 99, 100, 10]] 1 4 0 1 with
    | .ok cs => some (allBytes cs)
    | .error _ => none) = some [[97, 98, 10], [99, 100, 10]] := by
  decide

/-- **ThreadedInputSplit is transparent for every schedule** (the base split is the data source: item `i` of pass `p` is
chunk `i` of `B (parts p)`, see `iterParams`; that a pass of the base split is such a fixed list is `C10_base_pass`;
`parts p` = the partition the latest `ResetPartition` before the `p`-th rewind asked for, any function).  In every
reachable state of the iterator -- i.e. under every interleaving of the prefetch thread with the wrapper's
calls, spurious wake-ups included -- the chunks handed to the caller so far in the current pass are an
initial segment of the base split's chunk sequence for that pass, each delivered item is a chunk of it, and
`Next` reports the end of the pass only when the whole sequence has been handed out.  After a successful
`BeforeFirst` the next pass starts with nothing delivered. -/
theorem C10_threaded_transparent (B : Nat → Nat → List Chunk) (parts : Nat → Nat × Nat)
    (s : TIter.State) (h : TIter.Reachable (iterParams B parts) s) :
    (s.delivered.filterMap (chunkOf B parts) <+: B (parts s.pass).1 (parts s.pass).2) ∧
    (∀ it ∈ s.delivered, (chunkOf B parts it).isSome = true) ∧
    (∀ e s', TIter.step (iterParams B parts) s e = some s' → s'.ret = .nextEnd →
      s.delivered.filterMap (chunkOf B parts) = B (parts s.pass).1 (parts s.pass).2) ∧
    (∀ s', TIter.step (iterParams B parts) s .xStep = some s' → s.xloc = .bExc1 → s'.ret = .ok →
      s'.pass = s'.bfPass + 1 ∧ s'.delivered = []) := by
  have F := titerFacts (iterParams B parts)
  have ho := F.order s h
  have hp := F.produced s h
  have hch := prodList_chunks B parts s.pass s.pidx
  refine ⟨?_, ?_, ?_, ?_⟩
  · have : s.delivered.filterMap (chunkOf B parts) ++
        (TIter.qitems s ++ TIter.optList s.pitem).filterMap (chunkOf B parts) =
        (B (parts s.pass).1 (parts s.pass).2).take s.pidx := by
      rw [← List.filterMap_append, ← List.append_assoc, ho, hp, hch]
    exact List.IsPrefix.trans ⟨_, this⟩ (List.take_prefix _ _)
  · intro it hit
    apply prodList_all_chunks B parts s.pass s.pidx
    rw [← hp, ← ho]
    simp [hit]
  · intro e s' hst hret
    have hnt := F.noThrow (iterParams_noThrow B parts).1 (iterParams_noThrow B parts).2 s h
    obtain ⟨hend, hdel⟩ := F.endSound s s' e h hst hret hnt
    have hfin := F.srcEnd s h hend
    have hge : (B (parts s.pass).1 (parts s.pass).2).length ≤ s.pidx := by
      simp only [iterParams] at hfin
      split at hfin
      · cases hfin
      · omega
    rw [hdel, hp, hch, List.take_of_length_le hge]
  · intro s' hst hx hr
    exact F.freshPass s s' h hst hx hr

/-- non-vacuity: the initial state is reachable -/
example : TIter.Reachable (iterParams (fun _ _ => [⟨[97, 10], 2⟩]) (fun _ => (0, 1))) {} := TIter.ReachableR.init

/-- **No data race on the base split or on a lent chunk** (needs the repair of C10-F2: `Gen.Wrap.resetOnCaller = false`).  In every reachable state of the wrapper + iterator system, for
every source / capacity: the calling thread is never inside the base split -- neither while the prefetch
thread is in the produce callback (`NextBatchEx`) nor during a transition in which it runs the rewind
callback (`BeforeFirst`, `ResetPartition`) --, and the chunk the caller works on (`ExtractNext*`, reading
the blob) is neither the cell the prefetch thread is filling nor in its queue or free list (C07_cells). -/
theorem C10_race_free (P : TIter.Params) (s : TW) (h : WReachable P s) :
    ¬ (producerInBase s = true ∧ s.callerInBase = true) ∧
    (∀ e, rewindsNow P s e = true → s.callerInBase = false) ∧
    (∀ c, s.touching = some c → s.it.pcell ≠ some c ∧ c ∉ TIter.qcells s.it ∧ c ∉ s.it.free) := by
  obtain ⟨hr, hcb, ht⟩ := wreach_inv (by decide) P s h
  refine ⟨by simp [hcb], fun _ _ => hcb, fun c hc => ?_⟩
  obtain ⟨_, _, hq, hfree, hpcell⟩ := C07.C07_lent_exclusive hr (ht c hc)
  exact ⟨hpcell, hq, hfree⟩

end DmlcModel.Props.C10
