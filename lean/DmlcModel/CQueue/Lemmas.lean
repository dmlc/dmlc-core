/-
What the generated items mean, and the invariant `QInv` of the queue model.
-/
import DmlcModel.CQueue.Model

namespace DmlcModel.CQueue
open DmlcModel.Gen.CQueue

/-! ## what the extracted expressions mean (stops compiling when the source expression changes) -/

theorem popPred_spec (m : Mode) (e x : Bool) : popPred m e x = (!e || x) := by
  cases m <;> rfl

theorem popTakes_spec (m : Mode) (x : Bool) : popTakes m x = !x := by
  cases m <;> rfl

theorem pushNotify_spec (m : Mode) (f : Bool) (n : Nat) : pushNotify m f n = (n != 0) := by
  cases m <;> cases f <;> rfl

theorem killValue_spec : killValue = true := rfl
theorem exitInit_spec : exitInit = false := rfl
theorem nwaitInit_spec : nwaitInit = 0 := rfl
theorem pushAtBack_spec : pushAtBack = true := rfl
theorem pushFrontAtFront_spec : pushFrontAtFront = true := rfl
theorem popTakesFront_spec : popTakesFront = true := rfl

theorem insertQ_fifo_back (x : Elem) (q : List Elem) : insertQ .fifo false x q = q ++ [x] := by
  simp [insertQ, pushAtBack_spec]
theorem insertQ_fifo_front (x : Elem) (q : List Elem) : insertQ .fifo true x q = x :: q := by
  simp [insertQ, pushFrontAtFront_spec]
theorem insertQ_prio (f : Bool) (x : Elem) (q : List Elem) : insertQ .prio f x q = q ++ [x] := by
  cases f <;> rfl

theorem length_insertQ (m : Mode) (f : Bool) (x : Elem) (q : List Elem) :
    (insertQ m f x q).length = q.length + 1 := by
  cases m <;> cases f <;> simp [insertQ] <;> split <;> simp

/-- the holder is counted in `nwait_consumer_` -/
def hcount : Holder → Nat
  | .popPred | .popWait => 1
  | _ => 0

/-- the holder is about to account for one queued element: a pusher that will notify, or a popper
that is past the predicate -/
def hcredit : Holder → Nat
  | .pushU true | .popAfter => 1
  | _ => 0

structure QInv (s : QState) : Prop where
  nwait_eq : s.nwait = s.waitset + s.woken + hcount s.holder
  emptyPred : s.holder = .popPred → s.q = []
  emptyWait : s.holder = .popWait → s.q = []
  waitNoExit : s.holder = .popWait → s.exit = false
  takeOk : s.holder = .popAfter → s.exit = false → s.q ≠ []
  noUb : s.holder ≠ .ub
  quietPush : s.holder = .pushU false → s.waitset = 0
  noLost : 0 < s.waitset → s.exit = false → s.q.length ≤ s.woken + s.pendNotify + hcredit s.holder
  killPending : s.exit = true → 0 < s.waitset → 0 < s.pendKill ∨ s.holder = .killU

theorem qinv_init : QInv qinit := by
  constructor <;> simp [qinit, hcount, hcredit, exitInit_spec, nwaitInit_spec]

end DmlcModel.CQueue
