/-
The transitions of `qstep` as rules, as `TIter/Trans.lean` does for `stepR`.  The generated predicates are
evaluated; the insertion functions and the notify condition stay folded.
-/
import DmlcModel.CQueue.Lemmas

namespace DmlcModel.CQueue

inductive QTrans (m : Mode) (s : QState) : QEvent → QState → Prop
  | pushLock {x : Elem} {front : Bool} (_ : s.holder = .free) :
      QTrans m s (.pushLock x front)
        { s with q := insertQ m front x s.q, pushedEff := insertEff m front x s.popped.length s.pushedEff,
                 holder := .pushU (pushNotify m front s.nwait) }
  | pushUnlockNotify (_ : s.holder = .pushU true) :
      QTrans m s .pushUnlock { s with holder := .free, pendNotify := s.pendNotify + 1 }
  | pushUnlock (_ : s.holder = .pushU false) : QTrans m s .pushUnlock { s with holder := .free }
  | notifyWake (_ : 0 < s.pendNotify) (_ : 0 < s.waitset) :
      QTrans m s .pushNotify
        { s with pendNotify := s.pendNotify - 1, waitset := s.waitset - 1, woken := s.woken + 1 }
  | notifyNobody (_ : 0 < s.pendNotify) (_ : s.waitset = 0) :
      QTrans m s .pushNotify { s with pendNotify := s.pendNotify - 1 }
  | popLockEmpty (_ : s.holder = .free) (_ : s.q = []) :
      QTrans m s .popLock { s with holder := .popPred, nwait := s.nwait + 1 }
  | popLock (_ : s.holder = .free) (_ : s.q ≠ []) :
      QTrans m s .popLock { s with holder := .popAfter }
  | predTrue (_ : s.holder = .popPred) (_ : s.q ≠ [] ∨ s.exit = true) :
      QTrans m s .popPredLoad { s with holder := .popAfter, nwait := s.nwait - 1 }
  | predFalse (_ : s.holder = .popPred) (_ : s.q = []) (_ : s.exit = false) :
      QTrans m s .popPredLoad { s with holder := .popWait }
  | popWait (_ : s.holder = .popWait) :
      QTrans m s .popWait { s with holder := .free, waitset := s.waitset + 1 }
  | spurious (_ : 0 < s.waitset) :
      QTrans m s .spurious { s with waitset := s.waitset - 1, woken := s.woken + 1 }
  | relockEmpty (_ : s.holder = .free) (_ : 0 < s.woken) (_ : s.q = []) :
      QTrans m s .popRelock { s with woken := s.woken - 1, holder := .popPred }
  | relock (_ : s.holder = .free) (_ : 0 < s.woken) (_ : s.q ≠ []) :
      QTrans m s .popRelock { s with woken := s.woken - 1, holder := .popAfter, nwait := s.nwait - 1 }
  | popKilled {hint : Option Elem} (_ : s.holder = .popAfter) (_ : s.exit = true) :
      QTrans m s (.popAfterLoad hint) { s with holder := .popU false }
  | popUb {hint : Option Elem} (_ : s.holder = .popAfter) (_ : s.exit = false) (_ : s.q = []) :
      QTrans m s (.popAfterLoad hint) { s with holder := .ub }
  | popFront {hint : Option Elem} {x : Elem} {rest : List Elem} (_ : m = .fifo) (_ : s.holder = .popAfter)
      (_ : s.exit = false) (_ : s.q = x :: rest) :
      QTrans m s (.popAfterLoad hint) { s with q := rest, popped := s.popped ++ [x], holder := .popU true }
  | popMax {x : Elem} (_ : m = .prio) (_ : s.holder = .popAfter) (_ : s.exit = false) (_ : x ∈ s.q)
      (_ : isMax x s.q = true) :
      QTrans m s (.popAfterLoad (some x)) { s with q := s.q.erase x, popped := s.popped ++ [x], holder := .popU true }
  | popUnlock {ok : Bool} (_ : s.holder = .popU ok) :
      QTrans m s .popUnlock { s with holder := .free }
  | killLock (_ : s.holder = .free) : QTrans m s .killLock { s with holder := .killStore }
  | killStore (_ : s.holder = .killStore) : QTrans m s .killStore { s with exit := true, holder := .killU }
  | killUnlock (_ : s.holder = .killU) :
      QTrans m s .killUnlock { s with holder := .free, pendKill := s.pendKill + 1 }
  | killNotify (_ : 0 < s.pendKill) :
      QTrans m s .killNotify { s with pendKill := s.pendKill - 1, woken := s.woken + s.waitset, waitset := 0 }
  | sizeLock (_ : s.holder = .free) : QTrans m s .sizeLock { s with holder := .sizeU }
  | sizeUnlock (_ : s.holder = .sizeU) : QTrans m s .sizeUnlock { s with holder := .free }

theorem qstep_trans {m : Mode} {s s' : QState} {e : QEvent} (hs : qstep m s e = some s') : QTrans m s e s' := by
  cases e <;>
    simp only [qstep, afterPred, popPred_spec, popTakes_spec, popTakesFront_spec, killValue_spec, List.isEmpty_iff,
      Bool.not_false, Bool.true_or, Bool.or_eq_true, Bool.not_eq_true', ite_true] at hs
  -- the events with one guarded path
  case pushLock | popWait | spurious | killLock | killStore | killUnlock | killNotify | sizeLock | sizeUnlock =>
    all_goals
      split at hs <;> cases hs
      constructor; assumption
  case pushUnlock =>
    split at hs <;> cases hs
    split
    · exact .pushUnlockNotify (by simp_all)
    · exact .pushUnlock (by simp_all)
  case pushNotify =>
    split at hs
    · split at hs <;> cases hs
      · exact .notifyWake ‹_› ‹_›
      · exact .notifyNobody ‹_› (by omega)
    · cases hs
  case popLock =>
    split at hs
    · split at hs <;> cases hs
      · exact .popLockEmpty ‹_› ‹_›
      · exact .popLock ‹_› ‹_›
    · cases hs
  case popPredLoad =>
    split at hs <;> cases hs
    split
    · exact .predTrue ‹_› (by simp_all)
    · exact .predFalse ‹_› (by simp_all) (by simp_all)
  case popRelock =>
    split at hs
    · split at hs <;> cases hs
      · exact .relockEmpty (‹_ ∧ _›).1 (‹_ ∧ _›).2 ‹_›
      · exact .relock (‹_ ∧ _›).1 (‹_ ∧ _›).2 ‹_›
    · cases hs
  case popUnlock =>
    split at hs <;> cases hs
    exact .popUnlock ‹_›
  case popAfterLoad hint =>
    split at hs
    · split at hs
      · split at hs
        · split at hs <;> cases hs      -- FIFO: `front()` of the deque
          · exact .popUb ‹_› ‹_› ‹_›
          · exact .popFront rfl ‹_› ‹_› ‹_›
        · split at hs                   -- priority: the heap hands out a maximal element, named by the event
          · cases hs; exact .popUb ‹_› ‹_› ‹_›
          · split at hs <;> cases hs
            exact .popMax rfl ‹_› ‹_› (‹_ ∧ _›).1 (‹_ ∧ _›).2
          · cases hs
      · cases hs; exact .popKilled ‹_› (by simp_all)
    · cases hs

end DmlcModel.CQueue
