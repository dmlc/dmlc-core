/-
The queue invariants are inductive: every rule of `QTrans` preserves them.
-/
import DmlcModel.CQueue.Trans

namespace DmlcModel.CQueue

attribute [local grind =] length_insertQ pushNotify_spec
attribute [local grind] hcount hcredit

/-! Clause by clause, as explained in `TIter/InvA.lean`. -/

namespace QInv
variable {m : Mode} {s s' : QState} {e : QEvent}

theorem nwait_eq_step (ht : QTrans m s e s') (h : QInv s) : s'.nwait = s'.waitset + s'.woken + hcount s'.holder := by
  have := h.nwait_eq
  cases ht <;> grind
theorem emptyPred_step (ht : QTrans m s e s') (h : QInv s) : s'.holder = .popPred → s'.q = [] := by
  cases ht <;> first | exact h.emptyPred | grind
theorem emptyWait_step (ht : QTrans m s e s') (h : QInv s) : s'.holder = .popWait → s'.q = [] := by
  cases ht <;> first | exact h.emptyWait | grind
theorem waitNoExit_step (ht : QTrans m s e s') (h : QInv s) : s'.holder = .popWait → s'.exit = false := by
  cases ht <;> first | exact h.waitNoExit | grind
theorem takeOk_step (ht : QTrans m s e s') (h : QInv s) : s'.holder = .popAfter → s'.exit = false → s'.q ≠ [] := by
  cases ht <;> first | exact h.takeOk | grind
theorem noUb_step (ht : QTrans m s e s') (h : QInv s) : s'.holder ≠ .ub := by
  have := h.takeOk
  cases ht <;> first | exact h.noUb | grind
theorem quietPush_step (ht : QTrans m s e s') (h : QInv s) : s'.holder = .pushU false → s'.waitset = 0 := by
  have := h.quietPush; have := h.nwait_eq
  cases ht <;> first | exact h.quietPush | grind
theorem noLost_step (ht : QTrans m s e s') (h : QInv s) :
    0 < s'.waitset → s'.exit = false → s'.q.length ≤ s'.woken + s'.pendNotify + hcredit s'.holder := by
  have := h.noLost; have := h.nwait_eq; have := h.emptyWait
  cases ht <;> first | exact h.noLost | grind
theorem killPending_step (ht : QTrans m s e s') (h : QInv s) :
    s'.exit = true → 0 < s'.waitset → 0 < s'.pendKill ∨ s'.holder = .killU := by
  have := h.killPending; have := h.waitNoExit
  cases ht <;> first | exact h.killPending | grind
end QInv

theorem qinv_step (m : Mode) (s s' : QState) (e : QEvent) (hi : QInv s) (hs : qstep m s e = some s') : QInv s' :=
  have ht := qstep_trans hs
  open QInv in
  ⟨nwait_eq_step ht hi, emptyPred_step ht hi, emptyWait_step ht hi, waitNoExit_step ht hi, takeOk_step ht hi, noUb_step ht hi,
   quietPush_step ht hi, noLost_step ht hi, killPending_step ht hi⟩

/-- ghost bookkeeping: FIFO order exactly, priority variant as a multiset -/
structure QInvL (m : Mode) (s : QState) : Prop where
  fifo : m = .fifo → s.pushedEff = s.popped ++ s.q
  perm : s.pushedEff.Perm (s.popped ++ s.q)

theorem perm_take {x : Elem} {pe pp q : List Elem} (h : pe.Perm (pp ++ q)) (hx : x ∈ q) :
    pe.Perm (pp ++ [x] ++ q.erase x) := by
  refine h.trans ?_
  rw [List.append_assoc]
  exact List.Perm.append_left pp (List.perm_cons_erase hx)

theorem qinvl_push (m : Mode) (front : Bool) (x : Elem) (pe pp q : List Elem)
    (h1 : m = .fifo → pe = pp ++ q) (h2 : pe.Perm (pp ++ q)) :
    (m = .fifo → insertEff m front x pp.length pe = pp ++ insertQ m front x q) ∧
    (insertEff m front x pp.length pe).Perm (pp ++ insertQ m front x q) := by
  cases m <;> cases front
  · have := h1 rfl; subst this
    simp [insertQ_fifo_back, insertEff]
  · have := h1 rfl; subst this
    simp [insertQ_fifo_front, insertEff]
  · simp only [insertQ_prio, insertEff, reduceCtorEq, false_implies, true_and, ← List.append_assoc]
    exact List.Perm.append_right _ h2
  · simp only [insertQ_prio, insertEff, reduceCtorEq, false_implies, true_and, ← List.append_assoc]
    exact List.Perm.append_right _ h2

/-- only the insertion and the two successful pops touch the three lists -/
theorem qinvl_step (m : Mode) (s s' : QState) (e : QEvent) (hi : QInvL m s) (hs : qstep m s e = some s') :
    QInvL m s' := by
  cases qstep_trans hs
  case pushLock x front _ => exact have h := qinvl_push m front x _ _ _ hi.fifo hi.perm; ⟨h.1, h.2⟩
  case popFront x rest hm _ _ hq =>
    have := hi.fifo hm
    refine ⟨fun _ => ?_, ?_⟩ <;> simp_all
  case popMax x hm _ _ hx _ => exact ⟨fun h => by simp [hm] at h, perm_take hi.perm hx⟩
  all_goals exact ⟨hi.fifo, hi.perm⟩

theorem qinvl_init (m : Mode) : QInvL m qinit := by
  constructor <;> simp [qinit]

theorem qreach_inv {m : Mode} {s : QState} (h : QReach m s) : QInv s ∧ QInvL m s := by
  induction h with
  | init => exact ⟨qinv_init, qinvl_init m⟩
  | step e _ hs ih => exact ⟨qinv_step m _ _ e ih.1 hs, qinvl_step m _ _ e ih.2 hs⟩

theorem qstep_exit {m : Mode} {s s' : QState} {e : QEvent} (hx : s.exit = true) (hs : qstep m s e = some s') :
    s'.exit = true ∧ (s'.holder = .popWait → s.holder = .popWait) ∧
    (∀ hint, e = .popAfterLoad hint → s'.holder = .popU false) := by
  cases qstep_trans hs <;> simp_all

end DmlcModel.CQueue
