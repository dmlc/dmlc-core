/-
ManualEvent: the inductive invariant of the model of the repaired code, in which wait() re-checks the flag after
every wake-up.
-/
import DmlcModel.CQueue.Model
namespace DmlcModel.CQueue
open DmlcModel.Gen.CQueue

theorem evWaitLoops_spec : evWaitLoops = true := rfl
theorem evWaitBlocks_spec (b : Bool) : evWaitBlocks b = !b := rfl
theorem evSignalValue_spec : evSignalValue = true := rfl
theorem evResetValue_spec : evResetValue = false := rfl
theorem evInit_spec : evInit = false := rfl

structure EInv (s : EState) : Prop where
  ghostEq : s.sigAfterReset = s.signaled
  retOk : s.holder = .wU → s.signaled = true
  noBad : s.badReturns = 0
  waitFlag : s.holder = .wWait → s.signaled = false ∨ 0 < s.sigPending
  noLostSignal : s.signaled = true → 0 < s.waitset → 0 < s.sigPending ∨ s.holder = .sNotify

theorem einv_init : EInv einit := by
  constructor <;> simp [einit, evInit_spec]

attribute [local grind =] evWaitBlocks_spec evSignalValue_spec evResetValue_spec

/- Every path of `estep` is found by splitting and preserves every clause.  Where a clause is at stake: `ghostEq` at the two
stores; `retOk` at `wLoad` and at `wRelock`, which with `loops = true` goes back to `wLoad` and not to the return; `noBad` at
`wUnlock`, from `retOk` and `ghostEq`; `waitFlag` at `wLoad` and `sStore`; `noLostSignal` at `wWait` (from `waitFlag`), `sStore`,
`sLock` (the holder is then `sNotify`), `sNotify` (empties the wait set). -/
theorem einv_step (s s' : EState) (e : EEvent) (hi : EInv s) (hs : estep true s e = some s') : EInv s' := by
  obtain ⟨h1, h2, h3, h4, h5⟩ := hi
  cases e <;> simp only [estep] at hs <;> (repeat' split at hs) <;>
    first | (injection hs with hs; subst hs; constructor <;> first | assumption | grind) | cases hs

theorem ereach_inv {s : EState} (h : EReach true s) : EInv s := by
  induction h with
  | init => exact einv_init
  | step e _ hs ih => exact einv_step _ _ e ih hs

end DmlcModel.CQueue
