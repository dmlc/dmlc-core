/-
Progress.  The queue: the thread inside the critical section can always move.  ManualEvent: from a signalled state
a path of continuation events is constructed after which every waiter has returned.
-/
import DmlcModel.CQueue.Lemmas
import DmlcModel.CQueue.Event

namespace DmlcModel.CQueue

/-! ## the queue -/

theorem exists_max : ∀ (q : List Elem), q ≠ [] → ∃ x, x ∈ q ∧ isMax x q = true
  | [], h => absurd rfl h
  | [x], _ => ⟨x, by simp, by simp [isMax]⟩
  | x :: y :: r, _ => by
    obtain ⟨z, hz, hm⟩ := exists_max (y :: r) (by simp)
    by_cases hxz : x.prio ≤ z.prio
    · refine ⟨z, List.mem_cons_of_mem _ hz, ?_⟩
      simp only [isMax, List.all_cons, Bool.and_eq_true, decide_eq_true_eq] at hm ⊢
      exact ⟨hxz, hm⟩
    · refine ⟨x, by simp, ?_⟩
      simp only [isMax, List.all_cons, Bool.and_eq_true, decide_eq_true_eq, List.all_eq_true] at hm ⊢
      refine ⟨Int.le_refl _, ?_, ?_⟩
      · have := hm.1; omega
      · intro w hw; have := hm.2 w hw; omega

theorem holder_can_step (m : Mode) (s : QState) (hf : s.holder ≠ .free) (hu : s.holder ≠ .ub) :
    ∃ e, e.continues = true ∧ (qstep m s e).isSome = true := by
  obtain ⟨q, ex, nw, h, ws, wk, pn, pk, pe, pp⟩ := s
  cases h
  case free => simp at hf
  case ub => simp at hu
  case pushU n => exact ⟨.pushUnlock, rfl, by simp [qstep]⟩
  case popPred => exact ⟨.popPredLoad, rfl, by simp [qstep]⟩
  case popWait => exact ⟨.popWait, rfl, by simp [qstep]⟩
  case popU ok => exact ⟨.popUnlock, rfl, by simp [qstep]⟩
  case killStore => exact ⟨.killStore, rfl, by simp [qstep]⟩
  case killU => exact ⟨.killUnlock, rfl, by simp [qstep]⟩
  case sizeU => exact ⟨.sizeUnlock, rfl, by simp [qstep]⟩
  case popAfter =>
    cases m
    · refine ⟨.popAfterLoad none, rfl, ?_⟩
      simp only [qstep, popTakesFront_spec, if_true]
      repeat' split
      all_goals simp
    · cases q with
      | nil =>
        refine ⟨.popAfterLoad none, rfl, ?_⟩
        simp only [qstep, if_true]
        split <;> simp
      | cons a r =>
        obtain ⟨x, hx, hm⟩ := exists_max (a :: r) (by simp)
        refine ⟨.popAfterLoad (some x), rfl, ?_⟩
        simp only [qstep, if_true]
        split
        · simp [hx, hm]
        · simp

theorem qreach_run {m : Mode} : ∀ (es : List QEvent) {s s' : QState}, QReach m s → qrun m s es = some s' → QReach m s'
  | [], s, s', h, hr => by simp only [qrun, Option.some.injEq] at hr; exact hr ▸ h
  | e :: es, s, s', h, hr => by
    simp only [qrun] at hr
    cases hs : qstep m s e with
    | none => simp [hs] at hr
    | some t =>
      simp only [hs, Option.bind_some] at hr
      exact qreach_run es (QReach.step e h hs) hr

/-! ## ManualEvent: from a signalled state every waiter returns -/

def okPath (es : List EEvent) : Prop := ∀ e ∈ es, e.continues = true ∧ e.isReset = false

theorem okPath_append {a b : List EEvent} (ha : okPath a) (hb : okPath b) : okPath (a ++ b) := by
  intro e he
  rcases List.mem_append.mp he with h | h
  · exact ha e h
  · exact hb e h

theorem erun_append (l : Bool) : ∀ (a b : List EEvent) (t : EState),
    erun l t (a ++ b) = (erun l t a).bind fun t' => erun l t' b := by
  intro a
  induction a with
  | nil => intro b t; simp [erun]
  | cons x xs ih =>
    intro b t
    simp only [List.cons_append, erun]
    cases estep l t x <;> simp [ih]

theorem ereach_run {l : Bool} : ∀ (es : List EEvent) {s s' : EState}, EReach l s → erun l s es = some s' → EReach l s'
  | [], s, s', h, hr => by simp only [erun, Option.some.injEq] at hr; exact hr ▸ h
  | e :: es, s, s', h, hr => by
    simp only [erun] at hr
    cases hs : estep l s e with
    | none => simp [hs] at hr
    | some t =>
      simp only [hs, Option.bind_some] at hr
      exact ereach_run es (EReach.step e h hs) hr

/-- with the flag set and no reset() interfering, one awake waiter returns in three steps -/
theorem event_return_one (s : EState) (hf : s.holder = .free) (hsig : s.signaled = true) (hwk : 0 < s.woken)
    (hg : s.sigAfterReset = true) : erun true s [.wRelock, .wLoad, .wUnlock] = some { s with woken := s.woken - 1 } := by
  obtain ⟨sg, h, ws, wk, sp, sa, br⟩ := s
  simp only [] at hf hsig hwk hg
  subst hf hsig hg
  simp [erun, estep, hwk, evWaitBlocks_spec]

theorem event_return_all : ∀ (n : Nat) (s : EState), s.holder = .free → s.signaled = true → s.woken = n →
    s.sigAfterReset = true → ∃ es : List EEvent, okPath es ∧ erun true s es = some { s with woken := 0 }
  | 0, s, _, _, hn, _ => ⟨[], nofun, by simp [erun, ← hn]⟩
  | n + 1, s, hf, hsig, hn, hg => by
    have h1 := event_return_one s hf hsig (by omega) hg
    obtain ⟨es, hes, hrun⟩ := event_return_all n { s with woken := s.woken - 1 } hf hsig (by simp; omega) hg
    refine ⟨[.wRelock, .wLoad, .wUnlock] ++ es, okPath_append (by simp [okPath, EEvent.continues, EEvent.isReset]) hes, ?_⟩
    rw [erun_append, h1]
    simpa using hrun

def allReturned (s : EState) : Prop :=
  s.holder = .free ∧ s.waitset = 0 ∧ s.woken = 0 ∧ s.sigPending = 0 ∧ s.signaled = true

theorem event_drain : ∀ (n : Nat) (s : EState), s.holder = .free → s.signaled = true → s.sigAfterReset = true →
    s.sigPending = n → (s.sigPending = 0 → s.waitset = 0) →
    ∃ es s', okPath es ∧ erun true s es = some s' ∧ allReturned s'
  | 0, s, hf, hsig, hg, hn, hws => by
    obtain ⟨es, hes, hrun⟩ := event_return_all s.woken s hf hsig rfl hg
    exact ⟨es, _, hes, hrun, ⟨hf, hws hn, rfl, hn, hsig⟩⟩
  | n + 1, s, hf, hsig, hg, hn, _ => by
    have h1 : erun true s [.sLock, .sNotify, .sUnlock] =
        some { s with sigPending := n, woken := s.woken + s.waitset, waitset := 0 } := by
      obtain ⟨sg, h, ws, wk, sp, sa, br⟩ := s
      simp only [] at hf hn
      subst hf hn
      simp [erun, estep]
    obtain ⟨es, s', hes, hrun, hall⟩ :=
      event_drain n { s with sigPending := n, woken := s.woken + s.waitset, waitset := 0 } hf hsig hg rfl (fun _ => rfl)
    refine ⟨[.sLock, .sNotify, .sUnlock] ++ es, s', okPath_append ?_ hes, ?_, hall⟩
    · intro e he
      simp only [List.mem_cons, List.not_mem_nil, or_false] at he
      rcases he with rfl | rfl | rfl <;> exact ⟨rfl, rfl⟩
    · rw [erun_append, h1]; exact hrun

/-- finish the call of the thread inside the critical section (not a reset() before its store) -/
theorem event_finish_holder (s : EState) (hsig : s.signaled = true) (hr : s.holder ≠ .rStore) :
    ∃ es, okPath es ∧ ∃ s', erun true s es = some s' ∧ s'.holder = .free ∧ s'.signaled = true := by
  obtain ⟨sg, h, ws, wk, sp, sa, br⟩ := s
  simp only [] at hsig hr
  subst hsig
  cases h
  case rStore => simp at hr
  case free => exact ⟨[], nofun, by simp [erun]⟩
  case wLoad => exact ⟨[.wLoad, .wUnlock], by simp [okPath, EEvent.continues, EEvent.isReset], by simp [erun, estep, evWaitBlocks_spec]⟩
  case wWait => exact ⟨[.wWait], by simp [okPath, EEvent.continues, EEvent.isReset], by simp [erun, estep]⟩
  case wU => exact ⟨[.wUnlock], by simp [okPath, EEvent.continues, EEvent.isReset], by simp [erun, estep]⟩
  case sNotify => exact ⟨[.sNotify, .sUnlock], by simp [okPath, EEvent.continues, EEvent.isReset], by simp [erun, estep]⟩
  case sU => exact ⟨[.sUnlock], by simp [okPath, EEvent.continues, EEvent.isReset], by simp [erun, estep]⟩
  case rU => exact ⟨[.rUnlock], by simp [okPath, EEvent.continues, EEvent.isReset], by simp [erun, estep]⟩

theorem event_live_path {s : EState} (h : EReach true s) (hsig : s.signaled = true) (hr : s.holder ≠ .rStore) :
    ∃ es, okPath es ∧ ∃ s', erun true s es = some s' ∧ allReturned s' ∧ s'.badReturns = 0 := by
  obtain ⟨es1, hes1, s1, hrun1, hf1, hsig1⟩ := event_finish_holder s hsig hr
  have hreach1 := ereach_run es1 h hrun1
  have hi1 := ereach_inv hreach1
  have hg1 : s1.sigAfterReset = true := by rw [hi1.ghostEq]; exact hsig1
  have hws1 : s1.sigPending = 0 → s1.waitset = 0 := by
    intro hp
    rcases Nat.eq_zero_or_pos s1.waitset with h0 | hpos
    · exact h0
    · rcases hi1.noLostSignal hsig1 hpos with h1 | h1
      · omega
      · simp [hf1] at h1
  obtain ⟨es2, s2, hes2, hrun2, hall⟩ := event_drain s1.sigPending s1 hf1 hsig1 hg1 rfl hws1
  refine ⟨es1 ++ es2, okPath_append hes1 hes2, s2, ?_, hall, ?_⟩
  · rw [erun_append, hrun1]; exact hrun2
  · exact (ereach_inv (ereach_run es2 hreach1 hrun2)).noBad

end DmlcModel.CQueue
