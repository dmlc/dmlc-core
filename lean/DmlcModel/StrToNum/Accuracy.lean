/-
The value of a lexeme, the strings left out: within the documented limits `evalLex` returns a finite, unflagged value within `tol`
of the value denoted (`evalLex_approx`).  The grammar side meets the error analysis here.
-/
import DmlcModel.StrToNum.EndPtr
import DmlcModel.StrToNum.Mantissa
import DmlcModel.StrToNum.Trunc
import DmlcModel.StrToNum.Scaling
namespace DmlcModel.StrToNum
open DmlcModel DmlcModel.Gen.StrToNum DmlcModel.Props.C14

def magnitude (l : Lexeme) : Rat :=
  match l.exp with
  | none => mantissaValue l
  | some (eneg, ds) => scaled eneg (mantissaValue l) ((10 ^ digitsVal ds : Nat) : Rat)

theorem mantissaValue_nonneg (l : Lexeme) : 0 ≤ mantissaValue l := by
  unfold mantissaValue
  have := div_nonneg' (Rat.natCast_nonneg (a := digitsVal l.fracDigits)) (pow10_pos l.fracDigits.length)
  have : (0 : Rat) ≤ (digitsVal l.intDigits : Rat) := Rat.natCast_nonneg
  grind

theorem absQ_decimalValue (l : Lexeme) : absQ (decimalValue l) = magnitude l := by
  have hn : 0 ≤ magnitude l := by
    unfold magnitude
    rcases l.exp with _ | ⟨eneg, ds⟩
    · exact mantissaValue_nonneg l
    · exact scaled_nonneg eneg (mantissaValue_nonneg l) (pow10_pos _)
  have e : decimalValue l = if l.neg then -(magnitude l) else magnitude l := by
    unfold decimalValue magnitude mantissaValue
    rcases l.exp with _ | ⟨_ | _, ds⟩ <;> rfl
  rw [e]
  unfold absQ
  cases l.neg with
  | false =>
    simp only [Bool.false_eq_true, if_false]
    have : ¬ magnitude l < 0 := by grind
    rw [if_neg this]
  | true =>
    simp only [if_true]
    by_cases h0 : -magnitude l < 0
    · rw [if_pos h0]; grind
    · rw [if_neg h0]; grind

theorem mu_eps (f : Fmt) : (1 : Rat) / ((10 ^ 19 : Nat) : Rat) = μ f * εt f ∧ 0 ≤ εt f ∧ 0 < μ f := by
  cases f <;> decide +kernel

theorem mantissa_lexeme {l : Lexeme} (f : Fmt) (wf : WF l)
    (hi : l.intDigits.length ≤ 19) (hfr : l.fracDigits.length ≤ 19 ∨ μ f ≤ mantissaValue l) :
    ∃ qm, mantissaL f l.intDigits l.hasDot l.fracDigits = .fin qm ∧ Approx (εm f) qm (mantissaValue l) := by
  obtain ⟨hdi, hdf, hnd⟩ := wf
  have hb := fracL_bounds l.fracDigits hdf
  obtain ⟨qm, hqm, am⟩ := mantissa_approx f (predecL l.intDigits) (fracL l.fracDigits).1 (fracL l.fracDigits).2.1
    (predecL_lt _) hb.2.1 hb.2.2 l.hasDot
  refine ⟨qm, hqm, ?_⟩
  -- without a '.' there are no fraction digits, and `val2 / pow10` is `0 / 1`
  have h0 : (if l.hasDot then (((fracL l.fracDigits).1 : Nat) : Rat) / (((fracL l.fracDigits).2.1 : Nat) : Rat) else 0) =
      (((fracL l.fracDigits).1 : Nat) : Rat) / (((fracL l.fracDigits).2.1 : Nat) : Rat) := by
    cases hd : l.hasDot with
    | true => rfl
    | false => rw [hnd hd]; exact (zero_div' _).symm
  rw [h0, predecL_exact l.intDigits hdi hi] at am
  have hm0 := mantissaValue_nonneg l
  have me := mu_eps f
  have hm1 : 0 ≤ mantissaValue l * εt f := Rat.mul_nonneg hm0 me.2.1
  obtain ⟨t1, t2⟩ := trunc_bounds l.fracDigits hdf
  -- what truncation loses is at most `m · εt`: nothing up to 19 digits, `10^-19 = μ · εt` beyond
  have hgap : (if l.fracDigits.length ≤ 19 then 0 else 1 / ((10 ^ 19 : Nat) : Rat)) ≤ mantissaValue l * εt f := by
    split
    · exact hm1
    · rw [me.1]; exact Rat.mul_le_mul_of_nonneg_right (hfr.resolve_left ‹_›) me.2.1
  have at' : Approx (εt f) ((digitsVal l.intDigits : Rat) +
      (((fracL l.fracDigits).1 : Nat) : Rat) / (((fracL l.fracDigits).2.1 : Nat) : Rat)) (mantissaValue l) := by
    unfold mantissaValue at hgap hm1 ⊢
    constructor <;> grind
  have h10 : 0 ≤ 10 * uf f := by have := uf_pos f; grind
  exact Approx.trans am at' hm0 h10 me.2.1

theorem evalLex_approx (f : Fmt) (chk : Bool) {l : Lexeme} (wf : WF l) (hi : l.intDigits.length ≤ 19)
    (hfr : l.fracDigits.length ≤ 19 ∨ μ f ≤ mantissaValue l)
    (hex : ∀ eneg eds, l.exp = some (eneg, eds) →
      digitsVal eds ≤ kMaxExponent f ∧ minNormal f * (1 + δ) ≤ absQ (decimalValue l) ∧
      absQ (decimalValue l) * (1 + δ) ≤ ovfl f) :
    ∃ q, evalLex f chk l = (⟨l.neg, .fin q⟩, false) ∧ Approx (tol f) q (absQ (decimalValue l)) := by
  obtain ⟨qm, hqm, am⟩ := mantissa_lexeme f wf hi hfr
  rw [absQ_decimalValue]
  have nf := num_facts f
  cases hx : l.exp with
  | none =>
    refine ⟨qm, by unfold evalLex; simp only [hx, hqm], ?_⟩
    unfold magnitude; simp only [hx]
    exact am.mono (mantissaValue_nonneg l) nf.mTol
  | some p =>
    obtain ⟨eneg, eds⟩ := p
    obtain ⟨hE, hlo, hhi⟩ := hex eneg eds hx
    rw [absQ_decimalValue] at hlo hhi
    have hEx : exponL eds = digitsVal eds := exponL_exact eds (by
      have : kMaxExponent f ≤ 308 := by cases f <;> decide
      omega)
    have hmag : magnitude l = scaled eneg (mantissaValue l) ((10 ^ exponL eds : Nat) : Rat) := by
      unfold magnitude; rw [hx, hEx]
    rw [hmag] at hlo hhi ⊢
    obtain ⟨q, hq, aq⟩ := expL_approx f chk l.neg am (mantissaValue_nonneg l) eneg eds (by rw [hEx]; exact hE) hlo hhi
    exact ⟨q, by unfold evalLex; simp only [hx, hqm]; exact hq, aq⟩

theorem evalLex_inf {f : Fmt} {l : Lexeme} (hf : Dig l.fracDigits) : InfFlagged (evalLex f true l) := by
  obtain ⟨q, hq⟩ := mantissa_fin f l.intDigits l.fracDigits l.hasDot hf
  unfold evalLex
  rcases l.exp with _ | ⟨eneg, eds⟩
  · intro h
    rw [hq] at h
    cases h
  · exact expL_inf _ _ _ _ _

end DmlcModel.StrToNum
