/- The value and range flag ParseFloat computes, as a function of the lexeme (`evalLex`), over the accumulators in closed form
   (`predecL`, `fracL`, `exponL`); the digit loops of the code compute these. -/
import DmlcModel.StrToNum.Int
import DmlcModel.BasicLemmas
namespace DmlcModel.StrToNum
open DmlcModel DmlcModel.Gen.StrToNum

/-- `predec` after the integer digits (values 0-9): their value, with the `uint64_t` wrap-around -/
def predecL (ds : List Nat) : Nat := digitsVal ds % 18446744073709551616

/-- `(val2, pow10, digit_cnt)` after the fraction digits: only the first 19 are accumulated -/
def fracL (ds : List Nat) : Nat × Nat × Nat := (digitsVal (ds.take 19), 10 ^ min ds.length 19, ds.length)

/-- `expon` after the exponent digits, with the `unsigned` wrap-around -/
def exponL (ds : List Nat) : Nat := digitsVal ds % 4294967296

/-- the code's mantissa from `predec = P` and, when a '.' was consumed, `(val2, pow10) = (V, W)`:
`(FloatType)predec`, plus `(FloatType)((double)val2 / (double)pow10)` -/
def mantissaPVW (f : Fmt) (P : Nat) (hasDot : Bool) (V W : Nat) : Mag :=
  if hasDot then Mag.add f (rnd f (P : Rat)) ((Mag.div .F64 (rnd .F64 (V : Rat)) (rnd .F64 (W : Rat))).cast f)
  else rnd f (P : Rat)

def mantissaL (f : Fmt) (ip : List Nat) (hasDot : Bool) (fp : List Nat) : Mag :=
  mantissaPVW f (predecL ip) hasDot (fracL fp).1 (fracL fp).2.1

/-- the exponent part: value and whether `errno = ERANGE` is raised -/
def expL (f : Fmt) (chk : Bool) (neg : Bool) (value : Mag) (eneg : Bool) (eds : List Nat) : FVal × Bool :=
  let expon0 := exponL eds
  let kmax := kMaxExponent f
  if exponTooBig expon0 kmax && chk then (⟨false, .inf⟩, true)
  else
    let expon := if exponTooBig expon0 kmax then kmax else expon0
    let edge := exponIsMax expon kmax && edgeOutM eneg value (kMaxSignificand f) (kNegMaxSignificand f)
    if edge && chk then (⟨false, .inf⟩, true)
    else
      let value1 := if edge then (if eneg then kNegMaxSignificand f else kMaxSignificand f) else value
      let scale := scaleOf f expon
      let value2 := if eneg then Mag.div f value1 scale else Mag.mul f value1 scale
      if scaledResultChecked && chk && value2 = .inf then (⟨false, .inf⟩, true)
      else (⟨neg, value2⟩, false)

/-- value and range flag of a decimal lexeme, as `ParseFloat<f, chk>` computes them -/
def evalLex (f : Fmt) (chk : Bool) (l : Lexeme) : FVal × Bool :=
  let value := mantissaL f l.intDigits l.hasDot l.fracDigits
  match l.exp with
  | none => (⟨l.neg, value⟩, false)
  | some (eneg, eds) => expL f chk l.neg value eneg eds

theorem ite_ind {α : Type} {P : α → Prop} {c : Prop} [Decidable c] {x y : α} (hx : c → P x) (hy : ¬c → P y) :
    P (if c then x else y) := by
  split <;> simp_all

def Flagged (x : FVal × Bool) : Prop := x.2 = true → x.1 = ⟨false, .inf⟩

theorem evalLex_flag (f : Fmt) (chk : Bool) (l : Lexeme) : Flagged (evalLex f chk l) := by
  unfold evalLex
  rcases l.exp with _ | ⟨eneg, eds⟩
  · exact fun h => nomatch h
  · exact ite_ind (P := Flagged) (fun _ _ => rfl) fun _ => ite_ind (P := Flagged) (fun _ _ => rfl) fun _ =>
      ite_ind (P := Flagged) (fun _ _ => rfl) fun _ h => nomatch h

def InfFlagged (x : FVal × Bool) : Prop := x.1.mag = .inf → x.2 = true

theorem expL_inf (f : Fmt) (neg : Bool) (value : Mag) (eneg : Bool) (eds : List Nat) :
    InfFlagged (expL f true neg value eneg eds) :=
  ite_ind (P := InfFlagged) (fun _ _ => rfl) fun _ => ite_ind (P := InfFlagged) (fun _ _ => rfl) fun _ =>
    ite_ind (P := InfFlagged) (fun _ _ => rfl) fun c h => absurd (by simpa [scaledResultChecked] using h) c

def Dig (ds : List Nat) : Prop := ∀ d ∈ ds, d ≤ 9

theorem Dig_map {bs : Bytes} (hb : ∀ c ∈ bs, isDigit c = true) : Dig (bs.map digitOf) := by
  intro d hd
  obtain ⟨c, hc, rfl⟩ := List.mem_map.mp hd
  have := isDigit_range (hb c hc)
  unfold digitOf; omega

theorem Dig_take {ds : List Nat} (h : Dig ds) (n : Nat) : Dig (ds.take n) :=
  fun d hd => h d (List.mem_of_mem_take hd)

theorem Dig_drop {ds : List Nat} (h : Dig ds) (n : Nat) : Dig (ds.drop n) :=
  fun d hd => h d (List.mem_of_mem_drop hd)

theorem digitsVal_map (ds : Bytes) : digitsVal (ds.map digitOf) = digitsNat ds := List.foldl_map ..

theorem foldl_shift (b : List Nat) : ∀ x : Nat,
    b.foldl (fun a d => a * 10 + d) x = x * 10 ^ b.length + b.foldl (fun a d => a * 10 + d) 0 := by
  induction b with
  | nil => intro x; simp
  | cons d b ih =>
    intro x
    simp only [List.foldl_cons, List.length_cons]
    rw [ih (x * 10 + d), ih (0 * 10 + d)]
    rw [Nat.pow_succ]
    have : (x * 10 + d) * 10 ^ b.length = x * (10 ^ b.length * 10) + (0 * 10 + d) * 10 ^ b.length := by
      rw [Nat.zero_mul, Nat.zero_add, Nat.add_mul, Nat.mul_assoc, Nat.mul_comm 10]
    omega

theorem digitsVal_append (a b : List Nat) : digitsVal (a ++ b) = digitsVal a * 10 ^ b.length + digitsVal b := by
  unfold digitsVal
  rw [List.foldl_append, foldl_shift]

theorem digitsVal_lt (ds : List Nat) (hd : Dig ds) : digitsVal ds < 10 ^ ds.length := by
  induction ds with
  | nil => decide
  | cons d ds ih =>
    have := ih fun x hx => hd x (by simp [hx])
    have := Nat.mul_le_mul_right (10 ^ ds.length) (hd d (by simp))
    rw [← List.singleton_append, digitsVal_append, show digitsVal [d] = d by simp [digitsVal], List.length_append,
      Nat.pow_add, List.length_singleton]
    omega

theorem pow10_19 : 10 ^ 19 < 18446744073709551616 := by decide

theorem pow10_pos (E : Nat) : (0 : Rat) < ((10 ^ E : Nat) : Rat) :=
  Rat.natCast_pos.mpr (Nat.pow_pos (by decide))

theorem predec_fold (ds : Bytes) (hd : ∀ c ∈ ds, isDigit c = true) :
    ds.foldl (fun (a : Nat) c => predecStep a c.toNat) 0 = predecL (ds.map digitOf) := by
  rw [predecL, digitsVal_map]
  exact fold_wrap (fun a _ hc => digitStep64 a hc) ds hd

theorem expon_fold (ds : Bytes) (hd : ∀ c ∈ ds, isDigit c = true) :
    ds.foldl (fun (a : Nat) c => exponStep a c.toNat) 0 = exponL (ds.map digitOf) := by
  rw [exponL, digitsVal_map]
  exact fold_wrap (fun a c hc => by simp only [exponStep, u32, sub32]; omega) ds hd

/-- the fraction loop from any state it can reach: `pow10 = 10^min(cnt,19)` and `val2 < pow10`, so neither product
wraps; after 19 digits the state is frozen -/
theorem frac_fold_from (ds : Bytes) (hd : ∀ c ∈ ds, isDigit c = true) : ∀ v c : Nat, v < 10 ^ min c 19 →
    ds.foldl fracStep (v, 10 ^ min c 19, c) =
      (((ds.map digitOf).take (19 - c)).foldl (fun a d => a * 10 + d) v, 10 ^ min (c + ds.length) 19, c + ds.length) := by
  induction ds with
  | nil => intro v c _; simp
  | cons b bs ih =>
    intro v c hv
    have hb := isDigit_range (hd b (by simp))
    have ih := ih (fun x hx => hd x (by simp [hx]))
    rw [List.foldl_cons, List.length_cons, ← Nat.add_assoc, Nat.add_right_comm]
    by_cases hc : c < 19
    · have hm : min c 19 = c := by omega
      have hm' : min (c + 1) 19 = c + 1 := by omega
      have hle : 10 ^ (c + 1) ≤ 10 ^ 19 := Nat.pow_le_pow_right (by decide) (by omega)
      have h19 := pow10_19
      rw [hm] at hv
      have hp : 10 ^ (c + 1) = 10 ^ c * 10 := Nat.pow_succ ..
      have e1 : val2Step v b.toNat = v * 10 + digitOf b := by
        rw [val2Step, digitStep64 v hb]; exact Nat.mod_eq_of_lt (by omega)
      have e2 : pow10Step (10 ^ c) = 10 ^ (c + 1) := by simp only [pow10Step, u64]; omega
      have hs : fracStep (v, 10 ^ min c 19, c) b = (v * 10 + digitOf b, 10 ^ min (c + 1) 19, c + 1) := by
        simp [fracStep, fracDigitTaken, kStrtofMaxDigits, hc, hm, hm', e1, e2]
      rw [hs, ih _ _ (by rw [hm']; unfold digitOf; omega),
        show 19 - c = (19 - (c + 1)) + 1 by omega, List.map_cons, List.take_succ_cons, List.foldl_cons]
    · have hm : min c 19 = 19 := by omega
      have hs : fracStep (v, 10 ^ min c 19, c) b = (v, 10 ^ min (c + 1) 19, c + 1) := by
        simp [fracStep, fracDigitTaken, kStrtofMaxDigits, hc, hm, show min (c + 1) 19 = 19 by omega]
      rw [hs, ih _ _ (by rw [show min (c + 1) 19 = 19 by omega, ← hm]; exact hv),
        show 19 - c = 0 by omega, show 19 - (c + 1) = 0 by omega]
      rfl

theorem frac_fold (ds : Bytes) (hd : ∀ c ∈ ds, isDigit c = true) :
    ds.foldl fracStep (0, 1, 0) = fracL (ds.map digitOf) := by
  have := frac_fold_from ds hd 0 0 (by decide)
  simpa [fracL, digitsVal] using this

end DmlcModel.StrToNum
