/- Relative-error calculus on non-negative rationals (`Approx`: trans, mul, inv, div, add) and the range shape "zero, or between two
   powers of two" (`Mid`) that approximation preserves. -/
import DmlcModel.StrToNum.Round
import DmlcModel.StrToNum.Spec
namespace DmlcModel.StrToNum
open DmlcModel DmlcModel.Gen.StrToNum

theorem Approx.refl (x : Rat) : Approx 0 x x := ⟨by grind, by grind⟩

theorem Approx.mono {ε ε' q x : Rat} (h : Approx ε q x) (hx : 0 ≤ x) (he : ε ≤ ε') : Approx ε' q x := by
  have := Rat.mul_le_mul_of_nonneg_left he hx
  exact ⟨by have := h.lo; grind, by have := h.hi; grind⟩

theorem Approx.nonneg {ε q x : Rat} (h : Approx ε q x) (hx : 0 ≤ x) (he : ε ≤ 1) : 0 ≤ q := by
  have := Rat.mul_le_mul_of_nonneg_left he hx
  have := h.lo
  grind

theorem Approx.add {ε p q x y : Rat} (h1 : Approx ε p x) (h2 : Approx ε q y) : Approx ε (p + q) (x + y) := by
  have := h1.lo; have := h1.hi; have := h2.lo; have := h2.hi
  constructor <;> grind

theorem Approx.trans {a b q y x : Rat} (h1 : Approx a q y) (h2 : Approx b y x) (hx : 0 ≤ x) (ha0 : 0 ≤ a)
    (hb0 : 0 ≤ b) : Approx (a + b + a * b) q x := by
  have l1 := h1.lo; have u1 := h1.hi; have l2 := h2.lo; have u2 := h2.hi
  -- y ≤ x (1 + b), y ≥ x (1 - b)
  have e1 : y * a ≤ (x + x * b) * a := Rat.mul_le_mul_of_nonneg_right u2 ha0
  have xb0 : 0 ≤ x * b := Rat.mul_nonneg hx hb0
  have xab : 0 ≤ x * b * a := Rat.mul_nonneg xb0 ha0
  have xa0 : 0 ≤ x * a := Rat.mul_nonneg hx ha0
  constructor
  · -- x ≤ y + x b ≤ q + y a + x b
    grind
  · grind

theorem Approx.mul {a b p q x y : Rat} (h1 : Approx a p x) (h2 : Approx b q y) (hx : 0 ≤ x) (hy : 0 ≤ y)
    (ha0 : 0 ≤ a) (ha : a ≤ 1) (hb0 : 0 ≤ b) (hb : b ≤ 1) : Approx (a + b + a * b) (p * q) (x * y) := by
  have hp := h1.nonneg hx ha
  have hq := h2.nonneg hy hb
  have l1 := h1.lo; have u1 := h1.hi; have l2 := h2.lo; have u2 := h2.hi
  constructor
  · -- (x - x a)(y - y b) ≤ p q
    have h3 : x - x * a ≤ p := by grind
    have h4 : y - y * b ≤ q := by grind
    have n3 : 0 ≤ x - x * a := by
      have := Rat.mul_le_mul_of_nonneg_left ha hx; grind
    have n4 : 0 ≤ y - y * b := by
      have := Rat.mul_le_mul_of_nonneg_left hb hy; grind
    have := mul_le_mul4 h3 h4 n3 n4
    have xyab : 0 ≤ x * y * (a * b) := Rat.mul_nonneg (Rat.mul_nonneg hx hy) (Rat.mul_nonneg ha0 hb0)
    grind
  · have := mul_le_mul4 u1 u2 hp hq
    grind

theorem zero_div' (w : Rat) : (0 : Rat) / w = 0 := by rw [Rat.div_def, Rat.zero_mul]

theorem div_nonneg' {a b : Rat} (ha : 0 ≤ a) (hb : 0 < b) : 0 ≤ a / b := by
  rw [Rat.div_def]; exact Rat.mul_nonneg ha (Rat.le_of_lt (Rat.inv_pos.mpr hb))

theorem Approx.within2 {ε q x : Rat} (h : Approx ε q x) (hx : 0 ≤ x) (he : ε ≤ 1 / 2) : q ≤ 2 * x ∧ x ≤ 2 * q := by
  have := Rat.mul_le_mul_of_nonneg_left he hx
  have := h.lo; have := h.hi
  constructor <;> grind

theorem Approx.inv {b q y : Rat} (h : Approx b q y) (hy : 0 < y) (hb0 : 0 ≤ b) (hb : b ≤ 1 / 2) :
    Approx (2 * b) q⁻¹ y⁻¹ := by
  obtain ⟨h1, h2⟩ := h.within2 (Rat.le_of_lt hy) hb
  have hq : 0 < q := by grind
  have l := h.lo; have u := h.hi
  have hyb := Rat.mul_le_mul_of_nonneg_right h2 hb0
  have hc : 0 < q * y := Rat.mul_pos hq hy
  have e1 : q⁻¹ * (q * y) = y := by rw [← Rat.mul_assoc, Rat.inv_mul_cancel _ (Rat.ne_of_gt hq), Rat.one_mul]
  have e2 : y⁻¹ * (q * y) = q := by
    rw [Rat.mul_comm q, ← Rat.mul_assoc, Rat.inv_mul_cancel _ (Rat.ne_of_gt hy), Rat.one_mul]
  have e3 : ∀ i j c m : Rat, (i + j * c) * m = i * m + c * (j * m) := by intros; grind
  constructor <;> apply Rat.le_of_mul_le_mul_right _ hc <;> rw [e3, e1, e2] <;> grind

theorem Approx.div {a b p q x y : Rat} (h1 : Approx a p x) (h2 : Approx b q y) (hx : 0 ≤ x) (hy : 0 < y)
    (ha0 : 0 ≤ a) (ha : a ≤ 1) (hb0 : 0 ≤ b) (hb : b ≤ 1 / 2) : Approx (a + 2 * b + 2 * a * b) (p / q) (x / y) := by
  have h := Approx.mul h1 (h2.inv hy hb0 hb) hx (Rat.le_of_lt (Rat.inv_pos.mpr hy)) ha0 ha (by grind) (by grind)
  rwa [show a + 2 * b + a * (2 * b) = a + 2 * b + 2 * a * b by grind] at h

theorem Approx.zero {ε q : Rat} (h : Approx ε q 0) : q = 0 := by
  have := h.lo; have := h.hi
  grind

def Mid (a b : Int) (x : Rat) : Prop := (x = 0 ∨ pow2 a ≤ x) ∧ x ≤ pow2 b

theorem Mid.nonneg {a b : Int} {x : Rat} (h : Mid a b x) : 0 ≤ x := by
  have := pow2_pos a
  rcases h.1 with h | h <;> grind

theorem Mid.mono {a b a' b' : Int} {x : Rat} (h : Mid a b x) (ha : a' ≤ a) (hb : b ≤ b') : Mid a' b' x := by
  have := pow2_mono ha; have := pow2_mono hb; have := h.2
  refine ⟨h.1.imp_right fun h0 => ?_, ?_⟩ <;> grind

theorem Mid.add {a b : Int} {x y : Rat} (hx : Mid a b x) (hy : Mid a b y) : Mid a (b + 1) (x + y) := by
  have := hx.nonneg; have := hy.nonneg; have := hx.2; have := hy.2
  have := pow2_succ b
  refine ⟨?_, by grind⟩
  rcases hx.1 with h | h <;> rcases hy.1 with h' | h'
  · exact Or.inl (by grind)
  all_goals exact Or.inr (by grind)

theorem Approx.mid {ε q x : Rat} {a b : Int} (h : Approx ε q x) (he : ε ≤ 1 / 2) (hm : Mid a b x) :
    Mid (a - 1) (b + 1) q := by
  obtain ⟨h1, h2⟩ := h.within2 hm.nonneg he
  have ea : pow2 (a - 1) * 2 = pow2 a := by rw [← pow2_succ]; congr 1; omega
  have eb := pow2_succ b
  have := hm.2
  refine ⟨?_, by grind⟩
  rcases hm.1 with h0 | h0
  · subst h0; exact Or.inl h.zero
  · exact Or.inr (by grind)

end DmlcModel.StrToNum
