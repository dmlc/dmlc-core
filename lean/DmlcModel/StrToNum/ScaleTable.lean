/- The scaling factor `10^expon` as the two loops of ParseFloat compute it: a checker on integer pairs proved sound, and one kernel
   evaluation of the whole table per format. -/
import DmlcModel.StrToNum.Analysis
namespace DmlcModel.StrToNum
open DmlcModel DmlcModel.Gen.StrToNum

/-- units of round-off the scaling factor may be off: chosen just above the worst entries of the table (off by 1.2 and 4.8
units); `scale_table` checks them for every entry -/
def kS : Fmt → Nat | .F32 => 2 | .F64 => 5

/-- `c` is within `kS f` units of round-off of `10^E`: both sides scaled by `2^prec`, so that integers are compared -/
def apxOK (f : Fmt) (E : Nat) (c : Nat × Int) : Bool :=
  decide (0 ≤ c.2 + f.prec) &&
    decide (10 ^ E * 2 ^ f.prec ≤ c.1 * 2 ^ (c.2 + f.prec).toNat + 10 ^ E * kS f) &&
    decide (c.1 * 2 ^ (c.2 + f.prec).toNat ≤ 10 ^ E * 2 ^ f.prec + 10 ^ E * kS f)

theorem apxOK_sound {f : Fmt} {E : Nat} {c : Nat × Int} (h : apxOK f E c = true) :
    Approx ((kS f : Rat) * uf f) (fl c) ((10 ^ E : Nat) : Rat) := by
  simp only [apxOK, Bool.and_eq_true, decide_eq_true_eq] at h
  obtain ⟨⟨h0, h1⟩, h2⟩ := h
  have hu := uf_pos f
  have hfl : fl c = ((c.1 * 2 ^ (c.2 + f.prec).toNat : Nat) : Rat) * uf f := by
    unfold fl uf
    rw [Rat.natCast_mul, ← pow2_nat, Int.toNat_of_nonneg h0, Rat.mul_assoc, ← pow2_add]
    congr 2; omega
  have hP : ((2 ^ f.prec : Nat) : Rat) * uf f = 1 := by
    unfold uf; rw [← pow2_nat, ← pow2_add, Int.add_right_neg, pow2_zero]
  have m1 := Rat.mul_le_mul_of_nonneg_right (Rat.natCast_le_natCast.mpr h1) (Rat.le_of_lt hu)
  have m2 := Rat.mul_le_mul_of_nonneg_right (Rat.natCast_le_natCast.mpr h2) (Rat.le_of_lt hu)
  simp only [Rat.natCast_add, Rat.natCast_mul (10 ^ E)] at m1 m2
  rw [hfl]
  generalize ((c.1 * 2 ^ (c.2 + f.prec).toNat : Nat) : Rat) = A at *
  generalize ((10 ^ E : Nat) : Rat) = T at *
  generalize ((2 ^ f.prec : Nat) : Rat) = P at *
  generalize uf f = u at *
  have : T * P * u = T * (P * u) := Rat.mul_assoc ..
  constructor <;> grind

/-- the table entries for exponents `E … E + j`: successive products with `10.0f` -/
def rowOK (f : Fmt) : Nat → Nat → Nat × Int → Bool
  | 0, E, c => apxOK f E c
  | j + 1, E, c => apxOK f E c && flOK f c (10, 0) && rowOK f j (E + 1) (flMul f c (10, 0))

/-- `n` rows of eight entries and a last row of `r + 1`; the first column holds successive products with `1E8f` -/
def tableOK (f : Fmt) (r : Nat) : Nat → Nat → Nat × Int → Bool
  | 0, E, c => rowOK f r E c
  | n + 1, E, c => rowOK f 7 E c && flOK f c (100000000, 0) && tableOK f r n (E + 8) (flMul f c (100000000, 0))

theorem lit_fl (f : Fmt) : litF f kScaleInit = .fin (fl (2 ^ (f.prec - 1), 1 - f.prec)) ∧
    litF f kScaleSmall = .fin (fl (10, 0)) ∧ litF f kScaleBig = .fin (fl (100000000, 0)) := by
  cases f <;> decide +kernel

theorem rowOK_sound (f : Fmt) : ∀ j E c, rowOK f j E c = true → ∀ i fuel, i ≤ j → i < fuel → j < 4294967296 →
    ∃ q, (scaleSmallLoop f fuel i (.fin (fl c))).2 = .fin q ∧
      Approx ((kS f : Rat) * uf f) q ((10 ^ (E + i) : Nat) : Rat) := by
  intro j
  induction j with
  | zero =>
    intro E c h i fuel hi _ _
    obtain rfl : i = 0 := by omega
    cases fuel <;> exact ⟨_, rfl, apxOK_sound h⟩
  | succ j ih =>
    intro E c h i fuel hi hf hj
    simp only [rowOK, Bool.and_eq_true] at h
    obtain ⟨⟨h1, h2⟩, h3⟩ := h
    cases i with
    | zero => cases fuel <;> exact ⟨_, rfl, apxOK_sound h1⟩
    | succ i =>
      obtain ⟨fuel, rfl⟩ : ∃ k, fuel = k + 1 := ⟨fuel - 1, by omega⟩
      have hd : scaleSmallDec (i + 1) = i := by simp only [scaleSmallDec, sub32]; omega
      have hm : scaleSmallMore (i + 1) = true := by simp [scaleSmallMore]
      have := ih (E + 1) _ h3 i fuel (by omega) (by omega) (by omega)
      rw [Nat.add_right_comm, Nat.add_assoc] at this
      simpa only [scaleSmallLoop, hm, if_true, hd, (lit_fl f).2.1, flMul_sound h2] using this

theorem tableOK_sound (f : Fmt) (r : Nat) (hr : r ≤ 7) : ∀ n E c, tableOK f r n E c = true →
    ∀ e fuel, e ≤ 8 * n + r → e < fuel → 8 * n + r < 4294967296 →
    ∃ q, (scaleSmallLoop f ((scaleBigLoop f fuel e (.fin (fl c))).1 + 1) (scaleBigLoop f fuel e (.fin (fl c))).1
        (scaleBigLoop f fuel e (.fin (fl c))).2).2 = .fin q ∧
      Approx ((kS f : Rat) * uf f) q ((10 ^ (E + e) : Nat) : Rat) := by
  have small : ∀ fuel e sc, e < 8 → scaleBigLoop f fuel e sc = (e, sc) := by
    intro fuel e sc h
    cases fuel with
    | zero => rfl
    | succ k => simp [scaleBigLoop, scaleBigMore]; omega
  intro n
  induction n with
  | zero =>
    intro E c h e fuel he _ hb
    rw [small _ _ _ (by omega)]
    exact rowOK_sound f r E c h e _ (by omega) (by omega) (by omega)
  | succ n ih =>
    intro E c h e fuel he hf hb
    simp only [tableOK, Bool.and_eq_true] at h
    obtain ⟨⟨h1, h2⟩, h3⟩ := h
    by_cases h8 : e < 8
    · rw [small _ _ _ h8]
      exact rowOK_sound f 7 E c h1 e _ (by omega) (by omega) (by omega)
    · obtain ⟨fuel, rfl⟩ : ∃ k, fuel = k + 1 := ⟨fuel - 1, by omega⟩
      have hd : scaleBigDec e = e - 8 := by simp only [scaleBigDec, sub32]; omega
      have hm : scaleBigMore e = true := by simp [scaleBigMore]; omega
      have := ih (E + 8) _ h3 (e - 8) fuel (by omega) (by omega) (by omega)
      rw [show E + 8 + (e - 8) = E + e by omega] at this
      simpa only [scaleBigLoop, hm, if_true, hd, (lit_fl f).2.2, flMul_sound h2] using this

/-- every exponent the range test lets through, starting from `1.0f` -/
theorem scale_table (f : Fmt) :
    tableOK f (kMaxExponent f % 8) (kMaxExponent f / 8) 0 (2 ^ (f.prec - 1), 1 - f.prec) = true := by
  cases f <;> decide +kernel

theorem scale_approx (f : Fmt) (E : Nat) (hE : E ≤ kMaxExponent f) :
    ∃ sc, scaleOf f E = .fin sc ∧ Approx ((kS f : Rat) * uf f) sc ((10 ^ E : Nat) : Rat) := by
  have := tableOK_sound f _ (by omega) _ 0 _ (scale_table f) E (E + 1) (by omega) (by omega) (by cases f <;> decide)
  rwa [Nat.zero_add, ← (lit_fl f).1] at this

end DmlcModel.StrToNum
