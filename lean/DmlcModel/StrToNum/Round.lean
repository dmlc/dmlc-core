/- IEEE round-to-nearest-even on exact rationals: `|x − rndQ f x|` is at most half the rounding grid (`rndQ_err`), hence the relative
   error `2^-p` in the normal range (`rndQ_rel`); then the same rounding computed on integer pairs for the scale table. -/
import DmlcModel.StrToNum.Model
namespace DmlcModel.StrToNum
open DmlcModel

theorem pow2_eq (e : Int) : pow2 e = (2 : Rat) ^ e := by
  unfold pow2
  by_cases h : 0 ≤ e
  · rw [if_pos h]
    obtain ⟨n, rfl⟩ := Int.eq_ofNat_of_zero_le h
    rw [Int.toNat_natCast, Rat.zpow_natCast, Rat.natCast_pow]; rfl
  · rw [if_neg h]
    have hn : 0 ≤ -e := by omega
    obtain ⟨n, hn'⟩ := Int.eq_ofNat_of_zero_le hn
    have : e = -(n : Int) := by omega
    rw [hn', Int.toNat_natCast, this, Rat.zpow_neg, Rat.zpow_natCast, Rat.natCast_pow, Rat.div_def, Rat.one_mul]; rfl

theorem pow2_pos (e : Int) : 0 < pow2 e := by rw [pow2_eq]; exact Rat.zpow_pos (by decide)
theorem pow2_add (a b : Int) : pow2 (a + b) = pow2 a * pow2 b := by
  simp only [pow2_eq]; exact Rat.zpow_add (by decide) a b
theorem pow2_zero : pow2 0 = 1 := by rw [pow2_eq]; exact Rat.zpow_zero 2
theorem pow2_one : pow2 1 = 2 := by rw [pow2_eq]; exact Rat.zpow_one 2
theorem pow2_succ (e : Int) : pow2 (e + 1) = pow2 e * 2 := by rw [pow2_add, pow2_one]
theorem pow2_nat (n : Nat) : pow2 (n : Int) = ((2 ^ n : Nat) : Rat) := by
  unfold pow2; simp

theorem mul_le_mul4 {a b c d : Rat} (h1 : a ≤ b) (h2 : c ≤ d) (ha : 0 ≤ a) (hc : 0 ≤ c) : a * c ≤ b * d :=
  Rat.le_trans (Rat.mul_le_mul_of_nonneg_left h2 ha) (Rat.mul_le_mul_of_nonneg_right h1 (Rat.le_trans hc h2))

theorem mul_lt_mul4 {a b c d : Rat} (h1 : a < b) (h2 : c < d) (ha : 0 ≤ a) (hc : 0 < c) : a * c < b * d :=
  by
    have e1 := Rat.mul_le_mul_of_nonneg_left (Rat.le_of_lt h2) ha
    have hd : 0 < d := by grind
    have e2 := Rat.mul_lt_mul_of_pos_right h1 hd
    grind

theorem pow2_ge_one (n : Nat) : 1 ≤ pow2 (n : Int) := by
  rw [pow2_nat]
  have : (1 : Nat) ≤ 2 ^ n := Nat.one_le_two_pow
  exact (Rat.natCast_le_natCast (a := 1) (b := 2 ^ n)).mpr this

theorem pow2_mono {a b : Int} (h : a ≤ b) : pow2 a ≤ pow2 b := by
  obtain ⟨n, hn⟩ := Int.eq_ofNat_of_zero_le (show 0 ≤ b - a by omega)
  have : b = a + (n : Int) := by omega
  rw [this, pow2_add]
  have h1 := pow2_ge_one n
  have h2 := pow2_pos a
  calc pow2 a = pow2 a * 1 := (Rat.mul_one _).symm
    _ ≤ pow2 a * pow2 n := Rat.mul_le_mul_of_nonneg_left h1 (Rat.le_of_lt h2)

theorem pow2_lt {a b : Int} (h : a < b) : pow2 a < pow2 b := by
  have h1 : pow2 (a + 1) ≤ pow2 b := pow2_mono (by omega)
  have h2 : pow2 a < pow2 (a + 1) := by
    rw [pow2_succ]; have := pow2_pos a; grind
  grind

theorem mul_den (x : Rat) : x * (x.den : Rat) = (x.num : Rat) := by
  have h := Rat.num_divInt_den x
  rw [Rat.divInt_eq_div] at h
  have hd : ((x.den : Int) : Rat) ≠ 0 := by
    have := x.den_nz
    intro e
    have : (x.den : Int) = 0 := by exact_mod_cast (Rat.intCast_eq_zero_iff.mp e)
    omega
  have := Rat.div_mul_cancel (a := (x.num : Rat)) hd
  rw [h] at this
  exact this

theorem num_pos_of_pos {x : Rat} (h : 0 < x) : 0 < x.num := by
  have := (Rat.lt_iff 0 x).mp h
  simpa using this

theorem natCast_num {x : Rat} (h : 0 < x) : ((x.num.toNat : Nat) : Rat) = (x.num : Rat) := by
  have hp := num_pos_of_pos h
  have : ((x.num.toNat : Nat) : Int) = x.num := Int.toNat_of_nonneg (by omega)
  rw [← Rat.intCast_natCast, this]

theorem cast_pow_le {n k : Nat} (h : 2 ^ k ≤ n) : pow2 (k : Int) ≤ (n : Rat) := by
  rw [pow2_nat]; exact Rat.natCast_le_natCast.mpr h

theorem cast_lt_pow {n k : Nat} (h : n < 2 ^ k) : (n : Rat) < pow2 (k : Int) := by
  rw [pow2_nat]; exact Rat.natCast_lt_natCast.mpr h

theorem ilog2_spec {x : Rat} (hx : 0 < x) : pow2 (ilog2 x) ≤ x ∧ x < pow2 (ilog2 x + 1) := by
  have hn := num_pos_of_pos hx
  have hn0 : x.num.toNat ≠ 0 := by omega
  have hd0 : x.den ≠ 0 := x.den_nz
  have hN := natCast_num hx
  have hxd := mul_den x
  have a1 := cast_pow_le (Nat.log2_self_le hn0)
  have a2 := cast_lt_pow (Nat.lt_log2_self (n := x.num.toNat))
  have b1 := cast_pow_le (Nat.log2_self_le hd0)
  have b2 := cast_lt_pow (Nat.lt_log2_self (n := x.den))
  rw [hN, ← hxd] at a1 a2
  push_cast at a2 b2
  have hD : (0 : Rat) < (x.den : Rat) := Rat.natCast_pos.mpr (by omega)
  unfold ilog2
  simp only []
  generalize (Nat.log2 x.num.toNat : Int) = a at *
  generalize (Nat.log2 x.den : Int) = b at *
  generalize (x.den : Rat) = D at *
  by_cases hk : pow2 (a - b) ≤ x
  · rw [if_pos hk]
    refine ⟨hk, ?_⟩
    -- otherwise x * D ≥ 2^(k+1) * 2^b = 2^(a+1)
    apply Decidable.byContradiction
    intro hc
    have hc' : pow2 (a - b + 1) ≤ x := by grind
    have := mul_le_mul4 hc' b1 (Rat.le_of_lt (pow2_pos _)) (Rat.le_of_lt (pow2_pos _))
    rw [← pow2_add] at this
    have e : a - b + 1 + b = a + 1 := by omega
    rw [e] at this
    grind
  · rw [if_neg hk]
    have hk' : x < pow2 (a - b) := by grind
    have e0 : a - b - 1 + 1 = a - b := by omega
    refine ⟨?_, by rw [e0]; exact hk'⟩
    apply Decidable.byContradiction
    intro hc
    have hc' : x < pow2 (a - b - 1) := by grind
    have := mul_lt_mul4 hc' b2 (Rat.le_of_lt hx) hD
    rw [← pow2_add] at this
    have e : a - b - 1 + (b + 1) = a := by omega
    rw [e] at this
    grind

theorem rne_spec {y : Rat} (hy : 0 ≤ y) : 2 * (rne y : Rat) ≤ 2 * y + 1 ∧ 2 * y ≤ 2 * (rne y : Rat) + 1 := by
  have hn : 0 ≤ y.num := by
    have := (Rat.le_iff 0 y).mp hy
    simpa using this
  have hD : (0 : Rat) < (y.den : Rat) := Rat.natCast_pos.mpr (Nat.pos_of_ne_zero y.den_nz)
  have hyd := mul_den y
  have hN : ((y.num.toNat : Nat) : Rat) = (y.num : Rat) := by
    have : ((y.num.toNat : Nat) : Int) = y.num := Int.toNat_of_nonneg hn
    rw [← Rat.intCast_natCast, this]
  have hdm := Nat.div_add_mod y.num.toNat y.den
  have hml := Nat.mod_lt y.num.toNat (Nat.pos_of_ne_zero y.den_nz)
  have key : 2 * (rne y * y.den) ≤ 2 * y.num.toNat + y.den ∧ 2 * y.num.toNat ≤ 2 * (rne y * y.den) + y.den := by
    unfold rne
    simp only []
    generalize y.num.toNat / y.den = q at *
    generalize y.num.toNat % y.den = r at *
    generalize y.num.toNat = n at *
    generalize y.den = d at *
    have e1 : (q + 1) * d = d * q + d := by rw [Nat.add_mul, Nat.mul_comm, Nat.one_mul]
    have e2 : q * d = d * q := Nat.mul_comm _ _
    split
    · rw [e2]; omega
    · split
      · rw [e1]; omega
      · split
        · rw [e2]; omega
        · rw [e1]; omega
  -- transfer to Rat and divide by the denominator
  have k1 : (2 : Rat) * ((rne y : Rat) * (y.den : Rat)) ≤ 2 * (y.num.toNat : Rat) + (y.den : Rat) := by
    have := Rat.natCast_le_natCast.mpr key.1
    simpa [Rat.natCast_mul, Rat.natCast_add] using this
  have k2 : (2 : Rat) * (y.num.toNat : Rat) ≤ 2 * ((rne y : Rat) * (y.den : Rat)) + (y.den : Rat) := by
    have := Rat.natCast_le_natCast.mpr key.2
    simpa [Rat.natCast_mul, Rat.natCast_add] using this
  rw [hN, ← hyd] at k1 k2
  generalize (y.den : Rat) = D at *
  generalize (rne y : Rat) = M at *
  constructor
  · apply Rat.le_of_mul_le_mul_right _ hD
    grind
  · apply Rat.le_of_mul_le_mul_right _ hD
    grind

/-- the rounded value before the overflow test -/
def rndQ (f : Fmt) (x : Rat) : Rat := ((rne (x / pow2 (quantum f x)) : Nat) : Rat) * pow2 (quantum f x)

theorem rnd_pos_eq (f : Fmt) {x : Rat} (hx : 0 < x) :
    rnd f x = if pow2 ((f.emax : Int) + 1) ≤ rndQ f x then .inf else .fin (rndQ f x) := by
  unfold rnd rndQ
  have : ¬ x ≤ 0 := by grind
  simp only [this, if_false]

theorem rnd_nonpos (f : Fmt) {x : Rat} (hx : x ≤ 0) : rnd f x = .fin 0 := by
  unfold rnd; simp [hx]

theorem Mag.mul_fin (f : Fmt) (a b : Rat) : Mag.mul f (.fin a) (.fin b) = rnd f (a * b) := rfl
theorem Mag.add_fin (f : Fmt) (a b : Rat) : Mag.add f (.fin a) (.fin b) = rnd f (a + b) := rfl
theorem Mag.div_fin (f : Fmt) (a : Rat) {b : Rat} (hb : b ≠ 0) : Mag.div f (.fin a) (.fin b) = rnd f (a / b) := if_neg hb
theorem Mag.cast_fin (f : Fmt) (q : Rat) : (Mag.fin q).cast f = rnd f q := rfl

theorem rndQ_err (f : Fmt) {x : Rat} (hx : 0 < x) :
    2 * rndQ f x ≤ 2 * x + pow2 (quantum f x) ∧ 2 * x ≤ 2 * rndQ f x + pow2 (quantum f x) := by
  have hP := pow2_pos (quantum f x)
  have hyP : x / pow2 (quantum f x) * pow2 (quantum f x) = x := Rat.div_mul_cancel (by grind)
  have hy : 0 ≤ x / pow2 (quantum f x) := by
    have : 0 < x / pow2 (quantum f x) * pow2 (quantum f x) := by rw [hyP]; exact hx
    exact Rat.le_of_lt ((Rat.mul_pos_iff_of_pos_right hP).mp this)
  have hr := rne_spec hy
  unfold rndQ
  generalize (rne (x / pow2 (quantum f x)) : Rat) = M at *
  generalize x / pow2 (quantum f x) = y at *
  generalize pow2 (quantum f x) = P at *
  have h1 := Rat.mul_le_mul_of_nonneg_right hr.1 (Rat.le_of_lt hP)
  have h2 := Rat.mul_le_mul_of_nonneg_right hr.2 (Rat.le_of_lt hP)
  constructor <;> grind

theorem ilog2_ge {x : Rat} (hx : 0 < x) {k : Int} (h : pow2 k ≤ x) : k ≤ ilog2 x := by
  have := (ilog2_spec hx).2
  apply Decidable.byContradiction
  intro hc
  have : pow2 (ilog2 x + 1) ≤ pow2 k := pow2_mono (by omega)
  grind

theorem ilog2_lt {x : Rat} (hx : 0 < x) {k : Int} (h : x < pow2 k) : ilog2 x < k := by
  have := (ilog2_spec hx).1
  apply Decidable.byContradiction
  intro hc
  have : pow2 k ≤ pow2 (ilog2 x) := pow2_mono (by omega)
  grind

theorem rndQ_rel (f : Fmt) {x : Rat} (hx : 0 < x) (hn : pow2 (f.qmin + (f.prec : Int) - 1) ≤ x) :
    rndQ f x ≤ x + x * pow2 (-(f.prec : Int)) ∧ x ≤ rndQ f x + x * pow2 (-(f.prec : Int)) := by
  have hk := ilog2_ge hx hn
  have he := rndQ_err f hx
  -- in the normal range the grid is `2^(1-p)` times the leading power of two
  have e : quantum f x = ilog2 x + (-(f.prec : Int) + 1) := by unfold quantum; omega
  have hq := Rat.mul_le_mul_of_nonneg_right (ilog2_spec hx).1 (Rat.le_of_lt (pow2_pos (-(f.prec : Int) + 1)))
  rw [← pow2_add, ← e, pow2_succ] at hq
  generalize pow2 (quantum f x) = P at *
  generalize pow2 (-(f.prec : Int)) = u at *
  generalize rndQ f x = r at *
  have : x * (u * 2) = 2 * (x * u) := by grind
  constructor <;> grind

/-! ### rounded products on the integers

The kernel evaluates `rnd` on `Rat` slowly (every operation normalises; `Nat.log2` of a thousand-bit numerator runs bit by bit),
so the scale table is computed on pairs (mantissa, exponent) of integers, whose mantissas stay below `2^(2·prec)`. -/

def rneDiv (M D : Nat) : Nat :=
  if 2 * (M % D) < D then M / D else if D < 2 * (M % D) then M / D + 1 else if M / D % 2 = 0 then M / D else M / D + 1

theorem rne_natCast_div (M D : Nat) (hD : 0 < D) : rne ((M : Rat) / (D : Rat)) = rneDiv M D := by
  have hg : 0 < D.gcd M := Nat.gcd_pos_of_pos_left M hD
  have hM := Nat.div_mul_cancel (Nat.gcd_dvd_right D M)
  have hD' := Nat.div_mul_cancel (Nat.gcd_dvd_left D M)
  rw [← Rat.intCast_natCast M, ← Rat.mkRat_eq_div]
  unfold rne rneDiv
  simp only [Rat.num_mkRat, Rat.den_mkRat, Nat.ne_of_gt hD, if_false, Int.natAbs_natCast, ← Int.natCast_ediv,
    Int.toNat_natCast]
  generalize M / D.gcd M = n at hM
  generalize D / D.gcd M = d at hD'
  generalize D.gcd M = g at *
  subst hM hD'
  simp only [Nat.mul_mod_mul_right, Nat.mul_div_mul_right n d hg, ← Nat.mul_assoc, Nat.mul_lt_mul_right hg]

theorem rndQ_scaled (f : Fmt) {M : Nat} {e : Int} (hM : 2 ^ (f.prec - 1) ≤ M)
    (he : f.qmin ≤ e + ((M.log2 + 1 - f.prec : Nat) : Int)) :
    rndQ f ((M : Rat) * pow2 e) =
      (rneDiv M (2 ^ (M.log2 + 1 - f.prec)) : Rat) * pow2 (e + ((M.log2 + 1 - f.prec : Nat) : Int)) := by
  have hM0 : M ≠ 0 := by have := Nat.two_pow_pos (f.prec - 1); omega
  have hP := pow2_pos e
  have hx : 0 < (M : Rat) * pow2 e := Rat.mul_pos (Rat.natCast_pos.mpr (by omega)) hP
  have hL : f.prec - 1 < M.log2 + 1 :=
    (Nat.pow_lt_pow_iff_right (by decide : 1 < 2)).mp (Nat.lt_of_le_of_lt hM Nat.lt_log2_self)
  have hi : ilog2 ((M : Rat) * pow2 e) = M.log2 + e := by
    have h1 := ilog2_ge hx (k := M.log2 + e) (by
      rw [pow2_add]; exact Rat.mul_le_mul_of_nonneg_right (cast_pow_le (Nat.log2_self_le hM0)) (Rat.le_of_lt hP))
    have h2 := ilog2_lt hx (k := ((M.log2 + 1 : Nat) : Int) + e) (by
      rw [pow2_add]; exact Rat.mul_lt_mul_of_pos_right (cast_lt_pow Nat.lt_log2_self) hP)
    omega
  have hq : quantum f ((M : Rat) * pow2 e) = e + ((M.log2 + 1 - f.prec : Nat) : Int) := by
    unfold quantum; rw [hi]; omega
  unfold rndQ
  rw [hq, pow2_add, pow2_nat, ← rne_natCast_div M _ (Nat.two_pow_pos _)]
  have hc : ∀ D : Rat, (M : Rat) * pow2 e / (pow2 e * D) = (M : Rat) / D := fun D => by grind
  rw [hc]

/-- `m · 2^e` -/
def fl (a : Nat × Int) : Rat := (a.1 : Rat) * pow2 a.2

def flMul (f : Fmt) (a b : Nat × Int) : Nat × Int :=
  (rneDiv (a.1 * b.1) (2 ^ ((a.1 * b.1).log2 + 1 - f.prec)), a.2 + b.2 + ((a.1 * b.1).log2 + 1 - f.prec : Nat))

/-- the product has at least `prec` bits, and its rounding is normal and finite -/
def flOK (f : Fmt) (a b : Nat × Int) : Bool :=
  decide (2 ^ (f.prec - 1) ≤ a.1 * b.1) && decide (f.qmin ≤ (flMul f a b).2) &&
    decide ((flMul f a b).1 < 2 ^ f.prec) && decide ((flMul f a b).2 + f.prec ≤ f.emax + 1)

theorem flMul_sound {f : Fmt} {a b : Nat × Int} (h : flOK f a b = true) :
    Mag.mul f (.fin (fl a)) (.fin (fl b)) = .fin (fl (flMul f a b)) := by
  simp only [flOK, Bool.and_eq_true, decide_eq_true_eq] at h
  obtain ⟨⟨⟨hM, hq⟩, hm⟩, he⟩ := h
  have hx : fl a * fl b = ((a.1 * b.1 : Nat) : Rat) * pow2 (a.2 + b.2) := by
    unfold fl; rw [Rat.natCast_mul, pow2_add]; grind
  have hr := rndQ_scaled f (e := a.2 + b.2) hM hq
  have hpos : 0 < fl a * fl b := by
    rw [hx]
    exact Rat.mul_pos (Rat.natCast_pos.mpr (Nat.lt_of_lt_of_le (Nat.two_pow_pos _) hM)) (pow2_pos _)
  have hlt : fl (flMul f a b) < pow2 ((f.emax : Int) + 1) := by
    have h1 := Rat.mul_lt_mul_of_pos_right (cast_lt_pow hm) (pow2_pos (flMul f a b).2)
    rw [← pow2_add] at h1
    have := pow2_mono (show (f.prec : Int) + (flMul f a b).2 ≤ (f.emax : Int) + 1 by omega)
    unfold fl; grind
  rw [Mag.mul_fin, rnd_pos_eq f hpos, hx, hr]
  exact if_neg (Rat.not_le.mpr hlt)

end DmlcModel.StrToNum
