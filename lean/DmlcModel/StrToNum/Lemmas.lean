/-
ParseFloat against its pure specification.  `Rd z s t`: `t` is `s` followed by anything, and `s` still holds a *hard stopper*
`z` (the terminating NUL, or any byte no scanner accepts).  Then every model function on `t` succeeds with its pure copy on `s`
(`hd` ↦ `hd0`, `scanLoop` ↦ `takeWhile`/`foldl`) as result: no fault, and nothing beyond `s` is read.
-/
import DmlcModel.StrToNum.Model
namespace DmlcModel.StrToNum
open DmlcModel DmlcModel.Gen.StrToNum

/-- a byte at which every loop and matcher of the scanners stops.  NUL is one (`hard0`); so are `,` `:` `#` `/` `)` … -/
structure Hard (z : Byte) : Prop where
  space : isSpace z = false
  digit : isDigit z = false
  nanBody : nanBodyChar z.toNat = false
  low : ∀ l ∈ infLit ++ nanLit, lowerOf z.toNat ≠ l
  minus : isMinus z.toNat = false
  plus : isPlus z.toNat = false
  dot : isDot z.toNat = false
  expm : isExpMarker z.toNat = false
  lparen : isLParen z.toNat = false

theorem hard0 : Hard 0 := by constructor <;> decide

/-- `*p` with a default (never reached on a list that still holds the stopper) -/
def hd0 : Bytes → Byte
  | [] => 0
  | c :: _ => c

theorem hd0_of_head? {s : Bytes} {b : Byte} (h : s.head? = some b) : hd0 s = b := by
  cases s with
  | nil => cases h
  | cons c cs => exact Option.some.inj h

theorem mem_drop1 {z : Byte} {s : Bytes} (hz : z ∈ s) (hc : hd0 s ≠ z) : z ∈ s.drop 1 := by
  cases s with
  | nil => cases hz
  | cons c cs => exact List.mem_of_ne_of_mem (Ne.symm hc) hz

theorem mem_dropTW {z : Byte} {s : Bytes} (p : Byte → Bool) (hz : z ∈ s) (hp : p z = false) :
    z ∈ s.drop (s.takeWhile p).length := by
  induction s with
  | nil => cases hz
  | cons c cs ih =>
    by_cases hc : p c = true
    · have hc0 : z ≠ c := by rintro rfl; simp [hp] at hc
      simpa [List.takeWhile_cons, hc] using ih (List.mem_of_ne_of_mem hc0 hz)
    · simpa [List.takeWhile_cons, hc] using hz

structure Rd (z : Byte) (s t : Bytes) : Prop where
  mem : z ∈ s
  ext : ∃ e, t = s ++ e

theorem Rd.refl {z : Byte} {s : Bytes} (h : z ∈ s) : Rd z s s := ⟨h, [], (List.append_nil s).symm⟩

theorem Rd.hd {z : Byte} {s t : Bytes} (h : Rd z s t) : hd t = .ok (hd0 s) := by
  obtain ⟨hz, e, rfl⟩ := h
  cases s with
  | nil => cases hz
  | cons c cs => rfl

/-- what lies beyond the stopper stays out of reach of `drop` -/
theorem Rd.drop {z : Byte} {s t : Bytes} (h : Rd z s t) {n : Nat} (hn : z ∈ s.drop n) : Rd z (s.drop n) (t.drop n) := by
  obtain ⟨_, e, rfl⟩ := h
  have := List.length_pos_of_mem hn
  rw [List.length_drop] at this
  exact ⟨hn, e, List.drop_append_of_le_length (by omega)⟩

theorem Rd.scan {σ : Type} {z : Byte} {s t : Bytes} (h : Rd z s t) (p : Byte → Bool) (step : σ → Byte → σ)
    (hp : p z = false) (st : σ) (k : Nat) :
    scanLoop p step st k t = .ok ((s.takeWhile p).foldl step st, k + (s.takeWhile p).length) := by
  obtain ⟨hz, e, rfl⟩ := h
  induction s generalizing st k with
  | nil => cases hz
  | cons c cs ih =>
    by_cases hc : p c = true
    · have hc0 : z ≠ c := by rintro rfl; simp [hp] at hc
      simp only [List.cons_append, scanLoop, hc, if_true, ih _ _ (List.mem_of_ne_of_mem hc0 hz), List.takeWhile_cons, List.foldl_cons,
        List.length_cons]
      congr 2; omega
    · simp [scanLoop, hc]

def matchLitP (more : Nat → Bool) : List Nat → Nat → Bytes → Nat
  | lit, i, s =>
    if more i then
      match s with
      | [] => i
      | c :: cs =>
        match lit with
        | l :: ls => if lowerOf c.toNat = l then matchLitP more ls (i + 1) cs else i
        | [] => i
    else i

theorem Rd.matchLit {z : Byte} (more : Nat → Bool) {s t : Bytes} (h : Rd z s t) :
    ∀ (lit : List Nat) (i : Nat), (∀ l ∈ lit, lowerOf z.toNat ≠ l) →
      matchLit more lit i t = .ok (matchLitP more lit i s) ∧ i ≤ matchLitP more lit i s ∧
      z ∈ s.drop (matchLitP more lit i s - i) := by
  obtain ⟨hz, ext, rfl⟩ := h
  induction s with
  | nil => cases hz
  | cons c cs ih =>
    intro lit i hl
    unfold StrToNum.matchLit matchLitP
    by_cases hm : more i = true
    · simp only [hm, if_true, List.cons_append]
      cases lit with
      | nil => simpa using hz
      | cons l ls =>
        by_cases he : lowerOf c.toNat = l
        · have hc0 : z ≠ c := by
            rintro rfl
            exact hl l (by simp) he
          have := ih (List.mem_of_ne_of_mem hc0 hz) ls (i + 1) (fun x hx => hl x (by simp [hx]))
          simp only [he, if_true]
          refine ⟨this.1, by omega, ?_⟩
          rw [show matchLitP more ls (i + 1) cs - i = (matchLitP more ls (i + 1) cs - (i + 1)) + 1 by omega,
            List.drop_succ_cons]
          exact this.2.2
        · simpa [he] using hz
    · simpa [hm] using hz

def scanP {σ : Type} (p : Byte → Bool) (step : σ → Byte → σ) (st : σ) (s : Bytes) : σ × Nat :=
  ((s.takeWhile p).foldl step st, (s.takeWhile p).length)

def rangeReturnP (pos : Nat) (rest : Bytes) : PRes :=
  { val := ⟨false, .inf⟩, endIdx := pos + (if isSuffixRange (hd0 rest).toNat then 1 else 0), erange := true }

def parseExponentP (f : Fmt) (chk : Bool) (sign : Bool) (value : Mag) (pos : Nat) (rest : Bytes) (c1 : Byte) : PRes :=
  let frac := isMinus c1.toNat
  let nsg := if isMinus c1.toNat then 1 else if isPlus c1.toNat then 1 else 0
  let r1 := rest.drop (1 + nsg)
  let sc := scanP isDigit (fun (a : Nat) c => exponStep a c.toNat) 0 r1
  let expon0 := sc.1
  let ne := sc.2
  let pos2 := pos + 1 + nsg + ne
  let r2 := r1.drop ne
  let kmax := kMaxExponent f
  if exponTooBig expon0 kmax && chk then rangeReturnP pos2 r2
  else
    let expon := if exponTooBig expon0 kmax then kmax else expon0
    let edge := exponIsMax expon kmax && edgeOutM frac value (kMaxSignificand f) (kNegMaxSignificand f)
    if edge && chk then rangeReturnP pos2 r2
    else
      let value1 := if edge then (if frac then kNegMaxSignificand f else kMaxSignificand f) else value
      let scale := scaleOf f expon
      let value2 := if frac then Mag.div f value1 scale else Mag.mul f value1 scale
      if scaledResultChecked && chk && value2 = .inf then rangeReturnP pos2 r2
      else { val := ⟨!sign, value2⟩, endIdx := pos2 + (if isSuffix (hd0 r2).toNat then 1 else 0), erange := false }

theorem drop_drop' (s : Bytes) (a b : Nat) : (s.drop a).drop b = s.drop (a + b) := by
  rw [List.drop_drop]

theorem ne_stopper {p : Nat → Bool} {c z : Byte} (h : p c.toNat = true) (h0 : p z.toNat = false) : c ≠ z := by
  rintro rfl
  rw [h0] at h
  exact Bool.noConfusion h

theorem ite_ok {α ε : Type} {c : Prop} [Decidable c] {a b : Except ε α} {a' b' : α}
    (ha : a = .ok a') (hb : b = .ok b') : (if c then a else b) = .ok (if c then a' else b') := by
  split <;> assumption

theorem mem_dropSign {z : Byte} (hh : Hard z) {s1 : Bytes} (hz : z ∈ s1) :
    z ∈ s1.drop (if isMinus (hd0 s1).toNat then 1 else if isPlus (hd0 s1).toNat then 1 else 0) := by
  by_cases hmi : isMinus (hd0 s1).toNat = true
  · simpa [hmi] using mem_drop1 hz (ne_stopper hmi hh.minus)
  · by_cases hpl : isPlus (hd0 s1).toNat = true
    · simpa [hmi, hpl] using mem_drop1 hz (ne_stopper hpl hh.plus)
    · simpa [hmi, hpl] using hz

theorem rangeReturn_ok {z : Byte} {pos : Nat} {rest t : Bytes} (h : Rd z rest t) :
    rangeReturn pos t = .ok (rangeReturnP pos rest) := by
  simp [rangeReturn, rangeReturnP, h.hd, bind, Except.bind]

theorem parseExponent_ok {z : Byte} (hh : Hard z) {f chk sign value pos} {rest t : Bytes} (h : Rd z rest t)
    (hm : isExpMarker (hd0 rest).toNat = true) :
    parseExponent f chk sign value pos t (hd0 (rest.drop 1)) =
      .ok (parseExponentP f chk sign value pos rest (hd0 (rest.drop 1))) := by
  have hz2 := mem_dropSign hh (mem_drop1 h.mem (ne_stopper hm hh.expm))
  rw [List.drop_drop] at hz2
  have h2 := h.drop hz2
  have h3 := h2.drop (mem_dropTW isDigit hz2 hh.digit)
  unfold parseExponent parseExponentP scanP
  simp only [h2.scan isDigit _ hh.digit, bind, Except.bind, Nat.zero_add]
  exact ite_ok (rangeReturn_ok h3) (ite_ok (rangeReturn_ok h3) (ite_ok (rangeReturn_ok h3) (by rw [h3.hd])))

def hdIfP (cond : Bool) (s : Bytes) : Byte := if cond then hd0 s else 0

theorem hdIf_ok {z : Byte} {cond : Bool} {s t : Bytes} (h : cond = true → Rd z s t) :
    hdIf cond t = .ok (hdIfP cond s) := by
  cases cond with
  | false => rfl
  | true => exact (h rfl).hd

def parseTailP (f : Fmt) (chk : Bool) (sign : Bool) (value : Mag) (pos : Nat) (rest : Bytes) : PRes :=
  let c := hd0 rest
  if isExpMarker c.toNat then
    let e1 := hd0 (rest.drop 1)
    let e2 := hdIfP (isMinus e1.toNat || isPlus e1.toNat) (rest.drop 2)
    if expLookahead e1.toNat e2.toNat then parseExponentP f chk sign value pos rest e1
    else { val := ⟨!sign, value⟩, endIdx := pos + (if isSuffix c.toNat then 1 else 0), erange := false }
  else { val := ⟨!sign, value⟩, endIdx := pos + (if isSuffix c.toNat then 1 else 0), erange := false }

theorem parseTail_ok {z : Byte} (hh : Hard z) {f chk sign value pos} {rest t : Bytes} (h : Rd z rest t) :
    parseTail f chk sign value pos t = .ok (parseTailP f chk sign value pos rest) := by
  unfold parseTail parseTailP
  rw [h.hd]
  simp only [bind, Except.bind]
  by_cases hm : isExpMarker (hd0 rest).toNat = true
  · have h1 := h.drop (mem_drop1 h.mem (ne_stopper hm hh.expm))
    have h2 : (isMinus (hd0 (rest.drop 1)).toNat || isPlus (hd0 (rest.drop 1)).toNat) = true →
        Rd z (rest.drop 2) (t.drop 2) := fun hs => h.drop (by
      have := mem_drop1 h1.mem ((Bool.or_eq_true _ _).mp hs |>.elim (ne_stopper · hh.minus) (ne_stopper · hh.plus))
      rwa [List.drop_drop] at this)
    simp only [hm, if_true, h1.hd, hdIf_ok h2]
    exact ite_ok (parseExponent_ok hh h hm) rfl
  · simp only [hm]
    rfl

def parseFractionP (f : Fmt) (value0 : Mag) (rest : Bytes) : Mag × Nat :=
  let fs := scanP isDigit fracStep ((0, 1, 0) : Nat × Nat × Nat) rest
  (Mag.add f value0 ((Mag.div .F64 (rnd .F64 (fs.1.1 : Rat)) (rnd .F64 (fs.1.2.1 : Rat))).cast f), 1 + fs.2)

theorem parseFraction_ok {z : Byte} (hh : Hard z) {f value0} {rest t : Bytes} (h : Rd z rest t) :
    parseFraction f value0 t = .ok (parseFractionP f value0 rest) := by
  unfold parseFraction parseFractionP scanP
  simp only [h.scan isDigit _ hh.digit, bind, Except.bind, Nat.zero_add]

def parseFractionOptP (takeDot : Bool) (f : Fmt) (value0 : Mag) (rest : Bytes) : Mag × Nat :=
  if takeDot then parseFractionP f value0 rest else (value0, 0)

theorem parseFractionOpt_ok {z : Byte} (hh : Hard z) {takeDot f value0} {rest t : Bytes}
    (h : takeDot = true → Rd z rest t) :
    parseFractionOpt takeDot f value0 t = .ok (parseFractionOptP takeDot f value0 rest) := by
  cases takeDot with
  | false => rfl
  | true => exact parseFraction_ok hh (h rfl)

def parseDecimalP (f : Fmt) (chk : Bool) (sign : Bool) (pos : Nat) (rest : Bytes) : PRes :=
  let sc := scanP isDigit (fun (a : Nat) c => predecStep a c.toNat) 0 rest
  let hasDigits0 := sc.2 != 0
  let value0 := rnd f (sc.1 : Rat)
  let r1 := rest.drop sc.2
  let c := hd0 r1
  let c1 := hdIfP (isDot c.toNat && !hasDigits0) (r1.drop 1)
  let takeDot := isDot c.toNat && dotTaken hasDigits0 c1.toNat
  let vn := parseFractionOptP takeDot f value0 (r1.drop 1)
  if !(hasDigits0 || takeDot) then { val := ⟨false, .fin 0⟩, endIdx := 0, erange := false }
  else parseTailP f chk sign vn.1 (pos + sc.2 + vn.2) (r1.drop vn.2)

theorem parseDecimal_ok {z : Byte} (hh : Hard z) {f chk sign pos} {rest t : Bytes} (h : Rd z rest t) :
    parseDecimal f chk sign pos t = .ok (parseDecimalP f chk sign pos rest) := by
  have h1 := h.drop (mem_dropTW isDigit h.mem hh.digit)
  -- Both conditional reads happen only at a '.', which is not the stopper.  Stated for every second conjunct `b`, so that
  -- `hdot _` unifies with `isDot c && !hasDigits` (the look-ahead `p[1]`) and with `isDot c && dotTaken …` (the fraction).
  have hdot : ∀ b, (isDot (hd0 (rest.drop (rest.takeWhile isDigit).length)).toNat && b) = true →
      Rd z ((rest.drop (rest.takeWhile isDigit).length).drop 1) ((t.drop (rest.takeWhile isDigit).length).drop 1) :=
    fun b hc => h1.drop (mem_drop1 h1.mem (ne_stopper (Bool.and_eq_true _ _ |>.mp hc).1 hh.dot))
  unfold parseDecimal parseDecimalP scanP
  simp only [h.scan isDigit _ hh.digit, bind, Except.bind, Nat.zero_add, h1.hd, hdIf_ok (hdot _),
    parseFractionOpt_ok hh (hdot _)]
  refine ite_ok rfl (parseTail_ok hh (h1.drop ?_))
  unfold parseFractionOptP
  split
  · rename_i ht
    have := mem_dropTW isDigit (hdot _ ht).mem hh.digit
    rwa [List.drop_drop] at this
  · simpa using h1.mem

def parseNanParenP (rest : Bytes) : Nat :=
  if isLParen (hd0 rest).toNat then
    let nb := ((rest.drop 1).takeWhile (fun b => nanBodyChar b.toNat)).length
    if isRParen (hd0 (rest.drop (1 + nb))).toNat then nb + 2 else 0
  else 0

theorem parseNanParen_ok {z : Byte} (hh : Hard z) {rest t : Bytes} (h : Rd z rest t) :
    parseNanParen t = .ok (parseNanParenP rest) := by
  unfold parseNanParen parseNanParenP
  rw [h.hd]
  simp only [bind, Except.bind]
  by_cases hl : isLParen (hd0 rest).toNat = true
  · have hz1 := mem_drop1 h.mem (ne_stopper hl hh.lparen)
    have hz2 := mem_dropTW (fun b => nanBodyChar b.toNat) hz1 hh.nanBody
    rw [List.drop_drop] at hz2
    simp only [hl, if_true, (h.drop hz1).scan (fun b => nanBodyChar b.toNat) noUnit hh.nanBody, Nat.zero_add,
      (h.drop hz2).hd]
  · simp only [hl]
    rfl

def parseBodyP (f : Fmt) (chk : Bool) (sign : Bool) (p0 : Nat) (s2 : Bytes) : PRes :=
  let i := matchLitP infMore infLit 0 s2
  if infAccept i then
    { val := ⟨!sign, .inf⟩, endIdx := p0 + (i - (if infIsShort i then infBackoff i else 0)), erange := false }
  else
    let j := matchLitP nanMore nanLit 0 s2
    if nanAccept j then
      { val := ⟨false, .nan⟩, endIdx := p0 + j + parseNanParenP (s2.drop j), erange := false }
    else parseDecimalP f chk sign p0 s2

theorem parseBody_ok {z : Byte} (hh : Hard z) {f chk sign p0} {s2 t : Bytes} (h : Rd z s2 t) :
    parseBody f chk sign p0 t = .ok (parseBodyP f chk sign p0 s2) := by
  have hi := h.matchLit infMore infLit 0 (fun l hl => hh.low l (by simp [hl]))
  have hj := h.matchLit nanMore nanLit 0 (fun l hl => hh.low l (by simp [hl]))
  unfold parseBody parseBodyP
  simp only [hi.1, hj.1, bind, Except.bind]
  refine ite_ok rfl (ite_ok ?_ (parseDecimal_ok hh h))
  rw [parseNanParen_ok hh (h.drop (by simpa using hj.2.2))]

def parseFloatCoreP (f : Fmt) (chk : Bool) (s : Bytes) : PRes :=
  let nws := (s.takeWhile isSpace).length
  let s1 := s.drop nws
  let c := hd0 s1
  let nsg := if isMinus c.toNat then 1 else if isPlus c.toNat then 1 else 0
  parseBodyP f chk (!isMinus c.toNat) (nws + nsg) (s1.drop nsg)

theorem parseFloatCore_ok {z : Byte} (hh : Hard z) {f chk} {s t : Bytes} (h : Rd z s t) :
    parseFloatCore f chk t = .ok (parseFloatCoreP f chk s) := by
  have hz1 := mem_dropTW isSpace h.mem hh.space
  unfold parseFloatCore parseFloatCoreP
  simp only [h.scan isSpace noUnit hh.space, bind, Except.bind, Nat.zero_add, (h.drop hz1).hd]
  exact parseBody_ok hh ((h.drop hz1).drop (mem_dropSign hh hz1))

end DmlcModel.StrToNum
