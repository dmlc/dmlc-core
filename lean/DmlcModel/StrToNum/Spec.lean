/- Definitions the C14 statements are written in, besides the model. -/
import DmlcModel.StrToNum.Model
namespace DmlcModel.StrToNum
open DmlcModel DmlcModel.Gen.StrToNum

/-- `q` approximates `x ≥ 0` with relative error at most `ε` -/
structure Approx (ε q x : Rat) : Prop where
  lo : x ≤ q + x * ε
  hi : q ≤ x + x * ε

/-- smallest normal number and the overflow threshold of a format -/
def minNormal (f : Fmt) : Rat := pow2 (f.qmin + (f.prec : Int) - 1)
def ovfl (f : Fmt) : Rat := pow2 ((f.emax : Int) + 1)
/-- the margin a relative-error claim needs at both ends of the normal range -/
def δ : Rat := 1 / 10 ^ 6

/-- the tolerance of the property -/
def tol : Fmt → Rat | .F32 => 1 / 10 ^ 6 | .F64 => 1 / 10 ^ 14

def digitsNat (ds : Bytes) : Nat := ds.foldl (fun a c => a * 10 + (c.toNat - 48)) 0

end DmlcModel.StrToNum

/-! Declared here under their fixed names `Props.C14.absQ`, `.mantissaValue`, `.μ` (not in `Props/C14.lean`): files below the
property file are written in them. -/
namespace DmlcModel.Props.C14
open DmlcModel DmlcModel.StrToNum DmlcModel.Gen.StrToNum

def absQ (x : Rat) : Rat := if x < 0 then -x else x

def mantissaValue (l : Lexeme) : Rat :=
  (digitsVal l.intDigits : Rat) + (digitsVal l.fracDigits : Rat) / ((10 ^ l.fracDigits.length : Nat) : Rat)

/-- below this mantissa value more than 19 fraction digits leave too few significant digits: class `frac-leading-zeros-19`
(integer part zero and at least 12 (float) / 4 (double) leading fraction zeros) -/
def μ : Fmt → Rat | .F32 => 1 / 10 ^ 12 | .F64 => 1 / 10 ^ 4

end DmlcModel.Props.C14
