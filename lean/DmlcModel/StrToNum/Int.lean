/- The C string `cstr`; locality of `ParseFloat` (`parseFloat_local`); the integer parsers: both are `intP g` (sign, fold of the loop
   step `g`, end index) followed by their own finish; every wrap-around digit loop computes the digit value mod `M` (`fold_wrap`). -/
import DmlcModel.StrToNum.Lemmas
import DmlcModel.StrToNum.Spec
namespace DmlcModel.StrToNum
open DmlcModel DmlcModel.Gen.StrToNum

theorem mem_cstr {s : Bytes} (h : (0 : Byte) ∈ s) : (0 : Byte) ∈ cstr s := by
  induction s with
  | nil => cases h
  | cons c cs ih =>
    unfold cstr
    by_cases hc : c = 0
    · simp [hc]
    · simpa [hc] using Or.inr (ih (List.mem_of_ne_of_mem (Ne.symm hc) h))

theorem cstr_append_of_mem {pre : Bytes} (e : Bytes) (h : (0 : Byte) ∈ pre) : cstr (pre ++ e) = cstr pre := by
  induction pre with
  | nil => simp at h
  | cons c cs ih =>
    by_cases hc : c = 0
    · simp [cstr, hc]
    · simp [cstr, hc, ih (List.mem_of_ne_of_mem (Ne.symm hc) h)]

theorem cstr_append_of_not_mem {pre : Bytes} (e : Bytes) (h : (0 : Byte) ∉ pre) : cstr (pre ++ e) = pre ++ cstr e := by
  induction pre with
  | nil => rfl
  | cons c cs ih =>
    have hc : c ≠ 0 := fun hc => h (by simp [hc])
    have : (0 : Byte) ∉ cs := fun h' => h (by simp [h'])
    simp [cstr, hc, ih this]

theorem cstr_of_not_mem {s : Bytes} (h : (0 : Byte) ∉ s) : cstr s = s := by
  have := cstr_append_of_not_mem [] h
  simpa [cstr] using this

/-- inside the C string of `pre`, should `pre` hold a NUL -/
theorem parseFloat_local {z : Byte} (hz : Hard z) {f chk} {pre : Bytes} (ext : Bytes) (hm : z ∈ pre) :
    parseFloat f chk (pre ++ ext) = .ok (parseFloatCoreP f chk (cstr pre)) := by
  unfold parseFloat
  by_cases h0 : (0 : Byte) ∈ pre
  · rw [cstr_append_of_mem ext h0]
    exact parseFloatCore_ok hard0 (.refl (mem_cstr h0))
  · rw [cstr_append_of_not_mem ext h0, cstr_of_not_mem h0]
    exact parseFloatCore_ok hz ⟨hm, _, rfl⟩

theorem parseFloat_eq {f chk} {s : Bytes} (h : (0 : Byte) ∈ s) :
    parseFloat f chk s = .ok (parseFloatCoreP f chk (cstr s)) := by
  simpa using parseFloat_local hard0 [] h

def intFrontP (s : Bytes) : Bool × Nat × Bytes :=
  let nws := (s.takeWhile isSpace).length
  let s1 := s.drop nws
  let c := hd0 s1
  let nsg := if isMinus c.toNat then 1 else if isPlus c.toNat then 1 else 0
  (!isMinus c.toNat, nws + nsg, s1.drop nsg)

def intP (g : Nat → Byte → Nat) (s : Bytes) : Bool × Nat × Nat :=
  ((intFrontP s).1, (scanP isDigit g 0 (intFrontP s).2.2).1, (intFrontP s).2.1 + (scanP isDigit g 0 (intFrontP s).2.2).2)

theorem intFront_ok {z : Byte} (hh : Hard z) {s : Bytes} (hz : z ∈ s) (g : Nat → Byte → Nat) :
    intFront s = .ok (intFrontP s) ∧
    scanLoop isDigit g 0 0 (intFrontP s).2.2 = .ok (scanP isDigit g 0 (intFrontP s).2.2) := by
  have h := Rd.refl hz
  have h1 := h.drop (mem_dropTW isSpace hz hh.space)
  have h2 := (h1.drop (mem_dropSign hh h1.mem)).scan isDigit g hh.digit 0 0
  rw [Nat.zero_add] at h2
  refine ⟨?_, h2⟩
  unfold intFront
  simp only [h.scan isSpace noUnit hh.space, bind, Except.bind, Nat.zero_add, h1.hd]
  rfl

theorem parseSigned_eq {z : Byte} (hh : Hard z) {bits base : Nat} {s : Bytes} (hz : z ∈ cstr s) :
    parseSigned bits base s =
      if sBaseOk base then
        .ok (let r := intP (fun a c => sStep a base c.toNat) (cstr s)
             ((if r.1 then r.2.1 else sNegate r.2.1) % 2 ^ bits, r.2.2))
      else .error .check := by
  obtain ⟨hf, h1⟩ := intFront_ok hh hz (fun a c => sStep a base c.toNat)
  unfold parseSigned
  simp only [hf, h1, bind, Except.bind]
  cases sBaseOk base <;> rfl

/-- unlike `ParseSignedInt`, a minus sign is a `CHECK` failure and the loop step itself cuts to `bits` bits -/
theorem parseUnsigned_eq {z : Byte} (hh : Hard z) {bits base : Nat} {s : Bytes} (hz : z ∈ cstr s) :
    parseUnsigned bits base s =
      if uBaseOk base && (intP (fun a c => uStep a base c.toNat % 2 ^ bits) (cstr s)).1 then
        .ok (intP (fun a c => uStep a base c.toNat % 2 ^ bits) (cstr s)).2
      else .error .check := by
  obtain ⟨hf, h1⟩ := intFront_ok hh hz (fun a c => uStep a base c.toNat % 2 ^ bits)
  unfold parseUnsigned intP
  simp only [hf, h1, bind, Except.bind]
  cases uBaseOk base <;> cases (intFrontP (cstr s)).1 <;> rfl

theorem isDigit_range {c : Byte} (h : isDigit c = true) : 48 ≤ c.toNat ∧ c.toNat ≤ 57 := by
  simpa [isDigit, isdigit] using h

/-- the digit step of the 64-bit accumulators (`predec`, `val2`, the integer parsers) without its casts -/
theorem digitStep64 (v : Nat) {c : Nat} (hc : 48 ≤ c ∧ c ≤ 57) :
    u64 (u64 (v * 10) + u64 (sub32 c 48)) = (v * 10 + (c - 48)) % 18446744073709551616 := by
  simp only [u64, sub32]; omega

/-- serves `predec`, `expon` and the accumulators of the integer parsers -/
theorem fold_wrap {g : Nat → Byte → Nat} {M : Nat}
    (hg : ∀ a c, 48 ≤ c.toNat ∧ c.toNat ≤ 57 → g a c = (a * 10 + (c.toNat - 48)) % M)
    (ds : Bytes) (hd : ∀ c ∈ ds, isDigit c = true) : ds.foldl g 0 = digitsNat ds % M := by
  have h : ∀ (ds : Bytes), (∀ c ∈ ds, isDigit c = true) → ∀ a : Nat,
      ds.foldl g (a % M) = (ds.foldl (fun a c => a * 10 + (c.toNat - 48)) a) % M := by
    intro ds
    induction ds with
    | nil => intro _ a; rfl
    | cons c cs ih =>
      intro hd a
      rw [List.foldl_cons, List.foldl_cons, hg _ c (isDigit_range (hd c (by simp))), Nat.add_mod, Nat.mul_mod,
        Nat.mod_mod, ← Nat.mul_mod, ← Nat.add_mod]
      exact ih (fun x hx => hd x (by simp [hx])) _
  simpa [digitsNat] using h ds hd 0

theorem fold_uStep (bits : Nat) (hb : bits ≤ 64) (ds : Bytes) (hd : ∀ c ∈ ds, isDigit c = true) :
    ds.foldl (fun (a : Nat) c => uStep a 10 c.toNat % 2 ^ bits) 0 = digitsNat ds % 2 ^ bits :=
  fold_wrap (fun a c hc => by
    rw [uStep, digitStep64 a hc]
    exact Nat.mod_mod_of_dvd _ (Nat.pow_dvd_pow 2 hb)) ds hd

theorem fold_sStep (ds : Bytes) (hd : ∀ c ∈ ds, isDigit c = true) :
    ds.foldl (fun (a : Nat) c => sStep a 10 c.toNat) 0 = digitsNat ds % 18446744073709551616 :=
  fold_wrap (fun a _ hc => digitStep64 a hc) ds hd

theorem not_mem_zero_of_all {p : Byte → Bool} (hp : p 0 = false) {a : Bytes} (ha : ∀ c ∈ a, p c = true) : (0 : Byte) ∉ a := by
  intro h; have := ha 0 h; rw [hp] at this; exact Bool.noConfusion this

theorem hd0_cstr (s : Bytes) : hd0 (cstr s) = hd0 s := by
  cases s with
  | nil => rfl
  | cons c cs => unfold cstr; split <;> simp_all [hd0]

theorem intFrontP_shape {ws sg : Bytes} {d : Byte} {tl : Bytes}
    (hws : ∀ c ∈ ws, isSpace c = true) (hsg : sg = [] ∨ sg = [43] ∨ sg = [45]) (hd : isDigit d = true) :
    intFrontP (ws ++ (sg ++ d :: tl)) = (decide (sg ≠ [45]), ws.length + sg.length, d :: tl) := by
  have hdr := isDigit_range hd
  have key : ∀ (b : Byte) (t : Bytes), isSpace b = false → (ws ++ b :: t).takeWhile isSpace = ws := fun b t hb => by
    rw [List.takeWhile_append_of_pos hws]; simp [hb]
  have hdsp : isSpace d = false := by simp [isSpace, isspace]; omega
  have hdm : isMinus d.toNat = false := by simp [isMinus]; omega
  have hdp : isPlus d.toNat = false := by simp [isPlus]; omega
  unfold intFrontP
  rcases hsg with rfl | rfl | rfl
  · simp [key d tl hdsp, hd0, hdm, hdp]
  · simp [key 43 _ (by decide), hd0, show isMinus 43 = false by decide, show isPlus 43 = true by decide]
  · simp [key 45 _ (by decide), hd0, show isMinus 45 = true by decide]

end DmlcModel.StrToNum
