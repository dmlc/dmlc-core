/- Only the first 19 fraction digits are used: what that loses (`trunc_bounds`). -/
import DmlcModel.StrToNum.Value
namespace DmlcModel.StrToNum
open DmlcModel DmlcModel.Gen.StrToNum

theorem trunc_bounds (ds : List Nat) (hd : Dig ds) :
    (((fracL ds).1 : Nat) : Rat) / (((fracL ds).2.1 : Nat) : Rat) ≤ (digitsVal ds : Rat) / ((10 ^ ds.length : Nat) : Rat) ∧
    (digitsVal ds : Rat) / ((10 ^ ds.length : Nat) : Rat) ≤
      (((fracL ds).1 : Nat) : Rat) / (((fracL ds).2.1 : Nat) : Rat) +
        (if ds.length ≤ 19 then 0 else 1 / ((10 ^ 19 : Nat) : Rat)) := by
  by_cases hl' : ds.length ≤ 19
  · simp only [fracL, List.take_of_length_le hl', Nat.min_eq_left hl', if_pos hl', Rat.add_zero]
    exact ⟨Rat.le_refl, Rat.le_refl⟩
  have hl : 19 ≤ ds.length := by omega
  simp only [fracL, Nat.min_eq_right hl, if_neg hl']
  have hlen : ds.length = 19 + (ds.drop 19).length := by simp; omega
  have hval : digitsVal ds = digitsVal (ds.take 19) * 10 ^ (ds.drop 19).length + digitsVal (ds.drop 19) := by
    have := digitsVal_append (ds.take 19) (ds.drop 19)
    rwa [List.take_append_drop] at this
  have hB := digitsVal_lt (ds.drop 19) (Dig_drop hd 19)
  generalize digitsVal (ds.take 19) = V at *
  generalize digitsVal (ds.drop 19) = B at *
  generalize (ds.drop 19).length = k at *
  have hpow : (10 : Nat) ^ ds.length = 10 ^ 19 * 10 ^ k := by rw [hlen, Nat.pow_add]
  rw [hpow, hval]
  have hW : (0 : Rat) < ((10 ^ 19 : Nat) : Rat) := pow10_pos 19
  have hT : (0 : Rat) < ((10 ^ k : Nat) : Rat) := pow10_pos k
  have c1 : ((10 ^ 19 * 10 ^ k : Nat) : Rat) = ((10 ^ 19 : Nat) : Rat) * ((10 ^ k : Nat) : Rat) := Rat.natCast_mul _ _
  have c2 : ((V * 10 ^ k + B : Nat) : Rat) = (V : Rat) * ((10 ^ k : Nat) : Rat) + (B : Rat) := by
    rw [Rat.natCast_add, Rat.natCast_mul]
  have hB0 : (0 : Rat) ≤ (B : Rat) := Rat.natCast_nonneg
  have hBT : (B : Rat) ≤ ((10 ^ k : Nat) : Rat) := Rat.natCast_le_natCast.mpr (by omega)
  rw [c1, c2]
  generalize ((10 ^ 19 : Nat) : Rat) = W at *
  generalize ((10 ^ k : Nat) : Rat) = T at *
  generalize (V : Rat) = v at *
  generalize (B : Rat) = b at *
  have hWT : 0 < W * T := Rat.mul_pos hW hT
  have e1 : v / W * (W * T) = v * T := by
    have := Rat.div_mul_cancel (a := v) (b := W) (by grind)
    calc v / W * (W * T) = (v / W * W) * T := by grind
      _ = v * T := by rw [this]
  have e2 : (v * T + b) / (W * T) * (W * T) = v * T + b := Rat.div_mul_cancel (by grind)
  have e3 : 1 / W * (W * T) = T := by
    have := Rat.div_mul_cancel (a := (1 : Rat)) (b := W) (by grind)
    calc 1 / W * (W * T) = (1 / W * W) * T := by grind
      _ = T := by rw [this]; grind
  constructor
  · apply Rat.le_of_mul_le_mul_right _ hWT
    rw [e1, e2]; grind
  · apply Rat.le_of_mul_le_mul_right _ hWT
    rw [Rat.add_mul, e1, e2, e3]; grind

end DmlcModel.StrToNum
