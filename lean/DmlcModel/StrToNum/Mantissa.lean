/- The mantissa `(FloatType)predec + (FloatType)((double)val2 / (double)pow10)` within 10 units of round-off. -/
import DmlcModel.StrToNum.Analysis
namespace DmlcModel.StrToNum
open DmlcModel DmlcModel.Gen.StrToNum

theorem frac_mid {V W : Nat} (hW : W ≤ 10 ^ 19) (hV : V < W) : Mid (-64) 0 ((V : Rat) / (W : Rat)) := by
  have h19 := pow10_19
  have hWpos : (0 : Rat) < (W : Rat) := Rat.natCast_pos.mpr (by omega)
  have hVW : (V : Rat) ≤ (W : Rat) := Rat.natCast_le_natCast.mpr (by omega)
  have hc : (V : Rat) / (W : Rat) * (W : Rat) = (V : Rat) := Rat.div_mul_cancel (Rat.ne_of_gt hWpos)
  refine ⟨?_, Rat.le_of_mul_le_mul_right (by rw [hc, pow2_zero]; grind) hWpos⟩
  rcases (natCast_mid (n := V) (k := 64) (by omega)).1 with h0 | h1
  · exact Or.inl (by rw [h0, zero_div'])
  · have e : pow2 (-64) * pow2 64 = 1 := by rw [← pow2_add]; rfl
    have := Rat.mul_le_mul_of_nonneg_left (natCast_mid (n := W) (k := 64) (by omega)).2 (Rat.le_of_lt (pow2_pos (-64)))
    rw [pow2_zero] at h1
    exact Or.inr (Rat.le_of_mul_le_mul_right (by rw [hc]; grind) hWpos)

/-- relative error of the quotient of two doubles rounded from integers, and of that quotient rounded once more -/
def εq : Rat := uf .F64 + 2 * uf .F64 + 2 * uf .F64 * uf .F64
def εq' : Rat := uf .F64 + εq + uf .F64 * εq

theorem eps_frac (f : Fmt) : 0 ≤ εq ∧ εq ≤ 1 / 2 ∧ 0 ≤ εq' ∧ εq' ≤ 1 / 2 ∧ uf f + εq' + uf f * εq' ≤ 8 * uf f := by
  cases f <;> decide +kernel

/-- the fraction term `(FloatType)((double)val2 / (double)pow10)` -/
theorem fracTerm_approx (f : Fmt) (V W : Nat) (hW : W ≤ 10 ^ 19) (hV : V < W) :
    ∃ d, (Mag.div .F64 (rnd .F64 (V : Rat)) (rnd .F64 (W : Rat))).cast f = .fin d ∧
      Approx (8 * uf f) d ((V : Rat) / (W : Rat)) := by
  have hWlt : W < 18446744073709551616 := by have := pow10_19; omega
  obtain ⟨w, hw, aW⟩ := rnd_nat .F64 W hWlt
  obtain ⟨v, hv, aV⟩ := rnd_nat .F64 V (by omega)
  have hu := uf_le_half .F64
  have hup := Rat.le_of_lt (uf_pos .F64)
  have hWpos : (0 : Rat) < (W : Rat) := Rat.natCast_pos.mpr (by omega)
  have hwpos : 0 < w := by have := (aW.within2 (Rat.le_of_lt hWpos) hu).2; grind
  obtain ⟨e1, e2, e3, e4, e5⟩ := eps_frac f
  have mQ := frac_mid hW hV
  have aQ : Approx εq (v / w) ((V : Rat) / (W : Rat)) := Approx.div aV aW Rat.natCast_nonneg hWpos hup (by grind) hup hu
  obtain ⟨d1, hd1, aD1⟩ := rnd_mid .F64 ((aQ.mid e2 mQ).mono (by decide) (by decide))
  have t1 : Approx εq' d1 ((V : Rat) / (W : Rat)) := Approx.trans aD1 aQ mQ.nonneg hup e1
  obtain ⟨d, hd, aD⟩ := rnd_mid f ((t1.mid e4 mQ).mono (by decide) (by decide))
  refine ⟨d, ?_, (Approx.trans aD t1 mQ.nonneg (Rat.le_of_lt (uf_pos f)) e3).mono mQ.nonneg e5⟩
  rw [hv, hw, Mag.div_fin _ _ (Rat.ne_of_gt hwpos), hd1, Mag.cast_fin, hd]

theorem eps_mant (f : Fmt) : uf f ≤ 8 * uf f ∧ uf f ≤ 10 * uf f ∧ 8 * uf f ≤ 1 / 2 ∧
    uf f + 8 * uf f + uf f * (8 * uf f) ≤ 10 * uf f := by
  cases f <;> decide +kernel

theorem mantissa_approx (f : Fmt) (P V W : Nat) (hP : P < 18446744073709551616) (hW : W ≤ 10 ^ 19)
    (hV : V < W) (hasDot : Bool) :
    ∃ q, mantissaPVW f P hasDot V W = .fin q ∧
      Approx (10 * uf f) q ((P : Rat) + (if hasDot then (V : Rat) / (W : Rat) else 0)) := by
  obtain ⟨q0, hq0, aP⟩ := rnd_nat f P hP
  obtain ⟨e1, e2, e3, e4⟩ := eps_mant f
  have hPr : (0 : Rat) ≤ (P : Rat) := Rat.natCast_nonneg
  unfold mantissaPVW
  cases hasDot with
  | false =>
    refine ⟨q0, by simpa using hq0, ?_⟩
    simp only [Bool.false_eq_true, if_false, Rat.add_zero]
    exact aP.mono hPr e2
  | true =>
    obtain ⟨d, hd, aD⟩ := fracTerm_approx f V W hW hV
    have mS := ((natCast_mid (k := 64) hP).mono (by decide) (Int.le_refl _)).add ((frac_mid hW hV).mono (Int.le_refl _) (by decide))
    have aS : Approx (8 * uf f) (q0 + d) ((P : Rat) + (V : Rat) / (W : Rat)) := (aP.mono hPr e1).add aD
    obtain ⟨q, hq, aQ⟩ := rnd_mid f ((aS.mid e3 mS).mono (by decide) (by decide))
    have hu := uf_pos f
    refine ⟨q, by simp only [if_true, hq0, hd, Mag.add_fin, hq],
      (Approx.trans aQ aS mS.nonneg (Rat.le_of_lt hu) (by grind)).mono mS.nonneg e4⟩

/-- whatever the digits: `predec` and `val2` are 64-bit quantities -/
theorem mantissa_fin (f : Fmt) (ip fp : List Nat) (hasDot : Bool) (hfp : Dig fp) :
    ∃ q, mantissaL f ip hasDot fp = .fin q := by
  have hb := fracL_bounds fp hfp
  obtain ⟨q, hq, _⟩ := mantissa_approx f (predecL ip) (fracL fp).1 (fracL fp).2.1 (predecL_lt ip) hb.2.1 hb.2.2 hasDot
  exact ⟨q, hq⟩

end DmlcModel.StrToNum
