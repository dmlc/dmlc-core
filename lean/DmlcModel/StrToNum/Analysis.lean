/- Where the error analysis starts: the accumulators without wrap-around; one rounding (`rnd_mid`: zero or a number in
   `[2^-120, 2^120]` rounds to a finite value with relative error `2^-p`, in both formats). -/
import DmlcModel.StrToNum.Value
import DmlcModel.StrToNum.Calc
namespace DmlcModel.StrToNum
open DmlcModel DmlcModel.Gen.StrToNum

theorem predecL_exact (ds : List Nat) (hd : Dig ds) (hl : ds.length ≤ 19) : predecL ds = digitsVal ds := by
  have := digitsVal_lt ds hd
  have := Nat.pow_le_pow_right (n := 10) (by decide) hl
  have := pow10_19
  exact Nat.mod_eq_of_lt (by omega)

theorem predecL_lt (ds : List Nat) : predecL ds < 18446744073709551616 := Nat.mod_lt _ (by decide)

/-- leading zeros allowed: the bound is on the value of the field, not on its length -/
theorem exponL_exact (ds : List Nat) (h : digitsVal ds < 4294967296) : exponL ds = digitsVal ds := Nat.mod_eq_of_lt h

theorem fracL_bounds (ds : List Nat) (hd : Dig ds) :
    1 ≤ (fracL ds).2.1 ∧ (fracL ds).2.1 ≤ 10 ^ 19 ∧ (fracL ds).1 < (fracL ds).2.1 := by
  refine ⟨Nat.one_le_pow _ _ (by decide), Nat.pow_le_pow_right (by decide) (by omega), ?_⟩
  have := digitsVal_lt _ (Dig_take hd 19)
  rwa [List.length_take, Nat.min_comm] at this

/-- unit round-off `2^-p` -/
def uf (f : Fmt) : Rat := pow2 (-(f.prec : Int))

theorem uf_pos (f : Fmt) : 0 < uf f := pow2_pos _
theorem uf_le_half (f : Fmt) : uf f ≤ 1 / 2 := by
  have h : pow2 (-(f.prec : Int)) ≤ pow2 (-1) := pow2_mono (by cases f <;> simp [Fmt.prec])
  have : pow2 (-1) = 1 / 2 := by decide +kernel
  unfold uf; rw [this] at h; exact h

theorem rnd_approx (f : Fmt) {x : Rat} (hx : 0 < x) (hn : pow2 (f.qmin + (f.prec : Int) - 1) ≤ x)
    (hb : x + x * uf f < pow2 ((f.emax : Int) + 1)) : ∃ q, rnd f x = .fin q ∧ Approx (uf f) q x := by
  have hr := rndQ_rel f hx hn
  rw [rnd_pos_eq f hx, if_neg (by unfold uf at hb; grind)]
  exact ⟨_, rfl, hr.2, hr.1⟩

theorem rnd_mid (f : Fmt) {x : Rat} (h : Mid (-120) 120 x) : ∃ q, rnd f x = .fin q ∧ Approx (uf f) q x := by
  rcases h.1 with h0 | h1
  · subst h0
    exact ⟨0, rnd_nonpos f Rat.le_refl, by grind, by grind⟩
  · have hx : 0 < x := by have := pow2_pos (-120); grind
    have hn : pow2 (f.qmin + (f.prec : Int) - 1) ≤ x := by
      have : pow2 (f.qmin + (f.prec : Int) - 1) ≤ pow2 (-120) := pow2_mono (by cases f <;> simp [Fmt.prec, Fmt.qmin])
      grind
    have hxu : x * uf f ≤ x * (1 / 2) := Rat.mul_le_mul_of_nonneg_left (uf_le_half f) (Rat.le_of_lt hx)
    have e : pow2 121 = pow2 120 * 2 := pow2_succ 120
    have : pow2 121 ≤ pow2 ((f.emax : Int) + 1) := pow2_mono (by cases f <;> simp [Fmt.emax])
    exact rnd_approx f hx hn (by grind [h.2])

theorem natCast_mid {n k : Nat} (h : n < 2 ^ k) : Mid 0 k (n : Rat) := by
  refine ⟨?_, by rw [pow2_nat]; exact Rat.natCast_le_natCast.mpr (Nat.le_of_lt h)⟩
  rcases Nat.eq_zero_or_pos n with rfl | h1
  · exact Or.inl rfl
  · exact Or.inr (by rw [pow2_zero]; simpa using Rat.natCast_le_natCast.mpr h1)

theorem rnd_nat (f : Fmt) (n : Nat) (hn : n < 18446744073709551616) :
    ∃ q, rnd f (n : Rat) = .fin q ∧ Approx (uf f) q (n : Rat) :=
  rnd_mid f ((natCast_mid (k := 64) hn).mono (by decide) (by decide))

end DmlcModel.StrToNum
