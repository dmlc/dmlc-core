/- The final step `value * 10^e` / `value / 10^e`: inside the normal range with margin `δ` neither range test fires, and one more
   rounding keeps the value within `tol` (`expL_approx`). -/
import DmlcModel.StrToNum.ScaleTable
namespace DmlcModel.StrToNum
open DmlcModel DmlcModel.Gen.StrToNum

theorem minNormal_pos (f : Fmt) : 0 < minNormal f := pow2_pos _

theorem final_round (f : Fmt) {x v ε : Rat} (hv : minNormal f * (1 + δ) ≤ v) (hvP : v * (1 + δ) ≤ ovfl f)
    (ax : Approx ε x v) (hε0 : 0 ≤ ε) (N1 : 1 ≤ (1 + δ) * (1 - ε)) (N2 : (1 + ε) * (1 + uf f) < 1 + δ) :
    ∃ q, rnd f x = .fin q ∧ Approx (uf f + ε + uf f * ε) q v := by
  have hL := minNormal_pos f
  have hδ : (0 : Rat) < δ := by decide +kernel
  have hu := uf_pos f
  have hvpos : 0 < v := by
    have : 0 < minNormal f * (1 + δ) := Rat.mul_pos hL (by grind)
    grind
  have hε1 : ε < 1 := by
    -- from N2: (1 + ε)(1 + u) < 1 + δ < 2
    have : 0 ≤ ε * uf f := Rat.mul_nonneg hε0 (Rat.le_of_lt hu)
    have : δ < 1 := by decide +kernel
    grind
  have l := ax.lo; have h := ax.hi
  -- lower bound: x ≥ v (1 - ε) ≥ L (1 + δ)(1 - ε) ≥ L
  have s1 : minNormal f * (1 + δ) * (1 - ε) ≤ v * (1 - ε) := Rat.mul_le_mul_of_nonneg_right hv (by grind)
  have s2 : minNormal f * 1 ≤ minNormal f * ((1 + δ) * (1 - ε)) := Rat.mul_le_mul_of_nonneg_left N1 (Rat.le_of_lt hL)
  have hxL : minNormal f ≤ x := by grind
  have hxpos : 0 < x := by grind
  -- upper bound: x (1 + u) ≤ v (1 + ε)(1 + u) < v (1 + δ) ≤ P
  have s3 : x * (1 + uf f) ≤ (v + v * ε) * (1 + uf f) := Rat.mul_le_mul_of_nonneg_right h (by grind)
  have s4 : v * ((1 + ε) * (1 + uf f)) < v * (1 + δ) := Rat.mul_lt_mul_of_pos_left N2 hvpos
  have hxP : x + x * uf f < ovfl f := by grind
  obtain ⟨q, hq, aq⟩ := rnd_approx f hxpos hxL hxP
  exact ⟨q, hq, Approx.trans aq ax (Rat.le_of_lt hvpos) (Rat.le_of_lt hu) hε0⟩

/-- relative error admitted for the truncation of fraction digits beyond the 19th -/
def εt : Fmt → Rat | .F32 => 1 / 10 ^ 7 | .F64 => 1 / 10 ^ 15
/-- error of the mantissa: 10 units of round-off composed with the truncation -/
def εm (f : Fmt) : Rat := 10 * uf f + εt f + 10 * uf f * εt f
/-- error of the mantissa divided by the scaling factor `εm ⊘ kS·u` (their product is within less) -/
def εdiv (f : Fmt) : Rat := εm f + 2 * ((kS f : Rat) * uf f) + 2 * εm f * ((kS f : Rat) * uf f)

structure NumFacts (f : Fmt) : Prop where
  div0 : 0 ≤ εdiv f
  divLo : 1 ≤ (1 + δ) * (1 - εdiv f)
  divHi : (1 + εdiv f) * (1 + uf f) < 1 + δ
  divTol : uf f + εdiv f + uf f * εdiv f ≤ tol f
  mTol : εm f ≤ tol f
  sHalf : (kS f : Rat) * uf f ≤ 1 / 2
  s0 : 0 ≤ (kS f : Rat) * uf f
  m1 : εm f ≤ 1
  m0 : 0 ≤ εm f

theorem num_facts (f : Fmt) : NumFacts f := by
  cases f <;> constructor <;> decide +kernel

/-! the `expon == kMaxExponent` significand test does not fire inside the normal range with margin -/

def KM (f : Fmt) : Rat := match kMaxSignificand f with | .fin q => q | _ => 0
def KN (f : Fmt) : Rat := match kNegMaxSignificand f with | .fin q => q | _ => 0
theorem kMax_eq (f : Fmt) : kMaxSignificand f = .fin (KM f) := by cases f <;> decide +kernel
theorem kNeg_eq (f : Fmt) : kNegMaxSignificand f = .fin (KN f) := by cases f <;> decide +kernel

def Tmax (f : Fmt) : Rat := ((10 ^ kMaxExponent f : Nat) : Rat)

theorem edge_facts (f : Fmt) :
    ovfl f * (1 + εm f) ≤ KM f * (Tmax f * (1 + δ)) ∧
    KN f ≤ minNormal f * (1 + δ) * Tmax f * (1 - εm f) ∧ 0 < Tmax f := by
  cases f <;> decide +kernel

theorem edge_hi (f : Fmt) {qm m : Rat} (am : Approx (εm f) qm m)
    (hvP : m * Tmax f * (1 + δ) ≤ ovfl f) : qm ≤ KM f := by
  have ef := edge_facts f
  have hT := ef.2.2
  have hδ : (0 : Rat) < δ := by decide +kernel
  have hc : 0 < Tmax f * (1 + δ) := Rat.mul_pos hT (by grind)
  have h := am.hi
  apply Rat.le_of_mul_le_mul_right _ hc
  -- with c = T (1+δ):  qm c ≤ m (1 + εm) c = (m T (1+δ)) (1 + εm) ≤ ovfl (1 + εm) ≤ KM c
  have he0 := (num_facts f).m0
  have s1 : qm * (Tmax f * (1 + δ)) ≤ (m + m * εm f) * (Tmax f * (1 + δ)) :=
    Rat.mul_le_mul_of_nonneg_right h (Rat.le_of_lt hc)
  have s2 : m * Tmax f * (1 + δ) * (1 + εm f) ≤ ovfl f * (1 + εm f) :=
    Rat.mul_le_mul_of_nonneg_right hvP (by grind)
  grind

theorem edge_lo (f : Fmt) {qm m v : Rat} (am : Approx (εm f) qm m) (hvT : v * Tmax f = m)
    (hv : minNormal f * (1 + δ) ≤ v) : KN f ≤ qm := by
  have ef := edge_facts f
  have hT := ef.2.2
  have nf := num_facts f
  have l := am.lo
  -- m = v T ≥ minNormal (1+δ) T ;  qm ≥ m (1 - εm)
  have s1 : minNormal f * (1 + δ) * Tmax f ≤ v * Tmax f := Rat.mul_le_mul_of_nonneg_right hv (Rat.le_of_lt hT)
  have s2 : minNormal f * (1 + δ) * Tmax f * (1 - εm f) ≤ m * (1 - εm f) := by
    rw [← hvT]
    exact Rat.mul_le_mul_of_nonneg_right s1 (by have := nf.m1; grind)
  grind

/-- `m · 10^E` or `m / 10^E`: what an exponent part does to the mantissa -/
def scaled (eneg : Bool) (m T : Rat) : Rat := if eneg then m / T else m * T

theorem scaled_nonneg (eneg : Bool) {m T : Rat} (hm : 0 ≤ m) (hT : 0 < T) : 0 ≤ scaled eneg m T := by
  cases eneg
  · exact Rat.mul_nonneg hm (Rat.le_of_lt hT)
  · exact div_nonneg' hm hT

/-- the quotient bound covers the product too -/
theorem Approx.scaled {a b p q x y : Rat} (eneg : Bool) (h1 : Approx a p x) (h2 : Approx b q y) (hx : 0 ≤ x) (hy : 0 < y)
    (ha0 : 0 ≤ a) (ha : a ≤ 1) (hb0 : 0 ≤ b) (hb : b ≤ 1 / 2) :
    Approx (a + 2 * b + 2 * a * b) (scaled eneg p q) (scaled eneg x y) := by
  cases eneg with
  | true => exact Approx.div h1 h2 hx hy ha0 ha hb0 hb
  | false =>
    have := Rat.mul_nonneg ha0 hb0
    exact (Approx.mul h1 h2 hx (Rat.le_of_lt hy) ha0 ha hb0 (by grind)).mono
      (Rat.mul_nonneg hx (Rat.le_of_lt hy)) (by grind)

theorem expL_approx (f : Fmt) (chk neg : Bool) {qm m : Rat} (am : Approx (εm f) qm m) (hm0 : 0 ≤ m)
    (eneg : Bool) (eds : List Nat) (hEk : exponL eds ≤ kMaxExponent f)
    (hv : minNormal f * (1 + δ) ≤ scaled eneg m ((10 ^ exponL eds : Nat) : Rat))
    (hvP : scaled eneg m ((10 ^ exponL eds : Nat) : Rat) * (1 + δ) ≤ ovfl f) :
    ∃ q, expL f chk neg (.fin qm) eneg eds = (⟨neg, .fin q⟩, false) ∧
      Approx (tol f) q (scaled eneg m ((10 ^ exponL eds : Nat) : Rat)) := by
  have nf := num_facts f
  have hT := pow10_pos (exponL eds)
  obtain ⟨sc, hsc, asc⟩ := scale_approx f (exponL eds) hEk
  have hv0 : 0 < scaled eneg m ((10 ^ exponL eds : Nat) : Rat) := by
    have : 0 < minNormal f * (1 + δ) := Rat.mul_pos (minNormal_pos f) (by decide +kernel)
    grind
  -- the two range tests do not fire
  have h1 : exponTooBig (exponL eds) (kMaxExponent f) = false := by
    simp only [exponTooBig]; simp; omega
  have hedge : (exponIsMax (exponL eds) (kMaxExponent f) &&
      edgeOutM eneg (.fin qm) (kMaxSignificand f) (kNegMaxSignificand f)) = false := by
    by_cases hE : exponL eds = kMaxExponent f
    · rw [kMax_eq, kNeg_eq]
      simp only [edgeOutM, edgeOut]
      have hTm : ((10 ^ exponL eds : Nat) : Rat) = Tmax f := by rw [hE]; rfl
      rw [hTm] at hv hvP
      cases eneg with
      | false =>
        have := edge_hi f am hvP
        have : ¬ (qm > KM f) := by grind
        simp [this]
      | true =>
        have hTne : Tmax f ≠ 0 := by have := (edge_facts f).2.2; grind
        have := edge_lo f am (Rat.div_mul_cancel hTne) hv
        have : ¬ (qm < KN f) := by grind
        simp [this]
    · have : exponIsMax (exponL eds) (kMaxExponent f) = false := by
        simp only [exponIsMax]; simpa using hE
      simp [this]
  have hsc0 : sc ≠ 0 := by
    have l := asc.lo
    have : ((10 ^ exponL eds : Nat) : Rat) * ((kS f : Rat) * uf f) ≤ ((10 ^ exponL eds : Nat) : Rat) * (1 / 2) :=
      Rat.mul_le_mul_of_nonneg_left nf.sHalf (Rat.le_of_lt hT)
    grind
  obtain ⟨q, hq, aq⟩ := final_round f hv hvP (Approx.scaled eneg am asc hm0 hT nf.m0 nf.m1 nf.s0 nf.sHalf)
    nf.div0 nf.divLo nf.divHi
  refine ⟨q, ?_, aq.mono (Rat.le_of_lt hv0) nf.divTol⟩
  have hop : (if eneg then Mag.div f (.fin qm) (.fin sc) else Mag.mul f (.fin qm) (.fin sc)) = .fin q := by
    cases eneg <;> simpa [Mag.div_fin _ _ hsc0, Mag.mul_fin, scaled] using hq
  unfold expL
  simp only [h1, Bool.false_and, Bool.false_eq_true, if_false, hedge, hsc, hop]
  simp

end DmlcModel.StrToNum
