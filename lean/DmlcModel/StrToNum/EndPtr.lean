/- ParseFloat by the grammar: the pure specification is `resOf (scanNum t)` (`parseFloatCoreP_eq`): value and range flag are
   `evalLex` of the lexeme, the end index is the length of the numeric prefix.  The code decides by bounded look-ahead, the
   grammar by maximal munch; `takeWhile_ne_nil_eq_hd0` is the bridge. -/
import DmlcModel.StrToNum.Value
namespace DmlcModel.StrToNum
open DmlcModel DmlcModel.Gen.StrToNum

/-! the generated predicates as tests on the byte: these stop compiling when the C++ tests change -/
theorem byte_beq (c k : Byte) : (c.toNat == k.toNat) = (c == k) := by
  rw [Bool.eq_iff_iff]; simp [UInt8.toNat_inj]
theorem isMinus_spec (c : Byte) : isMinus c.toNat = (c == 45) := byte_beq c 45
theorem isPlus_spec (c : Byte) : isPlus c.toNat = (c == 43) := byte_beq c 43
theorem isDot_spec (c : Byte) : isDot c.toNat = (c == 46) := byte_beq c 46
theorem isLParen_spec (c : Byte) : isLParen c.toNat = (c == 40) := byte_beq c 40
theorem isRParen_spec (c : Byte) : isRParen c.toNat = (c == 41) := byte_beq c 41
theorem isSuffix_spec (c : Byte) : isSuffix c.toNat = (c == 102 || c == 70) := by
  simp only [isSuffix, ← byte_beq]; rfl
theorem isSuffixRange_eq : isSuffixRange = isSuffix := rfl
theorem isExpMarker_spec (c : Byte) : isExpMarker c.toNat = (c == 101 || c == 69) := by
  simp only [isExpMarker, ← byte_beq]; rfl
theorem nanBody_spec : (fun b : Byte => nanBodyChar b.toNat) = isNanBody := by
  funext b
  simp only [nanBodyChar, isNanBody, isDigit, isAlpha, ← byte_beq]; rfl
theorem expLookahead_spec (c1 c2 : Byte) :
    expLookahead c1.toNat c2.toNat = (isDigit c1 || ((c1 == 45 || c1 == 43) && isDigit c2)) := by
  simp only [expLookahead, isDigit, ← byte_beq]; rfl
theorem dotTaken_spec (h : Bool) (c1 : Byte) : dotTaken h c1.toNat = (h || isDigit c1) := rfl

theorem drop_takeWhile_length (p : Byte → Bool) (s : Bytes) : s.drop (s.takeWhile p).length = s.dropWhile p := by
  induction s with
  | nil => rfl
  | cons c cs ih => by_cases h : p c = true <;> simp [h, ih]

theorem sign_spec (s1 : Bytes) :
    isMinus (hd0 s1).toNat = (signPart s1).1 ∧
    (if isMinus (hd0 s1).toNat then 1 else if isPlus (hd0 s1).toNat then 1 else 0) = (signPart s1).2 := by
  cases s1 with
  | nil => exact ⟨rfl, rfl⟩
  | cons c cs =>
    simp only [hd0, signPart, isMinus_spec, isPlus_spec, beq_iff_eq]
    split
    · simp [*]
    · split <;> simp [*]

theorem suf_spec (r : Bytes) : (if isSuffix (hd0 r).toNat then 1 else 0) = sufLen r := by
  cases r with
  | nil => rfl
  | cons c cs => simp [hd0, sufLen, isSuffix_spec]

theorem nanParen_spec (rest : Bytes) : parseNanParenP rest = nanParenLen rest := by
  cases rest with
  | nil => rfl
  | cons c r =>
    simp only [parseNanParenP, nanParenLen, hd0, isLParen_spec, isRParen_spec, beq_iff_eq, nanBody_spec,
      List.drop_succ_cons, List.drop_zero, Nat.add_comm 1, drop_takeWhile_length]
    split
    · cases r.dropWhile isNanBody <;> simp
    · rfl

def mkRes (vb : FVal × Bool) (n : Nat) : PRes := ⟨vb.1, n, vb.2⟩

theorem mkRes_ite {c : Prop} [Decidable c] (x y : FVal × Bool) (n : Nat) :
    mkRes (if c then x else y) n = if c then mkRes x n else mkRes y n := apply_ite (mkRes · n) c x y

theorem parseExponentP_eq (f : Fmt) (chk sign : Bool) (v : Mag) (pos : Nat) (m : Byte) (r : Bytes) :
    parseExponentP f chk sign v pos (m :: r) (hd0 r) =
      mkRes (expL f chk (!sign) v (signPart r).1 (((r.drop (signPart r).2).takeWhile isDigit).map digitOf))
        (pos + 1 + (signPart r).2 + ((r.drop (signPart r).2).takeWhile isDigit).length +
          sufLen ((r.drop (signPart r).2).drop ((r.drop (signPart r).2).takeWhile isDigit).length)) := by
  have hs := sign_spec r
  unfold parseExponentP rangeReturnP scanP expL
  simp only [hs.2]
  simp only [hs.1, Nat.add_comm 1 (signPart r).2, List.drop_succ_cons, isSuffixRange_eq, suf_spec,
    expon_fold _ (takeWhile_forall isDigit _), mkRes_ite]
  rfl

/-- the grammar's maximal munch finds a digit exactly when the code's look-ahead byte is one -/
theorem takeWhile_ne_nil_eq_hd0 (s : Bytes) : decide (s.takeWhile isDigit ≠ []) = isDigit (hd0 s) := by
  cases s with
  | nil => rfl
  | cons c cs => by_cases h : isDigit c = true <;> simp [h, hd0]

/-- `r` = the bytes after the exponent marker -/
theorem look_spec (r : Bytes) :
    expLookahead (hd0 r).toNat (hdIfP (isMinus (hd0 r).toNat || isPlus (hd0 r).toNat) (r.drop 1)).toNat =
      decide ((r.drop (signPart r).2).takeWhile isDigit ≠ []) := by
  rw [expLookahead_spec, takeWhile_ne_nil_eq_hd0, isMinus_spec, isPlus_spec]
  cases r with
  | nil => rfl
  | cons c cs =>
    simp only [hd0, signPart, hdIfP, List.drop_succ_cons, List.drop_zero]
    by_cases h1 : c = 45
    · subst h1; simp [show isDigit 45 = false by decide]
    · by_cases h2 : c = 43
      · subst h2; simp [show isDigit 43 = false by decide]
      · simp [h1, h2]

theorem parseTailP_eq (f : Fmt) (chk sign : Bool) (v : Mag) (pos : Nat) (rest : Bytes) :
    parseTailP f chk sign v pos rest =
      mkRes (match (expPart rest).1 with
             | none => (⟨!sign, v⟩, false)
             | some (eneg, eds) => expL f chk (!sign) v eneg eds)
        (pos + (expPart rest).2 + sufLen (rest.drop (expPart rest).2)) := by
  cases rest with
  | nil => rfl
  | cons m r =>
    have h0 : hd0 (m :: r) = m := rfl
    have hsuf := suf_spec (m :: r)
    simp only [parseTailP, h0, List.drop_succ_cons, List.drop_zero, expPart, look_spec r, isExpMarker_spec,
      Bool.or_eq_true, beq_iff_eq, decide_eq_true_eq] at hsuf ⊢
    rw [hsuf]
    by_cases hm : m = 101 ∨ m = 69
    · by_cases hl : (r.drop (signPart r).2).takeWhile isDigit ≠ []
      · rw [if_pos hm, if_pos hl, if_pos hm, if_pos hl, parseExponentP_eq, Nat.add_assoc 1, Nat.add_comm 1,
          List.drop_succ_cons, ← List.drop_drop]
        congr 1; omega
      · rw [if_pos hm, if_neg hl, if_pos hm, if_neg hl]; rfl
    · rw [if_neg hm, if_neg hm]; rfl

/-- `matchLitP` returns `i` plus the length of the common prefix of `lit` and the lower-cased bytes -/
theorem matchLitP_spec (more : Nat → Bool) : ∀ (lit : List Nat) (s : Bytes) (i : Nat),
    (∀ k, k < i + lit.length → more k = true) →
      matchLitP more lit i s ≤ i + lit.length ∧
      ∀ k, k ≤ lit.length → (i + k ≤ matchLitP more lit i s ↔ startsCI (lit.take k) s = true) := by
  intro lit
  induction lit with
  | nil =>
    intro s i _
    have : matchLitP more [] i s = i := by unfold matchLitP; cases s <;> simp
    simp [this, startsCI]
  | cons l ls ih =>
    intro s i hm
    have hi : more i = true := hm i (by simp)
    unfold matchLitP
    cases s with
    | nil => simp only [hi, if_true]; exact ⟨by omega, fun k _ => by cases k <;> simp [startsCI]⟩
    | cons c cs =>
      simp only [hi, if_true]
      by_cases he : lowerOf c.toNat = l
      · have he' : c.toNat ||| 32 = l := he
        obtain ⟨h1, h2⟩ := ih cs (i + 1) (fun k hk => hm k (by simp only [List.length_cons]; omega))
        have h0 := (h2 0 (Nat.zero_le _)).mpr rfl
        simp only [he, if_true, List.length_cons]
        refine ⟨by omega, fun k hk => ?_⟩
        cases k with
        | zero => simp [startsCI]; omega
        | succ k =>
          simp only [List.take_succ_cons, startsCI, lower, he', decide_true, Bool.true_and,
            ← h2 k (by simpa using hk)]
          omega
      · have he' : ¬ (c.toNat ||| 32 = l) := he
        simp only [he, if_false]
        exact ⟨by omega, fun k _ => by cases k <;> simp [startsCI, lower, he']⟩

theorem infLit_eq : infLit = [105, 110, 102, 105, 110, 105, 116, 121] := rfl
theorem nanLit_eq : nanLit = [110, 97, 110] := rfl

theorem inf_match (s2 : Bytes) :
    matchLitP infMore infLit 0 s2 ≤ 8 ∧
    (startsCI [105, 110, 102, 105, 110, 105, 116, 121] s2 = true ↔ 8 ≤ matchLitP infMore infLit 0 s2) ∧
    (startsCI [105, 110, 102] s2 = true ↔ 3 ≤ matchLitP infMore infLit 0 s2) := by
  obtain ⟨h1, h2⟩ := matchLitP_spec infMore infLit s2 0 (fun k hk => by
    have : k < 8 := by simpa [infLit_eq] using hk
    simp [infMore, this])
  exact ⟨h1, (h2 8 (by decide)).symm, (h2 3 (by decide)).symm⟩

theorem nan_match (s2 : Bytes) :
    matchLitP nanMore nanLit 0 s2 ≤ 3 ∧
    (startsCI [110, 97, 110] s2 = true ↔ 3 ≤ matchLitP nanMore nanLit 0 s2) := by
  obtain ⟨h1, h2⟩ := matchLitP_spec nanMore nanLit s2 0 (fun k hk => by
    have : k < 3 := by simpa [nanLit_eq] using hk
    simp [nanMore, this])
  exact ⟨h1, (h2 3 (by decide)).symm⟩

/-- The optional fraction as the code takes it (left sides) and as the grammar does (right sides); `h0` = digits came before.
The code takes the '.' if `h0` or `p[1]` is a digit, and reads `p[1]` only when `h0` does not settle it (`hdIfP`); `fracPart`
decides by `h0 ∨ takeWhile isDigit ≠ []`: `takeWhile_ne_nil_eq_hd0`.  Second conjunct: whether a number has been seen, which
`parseDecimalP` tests next. -/
theorem frac_eq (f : Fmt) (v0 : Mag) (h0 : Bool) (r1 : Bytes) :
    parseFractionOptP (isDot (hd0 r1).toNat &&
        dotTaken h0 (hdIfP (isDot (hd0 r1).toNat && !h0) (r1.drop 1)).toNat) f v0 (r1.drop 1) =
      (if (fracPart h0 r1).2 != 0 then
        Mag.add f v0 ((Mag.div .F64 (rnd .F64 (((fracL ((fracPart h0 r1).1.map digitOf)).1 : Nat) : Rat))
          (rnd .F64 (((fracL ((fracPart h0 r1).1.map digitOf)).2.1 : Nat) : Rat))).cast f)
       else v0, (fracPart h0 r1).2) ∧
    (h0 || (isDot (hd0 r1).toNat &&
        dotTaken h0 (hdIfP (isDot (hd0 r1).toNat && !h0) (r1.drop 1)).toNat)) = (h0 || (fracPart h0 r1).2 != 0) := by
  cases r1 with
  | nil => simp [show isDot (hd0 []).toNat = false by decide, parseFractionOptP, fracPart]
  | cons c r =>
    have h00 : hd0 (c :: r) = c := rfl
    simp only [h00, List.drop_succ_cons, List.drop_zero, fracPart, dotTaken_spec, isDot_spec]
    by_cases hd : c = 46
    · have hfold := frac_fold _ (takeWhile_forall isDigit r)
      have ht := takeWhile_ne_nil_eq_hd0 r
      cases h0 with
      | true => simp [hd, parseFractionOptP, parseFractionP, scanP, hfold]
      | false =>
        by_cases hdg : r.takeWhile isDigit = []
        · simp [hd, hdIfP, hdg, ← ht, parseFractionOptP]
        · simp [hd, hdIfP, hdg, ← ht, parseFractionOptP, parseFractionP, scanP, hfold]
    · simp [hd, parseFractionOptP]

theorem length_bne_zero (l : Bytes) : (l.length != 0) = decide (l ≠ []) := by
  cases l <;> simp

theorem parseDecimalP_eq (f : Fmt) (chk sign : Bool) (pos : Nat) (rest : Bytes) :
    let ip := rest.takeWhile isDigit
    let fr := fracPart (ip ≠ []) (rest.dropWhile isDigit)
    let s4 := (rest.dropWhile isDigit).drop fr.2
    parseDecimalP f chk sign pos rest =
      if ip = [] ∧ fr.2 = 0 then ⟨⟨false, .fin 0⟩, 0, false⟩
      else mkRes
        (evalLex f chk { neg := !sign, intDigits := ip.map digitOf, hasDot := fr.2 != 0,
                         fracDigits := fr.1.map digitOf, exp := (expPart s4).1 })
        (pos + ip.length + fr.2 + (expPart s4).2 + sufLen (s4.drop (expPart s4).2)) := by
  obtain ⟨hv, hb⟩ := frac_eq f (rnd f (predecL ((rest.takeWhile isDigit).map digitOf) : Rat))
    (decide (rest.takeWhile isDigit ≠ [])) (rest.dropWhile isDigit)
  unfold parseDecimalP scanP
  simp only [drop_takeWhile_length, length_bne_zero, predec_fold _ (takeWhile_forall isDigit rest)]
  rw [hv, hb]
  by_cases hno : rest.takeWhile isDigit = [] ∧
      (fracPart (decide (rest.takeWhile isDigit ≠ [])) (rest.dropWhile isDigit)).2 = 0
  · rw [if_pos hno, if_pos (by simpa using hno)]
  · rw [if_neg hno, if_neg (by simpa using hno), parseTailP_eq]
    rfl

def resOf (f : Fmt) (chk : Bool) : Option (NumKind × Nat) → PRes
  | some (.dec l, n) => mkRes (evalLex f chk l) n
  | some (.inf neg, n) => ⟨⟨neg, .inf⟩, n, false⟩
  | some (.nan, n) => ⟨⟨false, .nan⟩, n, false⟩
  | none => ⟨⟨false, .fin 0⟩, 0, false⟩

theorem parseFloatCoreP_eq (f : Fmt) (chk : Bool) (t : Bytes) : parseFloatCoreP f chk t = resOf f chk (scanNum t) := by
  have hs := sign_spec (t.dropWhile isSpace)
  unfold parseFloatCoreP scanNum parseBodyP
  simp only [drop_takeWhile_length, hs.2]
  generalize (t.dropWhile isSpace).drop (signPart (t.dropWhile isSpace)).2 = s2
  have hi := inf_match s2
  have hn := nan_match s2
  simp only [hs.1, Bool.not_not, parseDecimalP_eq]
  generalize matchLitP infMore infLit 0 s2 = i at hi ⊢
  generalize matchLitP nanMore nanLit 0 s2 = j at hn ⊢
  -- `i` letters of "infinity" and `j` of "nan" matched.  Code and grammar agree case by case:
  --   i = 8        "infinity", 8 bytes        3 ≤ i < 8    "inf": the code backs off to 3 bytes
  --   i < 3, j = 3 "nan" and its parenthesis  otherwise    the decimal scanner (`parseDecimalP_eq`)
  by_cases h8 : 8 ≤ i
  · have e : i = 8 := by have := hi.1; omega
    have a : infAccept 8 = true := by decide
    have b : infIsShort 8 = false := by decide
    simp [e, a, b, hi.2.1.mpr h8, resOf]
  · have n8 : ¬ (startsCI [105, 110, 102, 105, 110, 105, 116, 121] s2 = true) := fun h => h8 (hi.2.1.mp h)
    simp only [n8]
    by_cases h3 : 3 ≤ i
    · have a : infAccept i = true := by simp [infAccept, h3]
      have b : infIsShort i = true := by simp only [infIsShort]; simp; omega
      have c : i - infBackoff i = 3 := by simp only [infBackoff, sub32]; omega
      simp [a, b, c, hi.2.2.mpr h3, resOf]
    · have n3 : ¬ (startsCI [105, 110, 102] s2 = true) := fun h => h3 (hi.2.2.mp h)
      have a : infAccept i = false := by simp only [infAccept]; simp; omega
      simp only [n3, a, Bool.false_eq_true, if_false]
      by_cases hn3 : 3 ≤ j
      · have e : j = 3 := by have := hn.1; omega
        have a : nanAccept 3 = true := by decide
        simp [e, a, hn.2.mpr hn3, nanParen_spec, resOf]
      · have nn : ¬ (startsCI [110, 97, 110] s2 = true) := fun h => hn3 (hn.2.mp h)
        have a : nanAccept j = false := by simp only [nanAccept]; simp; omega
        simp only [nn, a, Bool.false_eq_true, if_false]
        split <;> rfl

theorem parseFloat_spec {f : Fmt} {chk : Bool} {s : Bytes} (h : (0 : Byte) ∈ s) :
    parseFloat f chk s = .ok (resOf f chk (scanNum (cstr s))) := by
  rw [parseFloat_eq h, parseFloatCoreP_eq]

theorem lexemeOf_eq {t : Bytes} {l : Lexeme} (h : lexemeOf t = some l) : ∃ n, scanNum t = some (.dec l, n) := by
  revert h
  unfold lexemeOf
  rcases scanNum t with _ | ⟨l' | _ | _, n⟩ <;> intro h <;> cases h
  exact ⟨n, rfl⟩

theorem scanNum_pos {t : Bytes} {k : NumKind} {n : Nat} (h : scanNum t = some (k, n)) : 0 < n := by
  unfold scanNum at h
  simp only [] at h
  split at h
  · cases h; omega
  · split at h
    · cases h; omega
    · split at h
      · cases h; omega
      · split at h
        · cases h
        · rename_i hno
          cases h
          rcases Classical.not_and_iff_not_or_not.mp hno with h | h
          · have := mt List.length_eq_zero_iff.mp h; omega
          · omega

theorem scanNum_ws (ws t : Bytes) (hws : ∀ c ∈ ws, isSpace c = true) :
    scanNum (ws ++ t) = (scanNum t).map (fun kn => (kn.1, kn.2 + ws.length)) := by
  unfold scanNum
  simp only [List.takeWhile_append_of_pos hws, List.dropWhile_append_of_pos hws, List.length_append]
  generalize List.dropWhile isSpace t = s1
  generalize (List.takeWhile isSpace t).length = nws
  split
  · simp only [Option.map_some, Option.some.injEq, Prod.mk.injEq, true_and]; omega
  · split
    · simp only [Option.map_some, Option.some.injEq, Prod.mk.injEq, true_and]; omega
    · split
      · simp only [Option.map_some, Option.some.injEq, Prod.mk.injEq, true_and]; omega
      · split
        · rfl
        · simp only [Option.map_some, Option.some.injEq, Prod.mk.injEq, true_and]; omega

theorem sto_spec {f : Fmt} {e0 : Nat} {s : Bytes} (h : (0 : Byte) ∈ s) :
    sto f e0 s = match scanNum (cstr s) with
      | none => .throwInvalid
      | some (.dec l, n) => if (evalLex f true l).2 then .throwRange else .ok (evalLex f true l).1 n e0
      | some (.inf neg, n) => .ok ⟨neg, .inf⟩ n e0
      | some (.nan, n) => .ok ⟨false, .nan⟩ n e0 := by
  unfold sto
  rw [parseFloat_spec h]
  rcases hs : scanNum (cstr s) with _ | ⟨l | neg | _, n⟩
  · rfl
  all_goals have hn := Nat.ne_of_gt (scanNum_pos hs)
  · cases hf : (evalLex f true l).2
    · simp [resOf, mkRes, hf, ERANGE, hn]
    · simp [resOf, mkRes, hf, ERANGE, evalLex_flag f true l hf]
  · simp [resOf, ERANGE, hn]
  · simp [resOf, ERANGE, hn]

theorem fracPart_spec (h0 : Bool) (r : Bytes) :
    (∀ c ∈ (fracPart h0 r).1, isDigit c = true) ∧ ((fracPart h0 r).2 = 0 → (fracPart h0 r).1 = []) := by
  cases r with
  | nil => exact ⟨fun _ hc => (nomatch hc), fun _ => rfl⟩
  | cons a as =>
    unfold fracPart
    by_cases ha : a = 46
    · by_cases hcond : h0 = true ∨ List.takeWhile isDigit as ≠ []
      · simp only [ha, if_true, if_pos hcond]
        exact ⟨takeWhile_forall isDigit _, fun h => by omega⟩
      · simp only [ha, if_true, if_neg hcond]
        exact ⟨fun _ hc => (nomatch hc), fun _ => trivial⟩
    · simp only [ha, if_false]
      exact ⟨fun _ hc => (nomatch hc), fun _ => trivial⟩

/-- what `scanNum` guarantees of a lexeme -/
def WF (l : Lexeme) : Prop := Dig l.intDigits ∧ Dig l.fracDigits ∧ (l.hasDot = false → l.fracDigits = [])

theorem scanNum_digits {t : Bytes} {l : Lexeme} {n : Nat} (h : scanNum t = some (.dec l, n)) : WF l := by
  unfold scanNum at h
  simp only [] at h
  split at h
  · cases h
  · split at h
    · cases h
    · split at h
      · cases h
      · split at h
        · cases h
        · simp only [Option.some.injEq, Prod.mk.injEq, NumKind.dec.injEq] at h
          obtain ⟨rfl, _⟩ := h
          refine ⟨Dig_map (takeWhile_forall isDigit _), Dig_map (fracPart_spec _ _).1, fun hd => ?_⟩
          simp only [bne_eq_false_iff_eq] at hd
          simp only [(fracPart_spec _ _).2 hd, List.map_nil]

end DmlcModel.StrToNum
