/-
Closed forms of `Push(Row)` / `Push(RowBlock)` on containers satisfying the invariant, preservation of the
invariant, and the effect on the rows.
-/
import DmlcModel.RowBlock.Lemmas

namespace DmlcModel.RowBlock
open DmlcModel DmlcModel.Gen.RowBlock

-- the copy loop
theorem take_set_le (l : List Nat) (k v n : Nat) (h : n ≤ k) : (l.set k v).take n = l.take n :=
  List.take_set_of_le h

theorem foldl_max_le {xs : List Nat} {m B : Nat} (hm : m ≤ B) (h : ∀ x ∈ xs, x ≤ B) : xs.foldl Nat.max m ≤ B := by
  induction xs generalizing m with
  | nil => exact hm
  | cons x xs ih =>
    exact ih (Nat.max_le.mpr ⟨hm, h x List.mem_cons_self⟩) fun y hy => h y (List.mem_cons_of_mem x hy)

/-- the loop at counter `i`: `A` already written, `Z` still to be overwritten, `xs` the source values from `srcIdx i` on -/
theorem copyGo_spec (chk : Nat → Bool) (f : Nat → Nat) (src : List Nat) (srcIdx : Nat → Nat) (base : Nat) :
    ∀ (xs : List Nat) (i : Nat) (A Z : List Nat) (m : Nat), A.length = base + i → xs.length ≤ Z.length →
    (∀ j (h : j < xs.length), src[srcIdx (i + j)]? = some xs[j]) → (∀ x ∈ xs, chk x = true) →
    copyGo chk f src srcIdx base xs.length i (A ++ Z) m =
      (A ++ xs.map f ++ Z.drop xs.length, (xs.map f).foldl Nat.max m, none)
  | [], _, A, Z, m, _, _, _, _ => by simp [copyGo]
  | x :: xs, i, A, z :: Z, m, hA, hZ, hsrc, hx => by
    have h0 : src[srcIdx i]? = some x := hsrc 0 (Nat.zero_lt_succ _)
    have e := copyGo_spec chk f src srcIdx base xs (i + 1) (A ++ [f x]) Z (Nat.max m (f x))
      (by simp; omega) (Nat.le_of_succ_le_succ hZ)
      (fun j h => by simpa [Nat.add_assoc, Nat.add_comm 1 j] using hsrc (j + 1) (Nat.succ_lt_succ h))
      (fun y hy => hx y (List.mem_cons_of_mem x hy))
    have hset : (A ++ z :: Z).set (base + i) (f x) = A ++ [f x] ++ Z := by
      rw [← hA, List.set_append_right _ _ (Nat.le_refl _)]; simp
    have hlt : base + i < (A ++ z :: Z).length := by simp; omega
    simp only [List.length_cons, copyGo, h0, hx x List.mem_cons_self, if_true, hlt, hset, e]
    simp

theorem seg_eq_map_range (l : List Nat) (lo n : Nat) (h : lo + n ≤ l.length) :
    (List.range' 0 n).map (fun j => l.getD (lo + j) 0) = seg l lo n := by
  apply List.ext_getElem?
  intro i
  simp only [seg, List.getElem?_map, List.getElem?_take, List.getElem?_drop]
  by_cases hi : i < n
  · have : lo + i < l.length := by omega
    simp [hi, List.getD_eq_getElem?_getD, List.getElem?_eq_getElem this]
  · simp [hi]

/-- the resize-then-copy idiom of `Push(RowBlock)` -/
theorem copyGo_seg (chk : Nat → Bool) (f : Nat → Nat) (src a : List Nat) (lo n m : Nat) (srcIdx : Nat → Nat)
    (hidx : ∀ j, j < n → srcIdx j = lo + j) (hsrc : lo + n ≤ src.length)
    (hx : ∀ x ∈ seg src lo n, chk x = true) :
    copyGo chk f src srcIdx a.length n 0 (a ++ List.replicate n 0) m =
      (a ++ (seg src lo n).map f, ((seg src lo n).map f).foldl Nat.max m, none) := by
  have hl := seg_length src lo n hsrc
  have := copyGo_spec chk f src srcIdx a.length (seg src lo n) 0 a (List.replicate n 0) m rfl (by simp [hl])
    (fun j h => by
      rw [hl] at h
      simp [seg, hidx j h, List.getElem?_eq_getElem (by omega : lo + j < src.length)]) hx
  simpa [hl] using this

-- Push(RowBlock): closed form

def appendOpt (a : List Nat) (p : Option (List Nat)) (lo n : Nat) : List Nat :=
  match p with
  | some l => a ++ seg l lo n
  | none => a

/-- the offsets `Push(RowBlock)` appends: `shift + batch.offset[k+1] - batch.offset[0]` -/
def newOffs (b : Block) (shift : Nat) : List Nat :=
  (List.range' 0 b.size).map (fun k => shift + (b.offset.getD (k + 1) 0 - b.off0))

def pushed (c : Container) (b : Block) : Container :=
  { offset := c.offset ++ newOffs b c.index.length,
    label := appendOpt c.label b.label 0 b.size, weight := appendOpt c.weight b.weight 0 b.size,
    qid := appendOpt c.qid b.qid 0 b.size,
    field := appendOpt c.field b.field b.off0 b.ndata, index := c.index ++ seg (ext b.index) b.off0 b.ndata,
    value := appendOpt c.value b.value b.off0 b.ndata,
    maxField := (seg (ext b.field) b.off0 b.ndata).foldl Nat.max c.maxField,
    maxIndex := (seg (ext b.index) b.off0 b.ndata).foldl Nat.max c.maxIndex }

theorem insertRows_ok (a : List Nat) (p : Option (List Nat)) (n : Nat) (h : covers p n = true) :
    insertRows a p n = .ok (appendOpt a p 0 n) := by
  cases p with
  | none => rfl
  | some l =>
    have := covers_some h
    simp [insertRows, appendOpt, rdSeg_ok l 0 n (by omega)]

theorem sound_last {b : Block} (hs : Sound b = true) : b.offset.getD b.size 0 = b.off0 + b.ndata := by
  have := ((sound_iff b).mp hs).mono 0 b.size (Nat.zero_le _) (Nat.le_refl _)
  unfold Block.off0 Block.ndata; omega

/-- `SoundP` in terms of `off0` / `ndata`, as the statements of `Push(RowBlock)` read it -/
structure SoundW (b : Block) : Prop where
  first : b.offset[0]? = some b.off0
  last : b.offset[b.size]? = some (b.off0 + b.ndata)
  lt : b.off0 + b.ndata < 2 ^ 64
  fld : covers b.field (b.off0 + b.ndata) = true
  val : covers b.value (b.off0 + b.ndata) = true
  idx : b.off0 + b.ndata ≤ (ext b.index).length
  lab : covers b.label b.size = true
  wgt : covers b.weight b.size = true
  qid : covers b.qid b.size = true

theorem sound_facts {b : Block} (hs : Sound b = true) : SoundW b := by
  have h := (sound_iff b).mp hs
  have hl := h.len
  have e := sound_last hs
  exact ⟨getElem?_getD (by omega), e ▸ getElem?_getD (by omega), e ▸ h.lt, e ▸ h.fld, e ▸ h.val, e ▸ h.idx, h.lab, h.wgt,
    h.qid⟩

theorem offs_rel {b : Block} (hs : Sound b = true) {k : Nat} (hk : k ≤ b.size) :
    b.off0 ≤ b.offset.getD k 0 ∧ b.offset.getD k 0 ≤ b.off0 + b.ndata ∧
    (∀ j, j ≤ k → b.offset.getD j 0 ≤ b.offset.getD k 0) := by
  have h := (sound_iff b).mp hs
  exact ⟨h.mono 0 k (Nat.zero_le _) hk, sound_last hs ▸ h.mono k b.size hk (Nat.le_refl _),
    fun j hj => h.mono j k hj hk⟩

theorem ndataOf_ok {b : Block} (hs : Sound b = true) : ndataOf b = .ok (b.off0, b.ndata) := by
  have w := sound_facts hs
  simp [ndataOf, w.first, w.last, pbNdata_spec (Nat.le_add_right _ _) w.lt]

theorem stepField_ok {lim : Nat} {b : Block} {c : Container} (hs : Sound b = true) {N : Nat}
    (hlast : c.offset.getLast? = some N) (hsm : c.field.length + b.ndata < 2 ^ 64)
    (hlim : ∀ l, b.field = some l → ∀ x ∈ seg l b.off0 b.ndata, x ≤ lim) :
    stepField lim b c = ({ c with field := appendOpt c.field b.field b.off0 b.ndata,
                                  maxField := (seg (ext b.field) b.off0 b.ndata).foldl Nat.max c.maxField }, none) := by
  have h64 := (sound_facts hs).lt
  have cf := (sound_facts hs).fld
  unfold stepField
  cases hf : b.field with
  | none => simp [appendOpt, ext, seg_nil]
  | some fl =>
    rw [hf] at cf
    have hcov := covers_some cf
    simp only [ndataOf_ok hs, hlast]
    have hbase : pbFieldDst (c.field ++ List.replicate b.ndata 0).length b.ndata N = c.field.length := by
      rw [pbFieldDst_spec (by simp) (by simp; omega)]; simp
    rw [hbase, copyGo_seg _ id fl c.field b.off0 b.ndata c.maxField (pbFieldSrc b.off0)
      (fun j hj => pbFieldSrc_spec (by omega)) (by omega) (fun x hx => decide_eq_true (hlim fl hf x hx))]
    simp [appendOpt, ext]

theorem stepIndex_ok {lim : Nat} {b : Block} {c : Container} (hs : Sound b = true)
    (hlast : c.offset.getLast? = some c.index.length)
    (hlim : ∀ x ∈ seg (ext b.index) b.off0 b.ndata, x ≤ lim) :
    stepIndex lim b c = ({ c with index := c.index ++ seg (ext b.index) b.off0 b.ndata,
                                  maxIndex := (seg (ext b.index) b.off0 b.ndata).foldl Nat.max c.maxIndex }, none) := by
  have h64 := (sound_facts hs).lt
  have ci := (sound_facts hs).idx
  unfold stepIndex
  simp only [ndataOf_ok hs, hlast, pbIndexDst_spec]
  rw [copyGo_seg _ id (ext b.index) c.index b.off0 b.ndata c.maxIndex (pbIndexSrc b.off0)
    (fun j hj => pbIndexSrc_spec (by omega)) (by omega) (fun x hx => decide_eq_true (hlim x hx)), List.map_id]

theorem stepValue_ok {b : Block} {c : Container} (hs : Sound b = true) (hsm : c.value.length + b.ndata < 2 ^ 62) :
    stepValue b c = ({ c with value := appendOpt c.value b.value b.off0 b.ndata }, none) := by
  have h64 := (sound_facts hs).lt
  have cv := (sound_facts hs).val
  unfold stepValue
  cases hv : b.value with
  | none => simp [appendOpt]
  | some vl =>
    rw [hv] at cv
    have hcov := covers_some cv
    simp only [ndataOf_ok hs, pbValueSrc_spec, pbValueBytes_spec (by omega : b.ndata < 2 ^ 62)]
    rw [rdSeg_ok vl b.off0 b.ndata (by omega)]
    have hbase : pbValueDst (c.value ++ List.replicate b.ndata 0).length b.ndata = c.value.length := by
      rw [pbValueDst_spec (by simp) (by simp; omega)]; simp
    simp only [hbase]
    have hlen := seg_length vl b.off0 b.ndata (by omega)
    unfold writeSeg
    by_cases hz : b.ndata = 0
    · simp [hz, seg_zero, appendOpt]
    · simp [hlen, hz, appendOpt]

theorem stepOffset_ok {b : Block} {c : Container} (hs : Sound b = true) {N len : Nat}
    (hlen : len = c.offset.length) (hne0 : c.offset ≠ [])
    (hlast : c.offset.getLast? = some N)
    (hsm : c.offset.length + b.size < 2 ^ 62) (hnd : N + b.ndata + b.off0 < 2 ^ 64) :
    stepOffset (pbRows len) b c = ({ c with offset := c.offset ++ newOffs b N }, none) := by
  subst hlen
  have h0 := (sound_facts hs).first
  have hl := (sound_facts hs).last
  have h64 := (sound_facts hs).lt
  have hne := length_pos_of_ne hne0
  have hshift : c.offset[c.offset.length - 1]? = some N := by
    rw [← List.getLast?_eq_getElem?]; exact hlast
  unfold stepOffset
  rw [pbRows_spec hne (by omega), pbShiftIdx_spec, hshift, h0]
  simp only []
  rw [pbOffDst_spec (by omega), show c.offset.length - 1 + 1 = c.offset.length by omega]
  have hm : (List.range' 0 b.size).map (fun j => pbOffNew N (b.offset.getD (j + 1) 0) b.off0) =
      newOffs b N := by
    unfold newOffs
    apply List.map_congr_left
    intro k hk
    have hk' : k < b.size := by simp [List.mem_range'] at hk; omega
    obtain ⟨r1, r2, _⟩ := offs_rel hs (by omega : k + 1 ≤ b.size)
    rw [pbOffNew_spec r1 (by omega)]
  rw [copyGo_seg (fun _ => true) (fun x => pbOffNew N x b.off0) b.offset c.offset 1 b.size 0
    pbOffNextIdx (fun j hj => by rw [pbOffNextIdx_spec (by omega)]; omega)
    (by have := (List.getElem?_eq_some_iff.mp hl).1; omega) (fun _ _ => rfl),
    ← seg_eq_map_range _ _ _ (by have := (List.getElem?_eq_some_iff.mp hl).1; omega), List.map_map]
  simp only [Nat.add_comm 1, Function.comp_def, hm]

theorem andThen_ok (c : Container) (f : Container → Container × Option Err) : andThen (c, none) f = f c := rfl

theorem pushBlock_closed {lim : Nat} {c : Container} {b : Block} (g : Good c) (hs : Sound b = true)
    (hfit : FitsLim lim b) (hb : b.off0 + b.ndata < 2 ^ 62)
    (hsm : c.offset.length + b.size < 2 ^ 62) (hnd : c.index.length + b.ndata < 2 ^ 62) :
    pushBlock lim c b = (pushed c b, none) := by
  have w := sound_facts hs
  have hfl := opt_len_le (k := 0) g.fld
  have hvl := opt_len_le (k := 0) g.val
  simp only [pushBlock, stepLabel, stepWeight, stepQid, insertRows_ok _ _ _ w.lab, insertRows_ok _ _ _ w.wgt,
    insertRows_ok _ _ _ w.qid, andThen_ok]
  rw [stepField_ok hs (N := c.index.length) (hlim := hfit.2), andThen_ok, stepIndex_ok hs (hlim := hfit.1), andThen_ok,
    stepValue_ok hs, andThen_ok, stepOffset_ok hs (N := c.index.length)]
  · rfl
  -- left: the hypotheses of the four `step*_ok` about the container each statement meets (as arguments they would fix
  -- it to be `c`), last statement first; `offset` is still that of `c`, `field` and `value` until they are resized.
  -- `stepOffset_ok`: `hlen`, `hne0`, `hlast`, `hsm`, `hnd`
  · rfl
  · exact g.ne
  · exact g.last
  · exact hsm
  · omega
  -- `stepValue_ok`: `hsm` (by `hvl`)
  · simp only []; omega
  -- `stepIndex_ok`: `hlast`
  · exact g.last
  -- `stepField_ok`: `hlast`, `hsm` (by `hfl`)
  · exact g.last
  · simp only []; omega

-- the invariant is preserved
theorem compatArr_iff (a : List Nat) (rows : Nat) (p : Option (List Nat)) (m : Nat) :
    compatArr a rows p m = true ↔ (m = 0 ∨ ((∀ l, p = some l → a.length = rows) ∧ (p = none → a = []))) := by
  cases p with
  | none => simp [compatArr, List.isEmpty_iff]
  | some l => simp [compatArr]

theorem appendOpt_zero (a : List Nat) (p : Option (List Nat)) (lo : Nat) : appendOpt a p lo 0 = a := by
  cases p <;> simp [appendOpt, seg_zero]

/-- an optional array that holds `k` elements less than `n` (or nothing) keeps that shape, with `n + m`, when the
`m` elements of a compatible block are appended -/
theorem appendOpt_rows (a : List Nat) (p : Option (List Nat)) (rows m lo k n : Nat)
    (hc : compatArr a rows p m = true) (hcov : ∀ l, p = some l → lo + m ≤ l.length) (hk : rows + k = n)
    (ha : a.length + k = n ∨ a = []) :
    (appendOpt a p lo m).length + k = n + m ∨ appendOpt a p lo m = [] := by
  rcases (compatArr_iff _ _ _ _).mp hc with hm | ⟨h1, h2⟩
  · subst hm
    rw [appendOpt_zero]
    exact ha
  · cases p with
    | none => right; simp [appendOpt, h2 rfl]
    | some l =>
      left
      simp only [appendOpt, List.length_append, h1 l rfl, seg_length l lo m (hcov l rfl)]
      omega

theorem newOffs_length (b : Block) (N : Nat) : (newOffs b N).length = b.size := by simp [newOffs]

theorem newOffs_get (b : Block) (N k : Nat) (hk : k < b.size) :
    (newOffs b N)[k]? = some (N + (b.offset.getD (k + 1) 0 - b.off0)) := by
  simp [newOffs, hk]

theorem compatible_iff (c : Container) (b : Block) : Compatible c b = true ↔
    (compatArr c.label (c.offset.length - 1) b.label b.size = true ∧
     compatArr c.weight (c.offset.length - 1) b.weight b.size = true ∧
     compatArr c.qid (c.offset.length - 1) b.qid b.size = true ∧
     compatArr c.field c.index.length b.field b.ndata = true ∧
     compatArr c.value c.index.length b.value b.ndata = true) := by
  simp [Compatible, Bool.and_eq_true, and_assoc]

theorem getD_append_left (a x : List Nat) (i : Nat) (h : i < a.length) : (a ++ x).getD i 0 = a.getD i 0 := by
  simp [List.getD_eq_getElem?_getD, List.getElem?_append_left h]

theorem getD_append_right (a x : List Nat) (k : Nat) : (a ++ x).getD (a.length + k) 0 = x.getD k 0 := by
  simp [List.getD_eq_getElem?_getD, List.getElem?_append_right]

theorem pushed_off {c : Container} (g : Good c) (b : Block) (k : Nat) (hk : k ≤ b.size) :
    (pushed c b).offset.getD (c.offset.length - 1 + k) 0 = c.index.length + (b.offset.getD k 0 - b.off0) := by
  have hne := length_pos_of_ne g.ne
  simp only [pushed]
  cases k with
  | zero =>
    rw [Nat.add_zero, getD_append_left _ _ _ (by omega), g.last_get]
    have : b.offset.getD 0 0 = b.off0 := rfl
    omega
  | succ k =>
    rw [show c.offset.length - 1 + (k + 1) = c.offset.length + k by omega, getD_append_right]
    exact getD_of_getElem? (newOffs_get b _ k (by omega))

theorem pushed_off_old {c : Container} {b : Block} (i : Nat) (hi : i < c.offset.length) :
    (pushed c b).offset.getD i 0 = c.offset.getD i 0 := by
  simp only [pushed]; exact getD_append_left _ _ _ hi

theorem good_offs {c : Container} (g : Good c) {i : Nat} (hi : i + 1 < c.offset.length) :
    c.offset.getD i 0 ≤ c.offset.getD (i + 1) 0 ∧ c.offset.getD (i + 1) 0 ≤ c.index.length :=
  ⟨mono_le g.mono (Nat.le_succ i) hi, g.last_get ▸ mono_le g.mono (by omega) (by omega)⟩

theorem pushed_offset_length (c : Container) (b : Block) :
    (pushed c b).offset.length = c.offset.length + b.size := by
  simp [pushed, newOffs_length]

theorem pushed_index_length (c : Container) {b : Block} (hs : Sound b = true) :
    (pushed c b).index.length = c.index.length + b.ndata := by
  have ci := (sound_facts hs).idx
  simp [pushed, seg_length (ext b.index) b.off0 b.ndata (by omega)]

theorem good_pushed {c : Container} {b : Block} (g : Good c) (hs : Sound b = true) (hc : Compatible c b = true)
    (hsm : c.offset.length + b.size < 2 ^ 62) (hnd : c.index.length + b.ndata < 2 ^ 62) :
    Good (pushed c b) := by
  have w := sound_facts hs
  obtain ⟨kl, kw, kq, kf, kv⟩ := (compatible_iff c b).mp hc
  have hne := length_pos_of_ne g.ne
  have hlenO := pushed_offset_length c b
  have hlenI := pushed_index_length c hs
  have cov0 := fun {p} (h : covers p b.size = true) => covers_le h (Nat.le_of_eq (Nat.zero_add _))
  have covE := fun {p} (h : covers p (b.off0 + b.ndata) = true) => covers_le h (Nat.le_refl _)
  have hrows : c.offset.length - 1 + 1 = c.offset.length := by omega
  refine ⟨by simp [pushed, g.ne], ?_, ?_,
    hlenO ▸ appendOpt_rows _ _ _ _ _ 1 _ kl (cov0 w.lab) hrows g.lab,
    hlenO ▸ appendOpt_rows _ _ _ _ _ 1 _ kw (cov0 w.wgt) hrows g.wgt,
    hlenO ▸ appendOpt_rows _ _ _ _ _ 1 _ kq (cov0 w.qid) hrows g.qid,
    hlenI ▸ appendOpt_rows _ _ _ _ _ 0 _ kf (covE w.fld) rfl g.fld,
    hlenI ▸ appendOpt_rows _ _ _ _ _ 0 _ kv (covE w.val) rfl g.val, by rw [hlenO, hlenI]; omega⟩
  · rw [mono_iff]
    intro i hi
    rw [hlenO] at hi
    by_cases h1 : i + 1 < c.offset.length
    · rw [pushed_off_old i (by omega), pushed_off_old (i + 1) h1]
      exact (good_offs g h1).1
    · obtain ⟨k, rfl⟩ : ∃ k, i = c.offset.length - 1 + k := ⟨i + 1 - c.offset.length, by omega⟩
      have e2 := pushed_off g b (k + 1) (by omega)
      rw [show c.offset.length - 1 + (k + 1) = c.offset.length - 1 + k + 1 by omega] at e2
      rw [pushed_off g b k (by omega), e2]
      have := (offs_rel hs (by omega : k + 1 ≤ b.size)).2.2 k (by omega)
      omega
  · rw [List.getLast?_eq_getElem?, getElem?_getD (by rw [hlenO]; omega), hlenO, hlenI,
      show c.offset.length + b.size - 1 = c.offset.length - 1 + b.size by omega,
      pushed_off g b b.size (Nat.le_refl _), sound_last hs]
    congr 1
    omega

-- rows after a push

theorem norm_eq_of {r s : RowVal} (h1 : r.label = s.label) (h2 : r.weight = s.weight) (h3 : r.qid = s.qid)
    (h4 : r.index = s.index) (h5 : r.index = [] ∨ (r.field = s.field ∧ r.value = s.value)) : r.norm = s.norm := by
  cases r; cases s
  simp only at h1 h2 h3 h4 h5
  subst h1 h2 h3 h4
  unfold RowVal.norm
  rcases h5 with h | ⟨h, h'⟩
  · simp [h]
  · subst h h'; rfl

theorem beginPtr_ne {l : List Nat} (h : l ≠ []) : beginPtr l = some l := by
  cases l with
  | nil => exact absurd rfl h
  | cons _ _ => rfl

theorem getD_seg (l : List Nat) (lo n k : Nat) (hk : k < n) :
    (seg l lo n).getD k 0 = l.getD (lo + k) 0 := by
  simp [seg, List.getD_eq_getElem?_getD, hk, List.getElem?_drop]

/-- `F` only looks at the part that was there -/
theorem appendOpt_old {α : Type} (F : List Nat → α) (a : List Nat) (p : Option (List Nat)) (rows m lo : Nat)
    (hc : compatArr a rows p m = true) (hrows : 0 < rows) (hF : a.length = rows → ∀ x, F (a ++ x) = F a) :
    (beginPtr (appendOpt a p lo m)).map F = (beginPtr a).map F := by
  rcases (compatArr_iff _ _ _ _).mp hc with hm | ⟨h1, _⟩
  · subst hm; rw [appendOpt_zero]
  · cases p with
    | none => rfl
    | some l =>
      have hne : a ≠ [] := fun h => by have := h1 l rfl; simp [h] at this; omega
      simp only [appendOpt, beginPtr_ne hne, beginPtr_ne (List.append_ne_nil_of_left_ne_nil hne _), Option.map_some,
        hF (h1 l rfl)]

/-- `F` only looks at the new part, where it sees what `G` sees in the block's array -/
theorem appendOpt_new {α : Type} (F G : List Nat → α) (a : List Nat) (p : Option (List Nat)) (rows m lo : Nat)
    (hc : compatArr a rows p m = true) (hm : m ≠ 0) (hcov : ∀ l, p = some l → lo + m ≤ l.length)
    (hFG : ∀ l, p = some l → a.length = rows → F (a ++ seg l lo m) = G l) :
    (beginPtr (appendOpt a p lo m)).map F = p.map G := by
  rcases (compatArr_iff _ _ _ _).mp hc with h | ⟨h1, h2⟩
  · exact absurd h hm
  · cases p with
    | none => simp [appendOpt, h2 rfl, beginPtr]
    | some l =>
      have hne : a ++ seg l lo m ≠ [] := fun h => by
        have := congrArg List.length h
        simp [seg_length l lo m (hcov l rfl)] at this
        omega
      simp only [appendOpt, beginPtr_ne hne, Option.map_some, hFG l rfl (h1 l rfl)]

theorem rowT_pushed_old {c : Container} {b : Block} (g : Good c)
    (hc : Compatible c b = true) {i : Nat} (hi : i + 1 < c.offset.length) :
    ((view (pushed c b)).rowT i).norm = ((view c).rowT i).norm := by
  obtain ⟨kl, kw, kq, kf, kv⟩ := (compatible_iff c b).mp hc
  obtain ⟨hlo, hhi⟩ := good_offs g hi
  have e1 := pushed_off_old (c := c) (b := b) i (by omega)
  have e2 := pushed_off_old (c := c) (b := b) (i + 1) hi
  have row : ∀ {a p}, compatArr a (c.offset.length - 1) p b.size = true →
      (beginPtr (appendOpt a p 0 b.size)).map (fun l => l.getD i 0) = (beginPtr a).map (fun l => l.getD i 0) :=
    fun h => appendOpt_old _ _ _ _ _ _ h (by omega) fun ha x => getD_append_left _ _ _ (by omega)
  refine norm_eq_of (row kl) (row kw) (row kq) ?_ ?_
  · simp only [Block.rowT, view, ext_beginPtr, e1, e2]
    simp only [pushed]
    rw [seg_append_left _ _ _ _ (by omega)]
  · simp only [Block.rowT, view, ext_beginPtr, e1, e2]
    by_cases hn : c.offset.getD (i + 1) 0 - c.offset.getD i 0 = 0
    · left; rw [hn]; exact seg_zero _ _
    · have ent : ∀ {a p}, compatArr a c.index.length p b.ndata = true →
          (beginPtr (appendOpt a p b.off0 b.ndata)).map (fun l => seg l (c.offset.getD i 0)
            (c.offset.getD (i + 1) 0 - c.offset.getD i 0)) = (beginPtr a).map (fun l => seg l (c.offset.getD i 0)
            (c.offset.getD (i + 1) 0 - c.offset.getD i 0)) :=
        fun h => appendOpt_old _ _ _ _ _ _ h (by omega) fun ha x => seg_append_left _ _ _ _ (by omega)
      exact Or.inr ⟨ent kf, ent kv⟩

theorem rowT_pushed_new {c : Container} {b : Block} (g : Good c) (hs : Sound b = true)
    (hc : Compatible c b = true) {k : Nat} (hk : k < b.size) :
    ((view (pushed c b)).rowT (c.offset.length - 1 + k)).norm = (b.rowT k).norm := by
  obtain ⟨kl, kw, kq, kf, kv⟩ := (compatible_iff c b).mp hc
  have w := sound_facts hs
  have e1 := pushed_off g b k (by omega)
  have e2 := pushed_off g b (k + 1) (by omega)
  rw [show c.offset.length - 1 + (k + 1) = c.offset.length - 1 + k + 1 by omega] at e2
  obtain ⟨r1, r2, r3⟩ := offs_rel hs (by omega : k + 1 ≤ b.size)
  have r5 := r3 k (by omega)
  have r6 := (offs_rel hs (by omega : k ≤ b.size)).1
  have hn : c.index.length + (b.offset.getD (k + 1) 0 - b.off0) - (c.index.length + (b.offset.getD k 0 - b.off0)) =
      b.offset.getD (k + 1) 0 - b.offset.getD k 0 := by omega
  have hlo : b.off0 + (b.offset.getD k 0 - b.off0) = b.offset.getD k 0 := by omega
  have row : ∀ {a p}, compatArr a (c.offset.length - 1) p b.size = true → covers p b.size = true →
      (beginPtr (appendOpt a p 0 b.size)).map (fun l => l.getD (c.offset.length - 1 + k) 0) =
        p.map (fun l => l.getD k 0) :=
    fun h hcov => appendOpt_new _ _ _ _ _ _ _ h (by omega) (covers_le hcov (by omega)) fun l hl ha => by
      rw [← ha, getD_append_right, getD_seg l 0 b.size k hk, Nat.zero_add]
  refine norm_eq_of (row kl w.lab) (row kw w.wgt) (row kq w.qid) ?_ ?_
  · simp only [Block.rowT, view, ext_beginPtr, e1, e2, hn]
    simp only [pushed]
    rw [seg_append_right, seg_seg _ _ _ _ _ (by omega), hlo]
  · simp only [Block.rowT, view, ext_beginPtr, e1, e2, hn]
    by_cases hz : b.offset.getD (k + 1) 0 - b.offset.getD k 0 = 0
    · left; rw [hz]; exact seg_zero _ _
    · have ent : ∀ {a p}, compatArr a c.index.length p b.ndata = true → covers p (b.off0 + b.ndata) = true →
          (beginPtr (appendOpt a p b.off0 b.ndata)).map (fun l => seg l (c.index.length + (b.offset.getD k 0 - b.off0))
            (b.offset.getD (k + 1) 0 - b.offset.getD k 0)) =
          p.map (fun l => seg l (b.offset.getD k 0) (b.offset.getD (k + 1) 0 - b.offset.getD k 0)) :=
        fun h hcov => appendOpt_new _ _ _ _ _ _ _ h (by omega) (covers_le hcov (Nat.le_refl _)) fun l _ ha => by
          rw [← ha, seg_append_right, seg_seg _ _ _ _ _ (by omega), hlo]
      exact Or.inr ⟨ent kf w.fld, ent kv w.val⟩

theorem rowsT_pushed {c : Container} {b : Block} (g : Good c) (hs : Sound b = true)
    (hc : Compatible c b = true) :
    (view (pushed c b)).rowsT.map RowVal.norm = (view c).rowsT.map RowVal.norm ++ b.rowsT.map RowVal.norm := by
  have hne := length_pos_of_ne g.ne
  have hsz : (view (pushed c b)).size = (view c).size + b.size := by
    simp [view, pushed, newOffs_length]; omega
  unfold Block.rowsT
  rw [hsz, List.range_add]
  simp only [List.map_append, List.map_map]
  congr 1
  · exact List.map_congr_left fun i hi =>
      rowT_pushed_old g hc (by have : i < c.offset.length - 1 := List.mem_range.mp hi; omega)
  · exact List.map_congr_left fun k hk => rowT_pushed_new g hs hc (List.mem_range.mp hk)

-- Push(Row) = Push(RowBlock) of the one-row block that stores weight and qid
theorem seg_one (x : Nat) : seg [x] 0 1 = [x] := rfl

theorem pushVals_ok (lim : Nat) : ∀ (xs dst : List Nat) (m : Nat), (∀ x ∈ xs, x ≤ lim) →
    pushVals lim xs dst m = (dst ++ xs, xs.foldl Nat.max m, true)
  | [], dst, m, _ => by simp [pushVals]
  | x :: xs, dst, m, h => by
    simp [pushVals, h x List.mem_cons_self, pushVals_ok lim xs _ _ fun y hy => h y (List.mem_cons_of_mem x hy)]

theorem sound_rowBlock (r : RowVal) (wf : r.WF) (hlen : r.index.length < 2 ^ 64) : Sound (rowBlock r) = true := by
  have hf : covers r.field r.index.length = true := by
    cases h : r.field with
    | none => rfl
    | some fs => simp [covers, wf.1 fs h]
  have hv : covers r.value r.index.length = true := by
    cases h : r.value with
    | none => rfl
    | some vs => simp [covers, wf.2 vs h]
  rw [sound_iff]
  refine ⟨Nat.le_refl _, fun i j hij hj => ?_, by cases h : r.label <;> simp [rowBlock, covers, h], rfl, rfl, hf, hv, Nat.le_refl _, hlen⟩
  have hj : j ≤ 1 := hj
  obtain rfl | rfl : i = 0 ∨ i = 1 := by omega
  · exact Nat.zero_le _
  · obtain rfl : j = 1 := by omega
    exact Nat.le_refl _

theorem rowBlock_rowsT (r : RowVal) (wf : r.WF) : (rowBlock r).rowsT = [r.stored] := by
  have h1 : ∀ fs : List Nat, fs.length = r.index.length → seg fs 0 r.index.length = fs := by
    intro fs h; rw [← h]; exact seg_full fs
  simp only [Block.rowsT, rowBlock, List.range_one, List.map_cons, List.map_nil, Block.rowT, RowVal.stored]
  congr 1
  cases r with
  | mk l w q f ix v =>
    simp only [RowVal.WF] at wf
    simp only [List.getD_eq_getElem?_getD, List.getElem?_cons_zero, List.getElem?_cons_succ, Option.getD_some,
      Nat.sub_zero, ext, Option.map_some]
    have hf : f.map (fun l => seg l 0 ix.length) = f := by
      cases f with
      | none => rfl
      | some fs => simp [h1 fs (wf.1 fs rfl)]
    have hv : v.map (fun l => seg l 0 ix.length) = v := by
      cases v with
      | none => rfl
      | some vs => simp [h1 vs (wf.2 vs rfl)]
    have hl : Option.map (fun l => l[0]?.getD 0) (Option.map (fun l => [l]) l) = l := by cases l <;> rfl
    simp [hf, hv, hl, seg_full]

theorem pushRow_eq_pushed {lim : Nat} {c : Container} {r : RowVal} (wf : r.WF)
    (hix : ∀ x ∈ r.index, x ≤ lim) (hfl : ∀ fs, r.field = some fs → ∀ x ∈ fs, x ≤ lim) :
    pushRow lim c r = (pushed c (rowBlock r), none) := by
  obtain ⟨l, w, q, f, ix, v⟩ := r
  have ei := pushVals_ok lim ix c.index c.maxIndex hix
  have full : ∀ fs : List Nat, fs.length = ix.length → seg fs 0 ix.length = fs := fun fs h => h ▸ seg_full fs
  -- a one-row block has `off0 = 0`, `ndata = |index|` and one new offset; `pushRow` and `rowBlock` each have their own
  -- `match` for the default weight and qid: equal case by case
  cases f with
  | none =>
    cases l <;> cases v <;>
      simp [pushRow, ei, prOffNew_spec, pushed, appendOpt, rowBlock, newOffs, List.range'_succ, ext, Block.off0,
        Block.ndata, seg_one, seg_nil, full, wf.2] <;>
      exact ⟨by cases w <;> rfl, by cases q <;> rfl⟩
  | some fs =>
    have ef := pushVals_ok lim fs c.field c.maxField (hfl fs rfl)
    cases l <;> cases v <;>
      simp [pushRow, ef, ei, prOffNew_spec, pushed, appendOpt, rowBlock, newOffs, List.range'_succ, ext, Block.off0,
        Block.ndata, seg_one, full, wf.1, wf.2] <;>
      exact ⟨by cases w <;> rfl, by cases q <;> rfl⟩

end DmlcModel.RowBlock
