/-
The row iterators.  A parser is the list of blocks it hands out, all with the same optional arrays (`HasSig P`);
`BasicRowIter` pushes them into one container, `DiskRowIter` into pages that are saved and loaded again.
-/
import DmlcModel.RowBlock.Push
import DmlcModel.RowBlock.SaveLoad

namespace DmlcModel.RowBlock
open DmlcModel DmlcModel.Gen.RowBlock

/-- the container stores exactly the arrays of `P` -/
def CTyped (P : Sig) (c : Container) : Prop :=
  c.label.length = (if P.l then c.offset.length - 1 else 0) ∧
  c.weight.length = (if P.w then c.offset.length - 1 else 0) ∧
  c.qid.length = (if P.q then c.offset.length - 1 else 0) ∧
  c.field.length = (if P.f then c.index.length else 0) ∧
  c.value.length = (if P.v then c.index.length else 0)

theorem CTyped.empty (P : Sig) : CTyped P Container.empty := by
  simp [CTyped, Container.empty]

theorem compatArr_of_sig (a : List Nat) (rows : Nat) (p : Option (List Nat)) (m : Nat) (flag : Bool)
    (ha : a.length = if flag then rows else 0) (hp : m = 0 ∨ p.isSome = flag) : compatArr a rows p m = true := by
  rw [compatArr_iff]
  rcases hp with h | h
  · exact Or.inl h
  · right
    cases p with
    | none =>
      simp at h; subst h
      exact ⟨by simp, fun _ => List.eq_nil_of_length_eq_zero (by simpa using ha)⟩
    | some l =>
      simp at h; subst h
      exact ⟨fun _ _ => by simpa using ha, by simp⟩

theorem compatible_of_sig {P : Sig} {c : Container} {b : Block} (hc : CTyped P c) (hb : HasSig P b) :
    Compatible c b = true := by
  rw [compatible_iff]
  obtain ⟨c1, c2, c3, c4, c5⟩ := hc
  obtain ⟨b1, b2, b3, b4, b5⟩ := hb
  exact ⟨compatArr_of_sig _ _ _ _ _ c1 b1, compatArr_of_sig _ _ _ _ _ c2 b2, compatArr_of_sig _ _ _ _ _ c3 b3,
    compatArr_of_sig _ _ _ _ _ c4 b4, compatArr_of_sig _ _ _ _ _ c5 b5⟩

theorem appendOpt_typed (a : List Nat) (p : Option (List Nat)) (rows m lo : Nat) (flag : Bool)
    (ha : a.length = if flag then rows else 0) (hp : m = 0 ∨ p.isSome = flag)
    (hcov : ∀ l, p = some l → lo + m ≤ l.length) :
    (appendOpt a p lo m).length = if flag then rows + m else 0 := by
  rcases hp with h | h
  · subst h; rw [appendOpt_zero]; simpa using ha
  · cases p with
    | none => simp at h; subst h; simpa [appendOpt] using ha
    | some l =>
      simp at h; subst h
      simp only [appendOpt, List.length_append, seg_length l lo m (hcov l rfl)]
      simpa using ha

theorem ctyped_pushed {P : Sig} {c : Container} {b : Block} (g : Good c) (hs : Sound b = true)
    (hc : CTyped P c) (hb : HasSig P b) : CTyped P (pushed c b) := by
  have w := sound_facts hs
  obtain ⟨c1, c2, c3, c4, c5⟩ := hc
  obtain ⟨b1, b2, b3, b4, b5⟩ := hb
  have hne := length_pos_of_ne g.ne
  have hlenO : (pushed c b).offset.length - 1 = c.offset.length - 1 + b.size := by
    rw [pushed_offset_length]; omega
  have cov0 := fun {p} (h : covers p b.size = true) => covers_le h (Nat.le_of_eq (Nat.zero_add _))
  have covE := fun {p} (h : covers p (b.off0 + b.ndata) = true) => covers_le h (Nat.le_refl _)
  unfold CTyped
  rw [hlenO, pushed_index_length c hs]
  exact ⟨appendOpt_typed _ _ _ _ _ _ c1 b1 (cov0 w.lab), appendOpt_typed _ _ _ _ _ _ c2 b2 (cov0 w.wgt),
    appendOpt_typed _ _ _ _ _ _ c3 b3 (cov0 w.qid), appendOpt_typed _ _ _ _ _ _ c4 b4 (covE w.fld),
    appendOpt_typed _ _ _ _ _ _ c5 b5 (covE w.val)⟩

theorem push_step {P : Sig} {lim : Nat} {c : Container} {b : Block} (g : Good c) (hc : CTyped P c)
    (ok : BlockOk P lim b) (hsm : c.offset.length + b.size < 2 ^ 62) (hnd : c.index.length + b.ndata < 2 ^ 62) :
    pushBlock lim c b = (pushed c b, none) ∧ Good (pushed c b) ∧ CTyped P (pushed c b) ∧
      (view (pushed c b)).rowsT.map RowVal.norm = (view c).rowsT.map RowVal.norm ++ b.rowsT.map RowVal.norm :=
  have hcomp := compatible_of_sig hc ok.sig
  ⟨pushBlock_closed g ok.sound ok.fits ok.small hsm hnd, good_pushed g ok.sound hcomp hsm hnd,
    ctyped_pushed g ok.sound hc ok.sig, rowsT_pushed g ok.sound hcomp⟩

theorem pushAll_ok {P : Sig} {lim : Nat} : ∀ (bs : List Block) (c : Container), Good c → CTyped P c →
    (∀ b ∈ bs, BlockOk P lim b) → c.offset.length + sumSize bs < 2 ^ 62 → c.index.length + sumData bs < 2 ^ 62 →
    ∃ c', pushAll lim c bs = (c', none) ∧ Good c' ∧ CTyped P c' ∧
      (view c').rowsT.map RowVal.norm = (view c).rowsT.map RowVal.norm ++ blocksRowsN bs
  | [], c, g, hc, _, _, _ => ⟨c, rfl, g, hc, by simp [blocksRowsN]⟩
  | b :: bs, c, g, hc, hok, h1, h2 => by
    simp only [sumSize, sumData, List.map_cons, List.sum_cons] at h1 h2
    have ok := hok b (by simp)
    obtain ⟨e1, g1, t1, r1⟩ := push_step g hc ok (by omega) (by omega)
    obtain ⟨c2, e2, g2, t2, r2⟩ := pushAll_ok bs _ g1 t1 (fun x hx => hok x (by simp [hx]))
      (by rw [pushed_offset_length]; simp only [sumSize]; omega)
      (by rw [pushed_index_length c ok.sound]; simp only [sumData]; omega)
    refine ⟨c2, ?_, g2, t2, ?_⟩
    · simp only [pushAll, e1, andThen_ok, e2]
    · rw [r2, r1]; simp [blocksRowsN]

theorem view_empty_rows : (view Container.empty).rowsT = [] := by
  simp [Block.rowsT, view, Container.empty]

theorem basicPasses_ok {P : Sig} {lim : Nat} (bs : List Block) (n : Nat) (hok : ∀ b ∈ bs, BlockOk P lim b)
    (h1 : 1 + sumSize bs < 2 ^ 62) (h2 : sumData bs < 2 ^ 62) :
    ∃ rs, basicPasses lim bs n = .ok (List.replicate n rs) ∧ rs.map RowVal.norm = blocksRowsN bs := by
  obtain ⟨c, e, g, _, r⟩ := pushAll_ok (P := P) (lim := lim) bs Container.empty Good.empty (CTyped.empty P) hok
    (by simpa [Container.empty] using h1) (by simpa [Container.empty] using h2)
  refine ⟨(view c).rowsT, ?_, by rw [r, view_empty_rows]; simp⟩
  simp only [basicPasses, basicInit, e, getBlock_good g, rows_sound (sound_view g)]

-- DiskRowIter

theorem Vals.empty (iw : Nat) : Vals iw Container.empty := by
  refine ⟨?_, ?_, ?_, ?_, ?_, ?_, Nat.pow_pos (by omega), Nat.pow_pos (by omega)⟩ <;>
    (intro x hx; simp [Container.empty] at hx)

theorem good_offsets_lt {c : Container} (g : Good c) : ElemsLt 8 c.offset := by
  intro x hx
  obtain ⟨i, hi, rfl⟩ := List.getElem_of_mem hx
  have := g.last_get ▸ mono_le g.mono (by omega : i ≤ c.offset.length - 1) (by omega)
  rw [getD_of_getElem? (List.getElem?_eq_getElem hi)] at this
  have hs := g.small
  have : (256 : Nat) ^ 8 = 2 ^ 64 := by decide
  omega

theorem inRange_of {iw : Nat} {c : Container} (g : Good c) (v : Vals iw c) : InRange iw c := by
  have hs := g.small
  have := opt_len_le g.lab
  have := opt_len_le g.wgt
  have := opt_len_le g.qid
  have := opt_len_le (k := 0) g.fld
  have := opt_len_le (k := 0) g.val
  exact ⟨⟨good_offsets_lt g, by omega⟩, ⟨v.label, by omega⟩, ⟨v.weight, by omega⟩, ⟨v.qid, by omega⟩,
    ⟨v.field, by omega⟩, ⟨v.index, by omega⟩, ⟨v.value, by omega⟩, v.maxF, v.maxI⟩

theorem mem_seg {l : List Nat} {lo n x : Nat} (h : x ∈ seg l lo n) : x ∈ l :=
  List.mem_of_mem_drop (List.mem_of_mem_take h)

theorem elemsLt_appendOpt (w : Nat) (a : List Nat) (p : Option (List Nat)) (lo n : Nat) (ha : ElemsLt w a)
    (hp : ElemsLt w (ext p)) : ElemsLt w (appendOpt a p lo n) := by
  intro x hx
  cases p with
  | none => exact ha x hx
  | some l =>
    simp only [appendOpt, List.mem_append] at hx
    rcases hx with h | h
    · exact ha x h
    · exact hp x (mem_seg h)

theorem vals_pushed {iw : Nat} {c : Container} {b : Block} (v : Vals iw c) (br : BlockRange b)
    (fits : FitsLim (256 ^ iw - 1) b) : Vals iw (pushed c b) := by
  have hp : 0 < 256 ^ iw := Nat.pow_pos (by omega)
  have hf : ∀ x ∈ seg (ext b.field) b.off0 b.ndata, x ≤ 256 ^ iw - 1 := by
    cases hf : b.field with
    | none => simp [ext, seg_nil]
    | some l => exact fits.2 l hf
  refine ⟨elemsLt_appendOpt 4 _ _ _ _ v.label br.label, elemsLt_appendOpt 4 _ _ _ _ v.weight br.weight,
    elemsLt_appendOpt 8 _ _ _ _ v.qid br.qid, ?_, ?_, elemsLt_appendOpt 4 _ _ _ _ v.value br.value,
    Nat.lt_of_le_pred hp (foldl_max_le (Nat.le_pred_of_lt v.maxF) hf),
    Nat.lt_of_le_pred hp (foldl_max_le (Nat.le_pred_of_lt v.maxI) fits.1)⟩
  · intro x hx
    simp only [pushed] at hx
    cases hf : b.field with
    | none => rw [hf] at hx; exact v.field x hx
    | some l =>
      rw [hf] at hx
      simp only [appendOpt, List.mem_append] at hx
      rcases hx with h | h
      · exact v.field x h
      · have := fits.2 l hf x h; omega
  · intro x hx
    simp only [pushed, List.mem_append] at hx
    rcases hx with h | h
    · exact v.index x h
    · have := fits.1 x h; omega

theorem pageBlocks_good : ∀ (pages : List Container), (∀ p ∈ pages, Good p) → pageBlocks pages = .ok (pages.map view)
  | [], _ => rfl
  | p :: ps, h => by
    simp [pageBlocks, getBlock_good (h p (by simp)), pageBlocks_good ps (fun q hq => h q (by simp [hq]))]

theorem blocksRows_views : ∀ (pages : List Container), (∀ p ∈ pages, Good p) →
    blocksRows (pages.map view) = .ok (pages.flatMap (fun p => (view p).rowsT))
  | [], _ => rfl
  | p :: ps, h => by
    simp [blocksRows, rows_sound (sound_view (h p (by simp))),
      blocksRows_views ps (fun q hq => h q (by simp [hq]))]

theorem size_zero_rows {c : Container} (g : Good c) (h : finalSave c.size = false) : (view c).rowsT = [] := by
  have hne := length_pos_of_ne g.ne
  have hs := g.small
  have : c.size = 0 := Decidable.byContradiction fun h0 => by simp [(finalSave_iff c.size).mpr h0] at h
  unfold Container.size at this
  rw [gbSize_spec hne (by omega)] at this
  simp [Block.rowsT, view, this]

theorem buildGo_ok {P : Sig} (full : Nat → Bool) {iw : Nat} : ∀ (bs : List Block) (st : BuildSt),
    Good st.data → CTyped P st.data → Vals iw st.data →
    (∀ b ∈ bs, BlockOk P (256 ^ iw - 1) b ∧ BlockRange b) →
    st.data.offset.length + sumSize bs < 2 ^ 62 → st.data.index.length + sumData bs < 2 ^ 62 →
    ∃ (st' : BuildSt) (pages : List Container), buildGo full iw (256 ^ iw - 1) st bs = (st', none) ∧ st'.file = st.file ++ pages.flatMap (save iw) ∧
      (∀ p ∈ pages, Good p ∧ InRange iw p) ∧
      pages.flatMap (fun p => (view p).rowsT.map RowVal.norm) = (view st.data).rowsT.map RowVal.norm ++ blocksRowsN bs
  | [], st, g, _, v, _, _, _ => by
    simp only [buildGo]
    cases hf : finalSave st.data.size
    · exact ⟨st, [], by simp, by simp, by simp, by simp [blocksRowsN, size_zero_rows g hf]⟩
    · refine ⟨{ st with file := st.file ++ save iw st.data,
                          numCol := Nat.max st.numCol (numColOf st.data.maxIndex) }, [st.data], by simp, by simp, ?_,
        by simp [blocksRowsN]⟩
      intro p hp; simp at hp; subst hp; exact ⟨g, inRange_of g v⟩
  | b :: bs, st, g, t, v, hok, h1, h2 => by
    simp only [sumSize, sumData, List.map_cons, List.sum_cons] at h1 h2
    have hne := length_pos_of_ne g.ne
    obtain ⟨ok, br⟩ := hok b (by simp)
    obtain ⟨e1, g1, t1, r1⟩ := push_step g t ok (by omega) (by omega)
    have v1 := vals_pushed v br ok.fits
    simp only [buildGo, e1]
    cases hfull : full (memCost iw (pushed st.data b))
    · obtain ⟨st', pages, e2, f2, p2, r2⟩ := buildGo_ok full bs { st with data := pushed st.data b } g1 t1 v1
        (fun x hx => hok x (by simp [hx])) (by simp only [sumSize]; rw [pushed_offset_length]; omega)
        (by simp only [sumData]; rw [pushed_index_length _ ok.sound]; omega)
      refine ⟨st', pages, by simpa using e2, f2, p2, ?_⟩
      rw [r2, r1]; simp [blocksRowsN]
    · obtain ⟨st', pages, e2, f2, p2, r2⟩ := buildGo_ok full bs
        { data := Container.empty, file := st.file ++ save iw (pushed st.data b),
          numCol := Nat.max st.numCol (numColOf (pushed st.data b).maxIndex) } Good.empty (CTyped.empty P) (Vals.empty iw)
        (fun x hx => hok x (by simp [hx])) (by simp only [sumSize, Container.empty, List.length_singleton]; omega)
        (by simp only [sumData, Container.empty, List.length_nil]; omega)
      refine ⟨st', pushed st.data b :: pages, by simpa using e2, by simp [f2], ?_, ?_⟩
      · intro p hp
        simp at hp
        rcases hp with rfl | hp
        · exact ⟨g1, inRange_of g1 v1⟩
        · exact p2 p hp
      · simp only [List.flatMap_cons, r2, r1, view_empty_rows]
        simp [blocksRowsN]

theorem diskPass_ok {P : Sig} (full : Nat → Bool) {iw : Nat} (bs : List Block)
    (hok : ∀ b ∈ bs, BlockOk P (256 ^ iw - 1) b ∧ BlockRange b)
    (h1 : 1 + sumSize bs < 2 ^ 62) (h2 : sumData bs < 2 ^ 62) :
    ∃ file nc rs, buildCacheWith full iw (256 ^ iw - 1) bs = .ok (file, nc) ∧ diskPass iw file = .ok rs ∧
      rs.map RowVal.norm = blocksRowsN bs := by
  obtain ⟨st', pages, e, f, p, r⟩ := buildGo_ok (P := P) full bs { data := Container.empty, file := [], numCol := 0 }
    Good.empty (CTyped.empty P) (Vals.empty iw) hok (by simpa [Container.empty] using h1)
    (by simpa [Container.empty] using h2)
  simp only [List.nil_append] at f
  refine ⟨st'.file, st'.numCol, pages.flatMap (fun p => (view p).rowsT), by simp [buildCacheWith, e], ?_, ?_⟩
  · unfold diskPass
    rw [f, readPages_flatMap iw pages _ (fun q hq => (p q hq).2)
      (by have := flatMap_save_length iw pages; omega)]
    simp only [pageBlocks_good pages (fun q hq => (p q hq).1), blocksRows_views pages (fun q hq => (p q hq).1)]
  · rw [List.map_flatMap, r, view_empty_rows]; simp

end DmlcModel.RowBlock
