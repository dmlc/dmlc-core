/-
`RowBlockContainer::Save` / `Load` (src/data/row_block.h) are the serializer's Write / Read of the class
with the nine members in Save order, little-endian host and stream (`save_eq_encode`, `load_eq_decode`), so round trip,
truncation and "the consumed prefix determines the result" are Ser's theorems at that class.
-/
import DmlcModel.RowBlock.Spec
import DmlcModel.Ser.RoundTrip

namespace DmlcModel.RowBlock
open DmlcModel DmlcModel.Ser DmlcModel.Gen.RowBlock

/-- decidable form of `ElemsLt` (for witnesses) -/
theorem elemsLt_of_all (w : Nat) (l : List Nat) (h : l.all (fun x => decide (x < 256 ^ w)) = true) : ElemsLt w l := by
  intro x hx
  simpa using List.all_eq_true.mp h x hx

-- the two models agree
theorem toLE_eq_leN : ∀ (w n : Nat), toLE w n = leN w n
  | 0, _ => rfl
  | w + 1, n => by simp [toLE, leN, toLE_eq_leN w]

theorem fromLE_eq_deN : ∀ bs : Bytes, fromLE bs = deN bs
  | [] => rfl
  | b :: bs => by simp [fromLE, deN, fromLE_eq_deN bs]

theorem leN_length (w n : Nat) : (leN w n).length = w := toLE_eq_leN w n ▸ toLE_length w n

theorem noSwap_le (h : Bool) : (Cfg.noSwap ⟨h, h⟩) = true := by
  rw [noSwap_eq]; cases h <;> rfl

theorem nativeImg_le (k : AK) (w : Nat) : nativeImg ⟨true, true⟩ (Ty.arith k w) = leN w := by
  funext v
  simp [nativeImg, image, toLE_eq_leN]

/-- the raw-block path of NativePODVectorHandler -/
theorem encode_vec_le (k : AK) (w : Nat) (l : List Nat) (hl : l.length < 2 ^ 64) :
    encode ⟨true, true⟩ (.vec (.arith k w)) l = saveVec w l := by
  show vecWrite _ (Ty.arith k w).isPod (nativeImg _ (Ty.arith k w)) _ l = _
  rw [vecWrite_count _ _ _ _ l hl, countWrite_eq _ _ hl, nativeImg_le]
  exact congrArg (· ++ _) (toLE_eq_leN 8 _)

theorem arithWrite_le (w v : Nat) : arithWrite ⟨true, true⟩ w v = leN w v :=
  (arithWrite_eq _ w v (Or.inl (noSwap_le true))).trans (toLE_eq_leN w v)

theorem save_eq_encode (iw : Nat) (c : Container) (h : InRange iw c) :
    save iw c = encode ⟨true, true⟩ (rbcTy iw) (rbcVal iw c) := by
  simp only [rbcTy, rbcVal, encode_ccons, encode_arith, arithWrite_le]
  rw [encode_vec_le _ 8 c.offset h.offset.2, encode_vec_le _ 4 c.label h.label.2, encode_vec_le _ 4 c.weight h.weight.2,
    encode_vec_le _ 8 c.qid h.qid.2, encode_vec_le _ iw c.field h.field.2, encode_vec_le _ iw c.index h.index.2,
    encode_vec_le _ 4 c.value h.value.2]
  simp only [save, encode, List.append_assoc, List.append_nil]

theorem arithRead_le (w : Nat) (s : Bytes) :
    arithRead ⟨true, true⟩ w s = if w ≤ s.length then some (deN (s.take w), s.drop w) else none := by
  simp only [arithRead, readBytes, noSwap_le true, arithSwapR_eq, unimage, fromLE_eq_deN, Bool.not_true,
    Bool.false_eq_true, if_false, if_true]
  by_cases h : w ≤ s.length
  · simp [h, Nat.not_lt.mpr h]
  · simp [h, Nat.lt_of_not_le h]

theorem decodeElems_eq (w : Nat) : ∀ (n : Nat) (bs : Bytes), decodeElems w n bs = (splitN w n bs).map (unimage true)
  | 0, _ => rfl
  | n + 1, bs => by simp [decodeElems, splitN, decodeElems_eq w n, unimage, fromLE_eq_deN]

theorem loadVec_eq (k : AK) (w : Nat) : loadVec w = decode ⟨true, true⟩ (.vec (.arith k w)) := by
  funext bs
  show _ = vecRead _ (Ty.arith k w).isPod w (unimage true) _ bs
  simp only [vecRead, countRead, countBytes_eq, arithRead_le, Ty.isPod, vecRawR_eq, noSwap_le true, Bool.and_true,
    if_true, loadVec, readBytes, decodeElems_eq]
  -- the same three tests on both sides (8 bytes of count, count 0, `n * w` bytes of elements), spelt `a ≤ b` in
  -- `loadVec` and `¬ b < a` in `readBytes`
  by_cases h8 : 8 ≤ bs.length
  · simp only [h8, if_true, bne_iff_ne, ne_eq, ite_not, Nat.mul_comm w]
    by_cases hn : deN (bs.take 8) = 0
    · rw [if_pos hn, if_pos hn]
    · rw [if_neg hn, if_neg hn]
      by_cases hm : deN (bs.take 8) * w ≤ (bs.drop 8).length
      · rw [if_pos hm, if_neg (Nat.not_lt.mpr hm)]
      · rw [if_neg hm, if_pos (Nat.lt_of_not_le hm)]
  · simp only [h8, if_false]

theorem loadRaw_eq (k : AK) (w old : Nat) : loadRaw w old = decode ⟨true, true⟩ (.arith k w) := by
  funext bs
  have hT : loadScalarTyped = true := by decide
  simp only [decode_arith, arithRead_le, loadRaw, hT, if_true]

/-- `eof` / `bad` are the two ways in which `decode` returns `none` -/
theorem load_eq_decode (iw : Nat) (old : Container) (bs : Bytes) :
    decode ⟨true, true⟩ (rbcTy iw) bs =
      match load iw old bs with
      | .ok c r => some (rbcVal iw c, r)
      | _ => none := by
  have hI : loadRaw iw old.maxIndex = loadRaw iw old.maxField := (loadRaw_eq .u iw _).trans (loadRaw_eq .u iw _).symm
  simp only [rbcTy, decode_ccons, seqRead, ← loadVec_eq, ← loadRaw_eq _ _ old.maxField, load, hI]
  -- the nine member reads in turn: where one fails both sides are `none`
  rcases loadVec 8 bs with _ | ⟨_, b1⟩ <;> dsimp only
  rcases loadVec 4 b1 with _ | ⟨_, b2⟩ <;> dsimp only
  rcases loadVec 4 b2 with _ | ⟨_, b3⟩ <;> dsimp only
  rcases loadVec 8 b3 with _ | ⟨_, b4⟩ <;> dsimp only
  rcases loadVec iw b4 with _ | ⟨_, b5⟩ <;> dsimp only
  rcases loadVec iw b5 with _ | ⟨_, b6⟩ <;> dsimp only
  rcases loadVec 4 b6 with _ | ⟨_, b7⟩ <;> dsimp only
  rcases loadRaw iw old.maxField b7 with _ | ⟨_, b8⟩ <;> dsimp only
  rcases loadRaw iw old.maxField b8 with _ | ⟨_, b9⟩ <;> dsimp only
  rfl

theorem load_ok_iff (iw : Nat) (old : Container) (bs : Bytes) (c : Container) (r : Bytes) :
    load iw old bs = .ok c r ↔ decode ⟨true, true⟩ (rbcTy iw) bs = some (rbcVal iw c, r) := by
  rw [load_eq_decode iw old bs]
  cases load iw old bs with
  | ok c' r' =>
    refine ⟨fun h => by cases h; rfl, fun h => ?_⟩
    cases c; cases c'; cases h; rfl
  | _ => simp

-- what the serializer's theorems say about `Save` / `Load`
theorem elemsLt_wf (k : AK) (w : Nat) (l : List Nat) (h : ElemsLt w l ∧ l.length < 2 ^ 64) : wf (.vec (.arith k w)) l :=
  ⟨h.2, h.1⟩

/-- `InRange` is `wf` at the class, member by member -/
theorem rbcVal_wf (iw : Nat) (c : Container) (h : InRange iw c) : wf (rbcTy iw) (rbcVal iw c) :=
  ⟨elemsLt_wf .u 8 _ h.offset, elemsLt_wf .f 4 _ h.label, elemsLt_wf .f 4 _ h.weight, elemsLt_wf .u 8 _ h.qid,
   elemsLt_wf .u iw _ h.field, elemsLt_wf .u iw _ h.index, elemsLt_wf .f 4 _ h.value, h.maxF, h.maxI, trivial⟩

/-- for the index widths that exist (what the C15 theorems on the layout ask) -/
theorem rbcTy_ok (iw : Nat) (h : iw = 4 ∨ iw = 8) : (rbcTy iw).ok = true ∧ (rbcTy iw).podFree = true := by
  rcases h with rfl | rfl <;> decide

/-- for every index width: no byte is swapped, so the round trip asks nothing of the sizes (`Ty.sized`) -/
theorem exact_rbc (iw : Nat) (c : Container) (h : InRange iw c) :
    Exact (decode ⟨true, true⟩ (rbcTy iw)) (save iw c) (rbcVal iw c) :=
  have hn := noSwap_le true
  have hsz : (rbcTy iw).sized ⟨true, true⟩ := by simp [rbcTy, Ty.sized, hn]
  save_eq_encode iw c h ▸ (decode_stable _ _).exact (decode_reads _ _ hsz (Or.inl hn) _ (rbcVal_wf iw c h))

theorem load_save (iw : Nat) (c old : Container) (rest : Bytes) (h : InRange iw c) :
    load iw old (save iw c ++ rest) = .ok c rest :=
  (load_ok_iff ..).mpr ((exact_rbc iw c h).rt rest)

theorem load_stable (iw : Nat) (old : Container) (bs : Bytes) (c : Container) (rest : Bytes)
    (h : load iw old bs = .ok c rest) :
    ∃ pre, bs = pre ++ rest ∧ ∀ tail old', load iw old' (pre ++ tail) = .ok c tail :=
  have ⟨pre, e, k⟩ := decode_stable _ _ bs _ rest ((load_ok_iff ..).mp h)
  ⟨pre, e, fun tail _ => (load_ok_iff ..).mpr (k tail)⟩

/-- on a truncated image `Load` reports end-of-file or raises "Bad RowBlock format" -/
theorem load_truncated (iw : Nat) (c old : Container) (h : InRange iw c)
    (k : Nat) (hk : k < (save iw c).length) (c' : Container) (r : Bytes) :
    load iw old ((save iw c).take k) ≠ .ok c' r :=
  fun hl => nomatch ((exact_rbc iw c h).tr k hk).symm.trans ((load_ok_iff ..).mp hl)

theorem save_length_pos (iw : Nat) (c : Container) : 0 < (save iw c).length := by
  simp [save, saveVec, leN_length]; omega

theorem load_nil (iw : Nat) (old : Container) : load iw old [] = .eof := by
  simp [load, loadVec]

theorem flatMap_save_length (iw : Nat) : ∀ (pages : List Container),
    pages.length ≤ (pages.flatMap (save iw)).length
  | [] => by simp
  | p :: ps => by
    have := save_length_pos iw p
    have := flatMap_save_length iw ps
    simp only [List.flatMap_cons, List.length_append, List.length_cons]; omega

theorem readPages_flatMap (iw : Nat) : ∀ (pages : List Container) (fuel : Nat),
    (∀ p ∈ pages, InRange iw p) → pages.length < fuel → readPages iw fuel (pages.flatMap (save iw)) = .ok pages
  | [], fuel, _, hf => by
    obtain ⟨k, rfl⟩ : ∃ k, fuel = k + 1 := ⟨fuel - 1, by simp at hf; omega⟩
    simp [readPages, load_nil]
  | p :: ps, fuel, h, hf => by
    obtain ⟨k, rfl⟩ : ∃ k, fuel = k + 1 := ⟨fuel - 1, by simp at hf; omega⟩
    simp only [List.flatMap_cons, readPages]
    rw [load_save iw p _ _ (h p (by simp))]
    simp only []
    rw [readPages_flatMap iw ps k (fun q hq => h q (by simp [hq])) (by simp at hf; omega)]

end DmlcModel.RowBlock
