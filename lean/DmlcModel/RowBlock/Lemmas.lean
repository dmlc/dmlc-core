/-
`GetBlock` against the container invariant `Good` (`view`: the block it hands out), soundness as propositions
(`SoundP`), the rows of a sound block as a total function.
-/
import DmlcModel.RowBlock.Spec
import DmlcModel.BasicLemmas

namespace DmlcModel.RowBlock
open DmlcModel DmlcModel.Gen.RowBlock

-- Gen items (an edit of the C++ expression changes the definition and breaks these)
theorem gbCheckCount_spec : gbCheckCount = 6 := by decide
theorem gbSize_spec {n : Nat} (h1 : 1 ≤ n) (h : n < 2 ^ 64) : gbSize n = n - 1 := by
  unfold gbSize; exact sub64_of_le h h1
theorem pbRows_spec {n : Nat} (h1 : 1 ≤ n) (h : n < 2 ^ 64) : pbRows n = n - 1 := by
  unfold pbRows; exact sub64_of_le h h1
theorem gbLabelGuard_iff (l : Nat) : gbLabelGuard l = true ↔ l ≠ 0 := by simp [gbLabelGuard]
theorem gbLabelEq_iff {l o : Nat} (h : l + 1 < 2 ^ 64) : gbLabelEq l o = true ↔ l + 1 = o := by
  simp [gbLabelEq, u64_of_lt h]
theorem gbIndexEq_iff (a b : Nat) : gbIndexEq a b = true ↔ a = b := by simp [gbIndexEq]
theorem gbValueOk_iff (a v : Nat) : gbValueOk a v = true ↔ (a = v ∨ v = 0) := by simp [gbValueOk]
theorem gbWeightOk_iff {w o : Nat} (h : w + 1 < 2 ^ 64) : gbWeightOk w o = true ↔ (w = 0 ∨ w + 1 = o) := by
  simp [gbWeightOk, u64_of_lt h]
theorem gbQidOk_iff {w o : Nat} (h : w + 1 < 2 ^ 64) : gbQidOk w o = true ↔ (w = 0 ∨ w + 1 = o) := by
  simp [gbQidOk, u64_of_lt h]
theorem gbFieldOk_iff (f i : Nat) : gbFieldOk f i = true ↔ (f = 0 ∨ f = i) := by simp [gbFieldOk]
theorem sliceOk_iff (a e n : Nat) : sliceOk a e n = true ↔ (a ≤ e ∧ e ≤ n) := by simp [sliceOk]
theorem sliceSize_spec {a e : Nat} (h : a ≤ e) (he : e < 2 ^ 64) : sliceSize a e = e - a := by
  unfold sliceSize; exact sub64_of_le he h
theorem rowIdOk_iff (i n : Nat) : rowIdOk i n = true ↔ i < n := by simp [rowIdOk]
theorem rowLen_spec {hi lo : Nat} (h : lo ≤ hi) (hh : hi < 2 ^ 64) : rowLen hi lo = hi - lo := by
  unfold rowLen; exact sub64_of_le hh h
theorem pbNdata_spec {a b : Nat} (h : b ≤ a) (ha : a < 2 ^ 64) : pbNdata a b = a - b := by
  unfold pbNdata; exact sub64_of_le ha h
/-- the entries of a pushed block are read starting at `batch.offset[0]` (finding C13-F2) -/
theorem pbFieldSrc_spec {o i : Nat} (h : o + i < 2 ^ 64) : pbFieldSrc o i = o + i := by
  unfold pbFieldSrc; exact u64_of_lt h
theorem pbIndexSrc_spec {o i : Nat} (h : o + i < 2 ^ 64) : pbIndexSrc o i = o + i := by
  unfold pbIndexSrc; exact u64_of_lt h
theorem pbFieldChk_eq : pbFieldChk = pbFieldSrc := rfl
theorem pbIndexChk_eq : pbIndexChk = pbIndexSrc := rfl
theorem pbValueSrc_spec (o : Nat) : pbValueSrc o = o := rfl
/-- `field` is written at its own end (finding C13-F2), `index` at `offset.back()`, `value` at its own end -/
theorem pbFieldDst_spec {f n b : Nat} (h : n ≤ f) (hf : f < 2 ^ 64) : pbFieldDst f n b = f - n := by
  unfold pbFieldDst; exact sub64_of_le hf h
theorem pbIndexDst_spec (b i n : Nat) : pbIndexDst b i n = b := rfl
theorem pbValueDst_spec {v n : Nat} (h : n ≤ v) (hv : v < 2 ^ 64) : pbValueDst v n = v - n := by
  unfold pbValueDst; exact sub64_of_le hv h
theorem pbValueBytes_spec {n : Nat} (h : n < 2 ^ 62) : pbValueBytes n 4 / 4 = n := by
  unfold pbValueBytes u64; omega
theorem pbShiftIdx_spec (n : Nat) : pbShiftIdx n = n := rfl
theorem pbOffDst_spec {n : Nat} (h : n + 1 < 2 ^ 64) : pbOffDst n = n + 1 := by
  unfold pbOffDst; exact u64_of_lt h
theorem pbOffNextIdx_spec {i : Nat} (h : i + 1 < 2 ^ 64) : pbOffNextIdx i = i + 1 := by
  unfold pbOffNextIdx; exact u64_of_lt h
theorem pbOffNew_spec {s x o : Nat} (h : o ≤ x) (hs : s + x < 2 ^ 64) : pbOffNew s x o = s + (x - o) := by
  unfold pbOffNew
  rw [u64_of_lt hs, sub64_of_le hs (by omega)]
  omega
theorem prOffNew_spec (n : Nat) : prOffNew n = n := rfl
theorem finalSave_iff (n : Nat) : finalSave n = true ↔ n ≠ 0 := by simp [finalSave]
theorem handOut_iff (n : Nat) : Gen.RowBlock.handOut n = true ↔ n ≠ 0 := by simp [Gen.RowBlock.handOut]
theorem kPageSize_spec : kPageSize = 64 * 1024 * 1024 := by decide
theorem pageFull_iff (n : Nat) : pageFull n = true ↔ 67108864 ≤ n := by
  simp [pageFull, kPageSize_spec]
theorem svmOffGuard_iff (n : Nat) : svmOffGuard n = true ↔ n ≠ 0 := by simp [svmOffGuard]
theorem fmOffGuard_iff (n : Nat) : fmOffGuard n = true ↔ n ≠ 0 := by simp [fmOffGuard]
theorem svmEndOk_iff {l o : Nat} (h : l + 1 < 2 ^ 64) : svmEndOk l o = true ↔ l + 1 = o := by
  simp [svmEndOk, u64_of_lt h]
theorem fmEndOk_iff {l o : Nat} (h : l + 1 < 2 ^ 64) : fmEndOk l o = true ↔ l + 1 = o := by
  simp [fmEndOk, u64_of_lt h]
theorem fmEndField_iff (f i : Nat) : fmEndField f i = true ↔ f = i := by simp [fmEndField]
theorem csvEndLabel_iff {l o : Nat} (h : l + 1 < 2 ^ 64) : csvEndLabel l o = true ↔ (l = 0 ∨ l + 1 = o) := by
  simp [csvEndLabel, u64_of_lt h]
theorem csvEndWeight_iff {l o : Nat} (h : l + 1 < 2 ^ 64) : csvEndWeight l o = true ↔ (l = 0 ∨ l + 1 = o) := by
  simp [csvEndWeight, u64_of_lt h]
theorem memCost_spec {o l w q f i v : Nat} (h : o + l + w + q + f + i + v < 2 ^ 58) :
    Gen.RowBlock.memCost o l w q f i v 4 4 = 8 * o + 4 * l + 4 * w + 8 * q + 4 * f + 4 * i + 4 * v := by
  unfold Gen.RowBlock.memCost
  simp (disch := omega) only [u64_of_lt]
  omega

-- lists
theorem seg_length (l : List Nat) (lo n : Nat) (h : lo + n ≤ l.length) : (seg l lo n).length = n := by
  unfold seg; simp; omega

theorem seg_zero (l : List Nat) (lo : Nat) : seg l lo 0 = [] := by simp [seg]

theorem seg_nil (lo n : Nat) : seg [] lo n = [] := by simp [seg]

theorem seg_append_left (a x : List Nat) (lo n : Nat) (h : lo + n ≤ a.length) :
    seg (a ++ x) lo n = seg a lo n := by
  unfold seg
  rw [List.drop_append_of_le_length (by omega)]
  rw [List.take_append_of_le_length (by simp; omega)]

theorem seg_append_right (a x : List Nat) (p n : Nat) : seg (a ++ x) (a.length + p) n = seg x p n := by
  unfold seg
  rw [List.drop_append]
  have : List.drop (a.length + p) a = [] := List.drop_eq_nil_of_le (by omega)
  rw [this]
  simp

theorem seg_seg (l : List Nat) (o m p n : Nat) (h : p + n ≤ m) : seg (seg l o m) p n = seg l (o + p) n := by
  unfold seg
  rw [List.drop_take, List.take_take, List.drop_drop]
  congr 1
  omega

theorem seg_full (l : List Nat) : seg l 0 l.length = l := by simp [seg]

theorem seg_drop (l : List Nat) (a lo n : Nat) : seg (l.drop a) lo n = seg l (a + lo) n := by
  unfold seg; rw [List.drop_drop]

theorem getD_of_getElem? {l : List Nat} {i x : Nat} (h : l[i]? = some x) : l.getD i 0 = x := by
  simp [List.getD_eq_getElem?_getD, h]

theorem getElem?_getD {l : List Nat} {i : Nat} (h : i < l.length) : l[i]? = some (l.getD i 0) := by
  simp [List.getD_eq_getElem?_getD, List.getElem?_eq_getElem h]

theorem mono_iff : ∀ l : List Nat, mono l = true ↔ ∀ i, i + 1 < l.length → l.getD i 0 ≤ l.getD (i + 1) 0
  | [] => by simp [mono]
  | [_] => by simp [mono]
  | a :: b :: rest => by
    simp only [mono, Bool.and_eq_true, decide_eq_true_eq, mono_iff (b :: rest)]
    constructor
    · rintro ⟨h0, h⟩ (_ | i) hi
      · exact h0
      · exact h i (by simpa using hi)
    · intro h
      exact ⟨h 0 (by simp), fun i hi => h (i + 1) (by simpa using hi)⟩

theorem mono_le {l : List Nat} (h : mono l = true) {i j : Nat} (hij : i ≤ j) (hj : j < l.length) :
    l.getD i 0 ≤ l.getD j 0 := by
  obtain ⟨d, rfl⟩ := Nat.exists_eq_add_of_le hij
  induction d with
  | zero => exact Nat.le_refl _
  | succ d ih => exact Nat.le_trans (ih (Nat.le_add_right _ _) (by omega)) ((mono_iff l).mp h (i + d) hj)

theorem mono_append_singleton (l : List Nat) (x : Nat) (h : mono l = true)
    (hx : ∀ y, l.getLast? = some y → y ≤ x) : mono (l ++ [x]) = true := by
  rw [mono_iff] at h ⊢
  intro i hi
  simp only [List.length_append, List.length_singleton] at hi
  by_cases hl : i + 1 < l.length
  · simpa [List.getD_eq_getElem?_getD, List.getElem?_append_left hl, List.getElem?_append_left (Nat.lt_of_succ_lt hl)]
      using h i hl
  · have e : i + 1 = l.length := by omega
    have := hx (l.getD i 0) (by
      rw [List.getLast?_eq_getElem?, ← e]
      simp [List.getD_eq_getElem?_getD, List.getElem?_eq_getElem (by omega : i < l.length)])
    simpa [List.getD_eq_getElem?_getD, e, List.getElem?_append_left (by omega : i < l.length)] using this

-- the container invariant and GetBlock

/-- the block `GetBlock` returns when its CHECKs pass -/
def view (c : Container) : Block :=
  { size := c.offset.length - 1, offset := c.offset, label := beginPtr c.label, weight := beginPtr c.weight,
    qid := beginPtr c.qid, field := beginPtr c.field, index := beginPtr c.index, value := beginPtr c.value }

theorem Good.empty : Good Container.empty := by
  refine ⟨by simp [Container.empty], rfl, rfl, ?_, ?_, ?_, ?_, ?_, ?_⟩ <;> simp [Container.empty]

theorem Good.last_get {c : Container} (g : Good c) : c.offset.getD (c.offset.length - 1) 0 = c.index.length :=
  getD_of_getElem? (List.getLast?_eq_getElem? ▸ g.last)

theorem length_pos_of_ne {l : List Nat} (h : l ≠ []) : 1 ≤ l.length := List.length_pos_iff.mpr h

theorem opt_len_le {l : List Nat} {k n : Nat} (h : l.length + k = n ∨ l = []) : l.length ≤ n := by
  rcases h with h | h
  · omega
  · simp [h]

theorem getBlock_good {c : Container} (g : Good c) : getBlock c = .ok (view c) := by
  have hne := length_pos_of_ne g.ne
  have hs := g.small
  have len0 : ∀ {l : List Nat}, l = [] → l.length = 0 := fun h => h ▸ rfl
  have hl : (gbLabelGuard c.label.length && !gbLabelEq c.label.length c.offset.length) = false := by
    rcases g.lab with h | h
    · simp [(gbLabelEq_iff (by omega)).mpr h]
    · simp [h, gbLabelGuard]
  have hi := (gbIndexEq_iff c.index.length c.index.length).mpr rfl
  have hv := (gbValueOk_iff c.index.length c.value.length).mpr (g.val.imp Eq.symm len0)
  have hw := (gbWeightOk_iff (by have := opt_len_le g.wgt; omega)).mpr (g.wgt.symm.imp_left len0)
  have hq := (gbQidOk_iff (by have := opt_len_le g.qid; omega)).mpr (g.qid.symm.imp_left len0)
  have hf := (gbFieldOk_iff c.field.length c.index.length).mpr (g.fld.symm.imp_left len0)
  simp only [getBlock, g.last, hl, hi, hv, hw, hq, hf, Bool.not_true, Bool.false_eq_true, if_false,
    gbSize_spec hne (by omega)]
  rfl

theorem ok_of_check {α : Type} {p : Bool} {e : Err} {x : R α} {b : α}
    (h : (if p then .error e else x) = .ok b) : p = false ∧ x = .ok b := by
  cases p
  · exact ⟨rfl, h⟩
  · cases h

/-- the converse of `getBlock_good`, given non-decreasing offsets (every producer in the library guarantees them) -/
theorem good_of_getBlock {c : Container} {b : Block} (hm : mono c.offset = true) (hs : ContainerSmall c)
    (h : getBlock c = .ok b) : Good c := by
  obtain ⟨so, si, sl, sw, sq⟩ := hs
  unfold getBlock at h
  cases hlast : c.offset.getLast? with
  | none => simp [hlast] at h
  | some back =>
    simp only [hlast] at h
    obtain ⟨h1, h⟩ := ok_of_check h
    obtain ⟨h2, h⟩ := ok_of_check h
    obtain ⟨h3, h⟩ := ok_of_check h
    obtain ⟨h4, h⟩ := ok_of_check h
    obtain ⟨h5, h⟩ := ok_of_check h
    obtain ⟨h6, _⟩ := ok_of_check h
    obtain rfl : back = c.index.length := (gbIndexEq_iff _ _).mp (by simpa using h2)
    have e3 := (gbValueOk_iff _ _).mp (by simpa using h3)
    have e4 := (gbWeightOk_iff (w := c.weight.length) (o := c.offset.length) (by omega)).mp (by simpa using h4)
    have e5 := (gbQidOk_iff (w := c.qid.length) (o := c.offset.length) (by omega)).mp (by simpa using h5)
    have e6 := (gbFieldOk_iff _ _).mp (by simpa using h6)
    have nil := @List.eq_nil_of_length_eq_zero Nat
    exact {
      ne := fun h0 => by simp [h0] at hlast
      mono := hm
      last := hlast
      lab := by
        by_cases hz : c.label.length = 0
        · exact Or.inr (nil hz)
        · exact Or.inl ((gbLabelEq_iff (l := c.label.length) (by omega)).mp
            (by simpa [(gbLabelGuard_iff _).mpr hz] using h1))
      wgt := e4.symm.imp_right nil
      qid := e5.symm.imp_right nil
      fld := e6.symm.imp_right nil
      val := e3.imp Eq.symm nil
      small := ⟨so, si⟩ }

theorem view_of_getBlock {c : Container} {b : Block} (g : Good c) (h : getBlock c = .ok b) : b = view c := by
  rw [getBlock_good g] at h
  exact (Except.ok.inj h).symm

-- sound blocks: reading rows never fails, total row function

/-- `Sound` as propositions about `getD`.  Statements take `Sound b = true`; a proof opens it as `SoundP` (`sound_iff`)
for rows, slices and views, as `SoundW` (`sound_facts`, Push.lean) for the statements of `Push(RowBlock)` -/
structure SoundP (b : Block) : Prop where
  len : b.size + 1 ≤ b.offset.length
  mono : ∀ i j, i ≤ j → j ≤ b.size → b.offset.getD i 0 ≤ b.offset.getD j 0
  lab : covers b.label b.size = true
  wgt : covers b.weight b.size = true
  qid : covers b.qid b.size = true
  fld : covers b.field (b.offset.getD b.size 0) = true
  val : covers b.value (b.offset.getD b.size 0) = true
  idx : b.offset.getD b.size 0 ≤ (ext b.index).length
  lt : b.offset.getD b.size 0 < 2 ^ 64

theorem offs_getD (b : Block) {i : Nat} (hi : i ≤ b.size) : b.offs.getD i 0 = b.offset.getD i 0 := by
  simp [Block.offs, List.getD_eq_getElem?_getD, Nat.lt_succ_of_le hi]

theorem sound_iff (b : Block) : Sound b = true ↔ SoundP b := by
  unfold Sound
  constructor
  · intro h
    simp only [Bool.and_eq_true, decide_eq_true_eq] at h
    obtain ⟨⟨⟨⟨⟨hlen, hm⟩, cl⟩, cw⟩, cq⟩, hlast⟩ := h
    rw [getElem?_getD (by omega)] at hlast
    simp only [Bool.and_eq_true, decide_eq_true_eq] at hlast
    refine ⟨hlen, fun i j hij hj => ?_, cl, cw, cq, hlast.1.1.1, hlast.1.1.2, hlast.1.2, hlast.2⟩
    have hl : b.offs.length = b.size + 1 := by simp [Block.offs]; omega
    have := mono_le hm hij (by omega : j < b.offs.length)
    rwa [offs_getD b (by omega), offs_getD b hj] at this
  · intro h
    rw [getElem?_getD (by have := h.len; omega)]
    simp only [Bool.and_eq_true, decide_eq_true_eq]
    refine ⟨⟨⟨⟨⟨h.len, (mono_iff _).mpr fun i hi => ?_⟩, h.lab⟩, h.wgt⟩, h.qid⟩, ⟨⟨h.fld, h.val⟩, h.idx⟩, h.lt⟩
    have hi' : i + 1 ≤ b.size := by simp [Block.offs] at hi; omega
    rw [offs_getD b (by omega), offs_getD b hi']
    exact h.mono i (i + 1) (by omega) hi'

theorem covers_some {l : List Nat} {n : Nat} (h : covers (some l) n = true) : n ≤ l.length := by
  simpa [covers] using h

theorem covers_le {p : Option (List Nat)} {n m : Nat} (h : covers p n = true) (hm : m ≤ n) :
    ∀ l, p = some l → m ≤ l.length :=
  fun _ hl => Nat.le_trans hm (covers_some (hl ▸ h))

theorem rd1_ok (p : Option (List Nat)) (i n : Nat) (h : covers p n = true) (hi : i < n) :
    rd1 p i = .ok (p.map (fun l => l.getD i 0)) := by
  cases p with
  | none => rfl
  | some l =>
    have := covers_some h
    have hl : i < l.length := by omega
    simp [rd1, List.getElem?_eq_getElem hl, List.getD_eq_getElem?_getD]

theorem rdSeg_ok (l : List Nat) (lo n : Nat) (h : lo + n ≤ l.length) : rdSeg l lo n = .ok (seg l lo n) := by
  unfold rdSeg
  by_cases hn : n = 0
  · simp [hn, seg]
  · simp [hn, h]

theorem rdSegOpt_ok (p : Option (List Nat)) (lo n m : Nat) (h : covers p m = true) (hm : lo + n ≤ m) :
    rdSegOpt p lo n = .ok (p.map (fun l => seg l lo n)) := by
  cases p with
  | none => rfl
  | some l =>
    have := covers_some h
    simp [rdSegOpt, rdSeg_ok l lo n (by omega)]

theorem row_eq_rowT {b : Block} (hs : Sound b = true) {i : Nat} (hi : i < b.size) :
    b.row i = .ok (b.rowT i) := by
  have h := (sound_iff b).mp hs
  have hl := h.len
  have hxy := h.mono i (i + 1) (by omega) hi
  have hyl := h.mono (i + 1) b.size hi (Nat.le_refl _)
  have hlt := h.lt
  have hidx := h.idx
  unfold Block.row
  rw [(rowIdOk_iff i b.size).mpr hi]
  simp only [if_true, getElem?_getD (by omega : i < b.offset.length), getElem?_getD (by omega : i + 1 < b.offset.length)]
  rw [rowLen_spec hxy (by omega)]
  unfold Block.readRow
  rw [rd1_ok _ i b.size h.lab hi, rd1_ok _ i b.size h.wgt hi, rd1_ok _ i b.size h.qid hi,
    rdSegOpt_ok _ _ _ _ h.fld (by omega), rdSegOpt_ok _ _ _ _ h.val (by omega), rdSeg_ok _ _ _ (by omega)]
  rfl

theorem rowsFrom_ok (b : Block) (f : Nat → RowVal) : ∀ (n i : Nat),
    (∀ j, j < n → b.row (i + j) = .ok (f (i + j))) → b.rowsFrom i n = .ok ((List.range' i n).map f)
  | 0, _, _ => rfl
  | n + 1, i, h => by
    have h0 := h 0 (by omega)
    simp only [Nat.add_zero] at h0
    have ih := rowsFrom_ok b f n (i + 1) (fun j hj => by
      have := h (j + 1) (by omega)
      rwa [show i + (j + 1) = i + 1 + j by omega] at this)
    simp [Block.rowsFrom, h0, ih, List.range'_succ]

theorem rows_sound {b : Block} (hs : Sound b = true) : b.rows = .ok b.rowsT := by
  unfold Block.rows Block.rowsT
  rw [rowsFrom_ok b b.rowT b.size 0 (fun j hj => by simpa using row_eq_rowT hs hj)]
  rw [List.range_eq_range']

-- Good containers hand out sound blocks
theorem covers_beginPtr (l : List Nat) (n : Nat) (h : l.length = n ∨ l = []) : covers (beginPtr l) n = true := by
  cases l with
  | nil => rfl
  | cons a t =>
    rcases h with h | h
    · simp [beginPtr, covers]; simp at h; omega
    · simp at h

theorem ext_beginPtr (l : List Nat) : ext (beginPtr l) = l := by cases l <;> rfl

theorem sound_view {c : Container} (g : Good c) : Sound (view c) = true := by
  have hne := length_pos_of_ne g.ne
  have hlast : (view c).offset.getD (view c).size 0 = c.index.length := g.last_get
  have perRow : ∀ {l : List Nat}, (l.length + 1 = c.offset.length ∨ l = []) →
      covers (beginPtr l) (c.offset.length - 1) = true :=
    fun h => covers_beginPtr _ _ (h.imp_left fun h => by omega)
  rw [sound_iff]
  refine ⟨by simp [view]; omega, fun i j hij hj => ?_, perRow g.lab, perRow g.wgt, perRow g.qid,
    hlast ▸ covers_beginPtr _ _ g.fld, hlast ▸ covers_beginPtr _ _ g.val, by rw [hlast]; simp [view, ext_beginPtr],
    by rw [hlast]; have := g.small; omega⟩
  have hj' : j < c.offset.length := by simp only [view] at hj; omega
  exact mono_le g.mono hij hj'

theorem sound_of_getBlock {c : Container} {b : Block} (hm : mono c.offset = true) (hs : ContainerSmall c)
    (h : getBlock c = .ok b) : Sound b = true := by
  have g := good_of_getBlock hm hs h
  rw [view_of_getBlock g h]
  exact sound_view g

-- slices
/-- the block `Slice(bgn, e)` returns when its CHECK passes -/
def Block.sliceT (b : Block) (bgn e : Nat) : Block :=
  { size := e - bgn, offset := b.offset.drop bgn, label := b.label.map (·.drop bgn),
    weight := b.weight.map (·.drop bgn), qid := b.qid.map (·.drop bgn), field := b.field, index := b.index,
    value := b.value }

theorem slice_ok (b : Block) {bgn e : Nat} (h1 : bgn ≤ e) (h2 : e ≤ b.size) (h3 : b.size < 2 ^ 64) :
    b.slice bgn e = .ok (b.sliceT bgn e) := by
  unfold Block.slice
  rw [(sliceOk_iff bgn e b.size).mpr ⟨h1, h2⟩, sliceSize_spec h1 (by omega)]
  rfl

theorem covers_drop (p : Option (List Nat)) (n a k : Nat) (h : covers p n = true) (hk : a + k ≤ n) :
    covers (p.map (·.drop a)) k = true := by
  cases p with
  | none => rfl
  | some l =>
    have := covers_some h
    simp [covers]; omega

theorem getD_drop (l : List Nat) (a i : Nat) : (l.drop a).getD i 0 = l.getD (a + i) 0 := by
  simp only [List.getD_eq_getElem?_getD, List.getElem?_drop]

theorem sound_slice {b : Block} (hs : Sound b = true) {bgn e : Nat} (h1 : bgn ≤ e) (h2 : e ≤ b.size) :
    Sound (b.sliceT bgn e) = true := by
  have h := (sound_iff b).mp hs
  have hl := h.len
  have hlast : (b.sliceT bgn e).offset.getD (b.sliceT bgn e).size 0 = b.offset.getD e 0 := by
    simp only [Block.sliceT, getD_drop, Nat.add_sub_cancel' h1]
  have hel := h.mono e b.size h2 (Nat.le_refl _)
  have cov : ∀ {p : Option (List Nat)}, covers p (b.offset.getD b.size 0) = true →
      covers p (b.offset.getD e 0) = true := fun {p} hp => by
    cases p with
    | none => rfl
    | some l => have := covers_some hp; simp only [covers, decide_eq_true_eq]; omega
  rw [sound_iff]
  refine ⟨by simp [Block.sliceT]; omega, fun i j hij hj => ?_, covers_drop _ b.size bgn (e - bgn) h.lab (by omega),
    covers_drop _ b.size bgn (e - bgn) h.wgt (by omega), covers_drop _ b.size bgn (e - bgn) h.qid (by omega),
    hlast ▸ cov h.fld, hlast ▸ cov h.val, by rw [hlast]; exact Nat.le_trans hel h.idx,
    by rw [hlast]; exact Nat.lt_of_le_of_lt hel h.lt⟩
  simp only [Block.sliceT, getD_drop]
  exact h.mono _ _ (by omega) (by simp only [Block.sliceT] at hj; omega)

theorem rowT_slice (b : Block) (bgn e i : Nat) : (b.sliceT bgn e).rowT i = b.rowT (bgn + i) := by
  simp only [Block.rowT, Block.sliceT, Option.map_map, Function.comp_def, getD_drop, Nat.add_assoc]

theorem rowsT_slice (b : Block) {bgn e : Nat} (h1 : bgn ≤ e) (h2 : e ≤ b.size) :
    (b.sliceT bgn e).rowsT = (b.rowsT.drop bgn).take (e - bgn) := by
  apply List.ext_getElem?
  intro i
  have hsz : (b.sliceT bgn e).size = e - bgn := rfl
  simp only [Block.rowsT, hsz, List.getElem?_take, List.getElem?_drop, List.getElem?_map]
  by_cases hi : i < e - bgn
  · simp [hi, (by omega : bgn + i < b.size), rowT_slice]
  · simp [hi]

end DmlcModel.RowBlock
