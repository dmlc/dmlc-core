/-
What C13 (and C15 for `RowBlockContainer`) is stated in, beside the model.  Definitions only.
-/
import DmlcModel.RowBlock.Model
import DmlcModel.Ser.Model

namespace DmlcModel.RowBlock
open DmlcModel DmlcModel.Ser

-- containers and rows
/-- the invariant `Clear`/`Push` maintain and `GetBlock` checks (documented in the comments of the struct:
`array[size+1]`, `array[size]`), with the `size_t` range made explicit -/
structure Good (c : Container) : Prop where
  ne : c.offset ≠ []
  mono : mono c.offset = true
  last : c.offset.getLast? = some c.index.length
  lab : c.label.length + 1 = c.offset.length ∨ c.label = []
  wgt : c.weight.length + 1 = c.offset.length ∨ c.weight = []
  qid : c.qid.length + 1 = c.offset.length ∨ c.qid = []
  fld : c.field.length = c.index.length ∨ c.field = []
  val : c.value.length = c.index.length ∨ c.value = []
  small : c.offset.length < 2 ^ 62 ∧ c.index.length < 2 ^ 62

/-- the `size_t` range of the vectors `GetBlock` compares -/
def ContainerSmall (c : Container) : Prop :=
  c.offset.length < 2 ^ 62 ∧ c.index.length < 2 ^ 62 ∧ c.label.length < 2 ^ 62 ∧ c.weight.length < 2 ^ 62 ∧
  c.qid.length < 2 ^ 62

/-- total version of `Block.row` -/
def Block.rowT (b : Block) (i : Nat) : RowVal :=
  let lo := b.offset.getD i 0
  let hi := b.offset.getD (i + 1) 0
  { label := b.label.map (fun l => l.getD i 0), weight := b.weight.map (fun l => l.getD i 0),
    qid := b.qid.map (fun l => l.getD i 0),
    field := b.field.map (fun l => seg l lo (hi - lo)), index := seg (ext b.index) lo (hi - lo),
    value := b.value.map (fun l => seg l lo (hi - lo)) }

def Block.rowsT (b : Block) : List RowVal := (List.range b.size).map b.rowT

/-- a row without entries carries no observable `field` / `value` pointer -/
def RowVal.norm (r : RowVal) : RowVal := if r.index = [] then { r with field := none, value := none } else r

/-- the row as `Push(Row)` stores it: weight and qid are materialised (`get_weight()`, `get_qid()`) -/
def RowVal.stored (r : RowVal) : RowVal :=
  { r with weight := some (match r.weight with | some w => w | none => oneF),
           qid := some (match r.qid with | some q => q | none => 0) }

def RowVal.WF (r : RowVal) : Prop :=
  (∀ fs, r.field = some fs → fs.length = r.index.length) ∧ (∀ vs, r.value = some vs → vs.length = r.index.length)

/-- the one-row block `Push(Row)` amounts to -/
def rowBlock (r : RowVal) : Block :=
  { size := 1, offset := [0, r.index.length], label := r.label.map (fun l => [l]),
    weight := some [match r.weight with | some w => w | none => oneF],
    qid := some [match r.qid with | some q => q | none => 0],
    field := r.field, index := some r.index, value := r.value }

-- Push(RowBlock)
/-- first entry position and number of entries of a block -/
def Block.off0 (b : Block) : Nat := b.offset.getD 0 0
def Block.ndata (b : Block) : Nat := b.offset.getD b.size 0 - b.offset.getD 0 0

/-- one optional array: the block carries it exactly when the container stores it for all its `rows` rows
(entries); vacuous when the block contributes nothing or the container array is still empty -/
def compatArr (a : List Nat) (rows : Nat) (p : Option (List Nat)) (m : Nat) : Bool :=
  decide (m = 0) ||
    (match p with
     | some _ => decide (a.length = rows)
     | none => a.isEmpty)

/-- the decidable side condition of `Push(RowBlock)` (finding C13-F3, class `mixed-presence-push`):
every optional array of the block is present exactly when the container stores it -/
def Compatible (c : Container) (b : Block) : Bool :=
  compatArr c.label (c.offset.length - 1) b.label b.size &&
  compatArr c.weight (c.offset.length - 1) b.weight b.size &&
  compatArr c.qid (c.offset.length - 1) b.qid b.size &&
  compatArr c.field c.index.length b.field b.ndata &&
  compatArr c.value c.index.length b.value b.ndata

/-- every index/field value the push copies fits the container's index type -/
def FitsLim (lim : Nat) (b : Block) : Prop :=
  (∀ x ∈ seg (ext b.index) b.off0 b.ndata, x ≤ lim) ∧
  (∀ l, b.field = some l → ∀ x ∈ seg l b.off0 b.ndata, x ≤ lim)

-- the blocks a parser hands to an iterator
/-- which optional arrays a stream of blocks carries -/
structure Sig where
  l : Bool
  w : Bool
  q : Bool
  f : Bool
  v : Bool

/-- the block carries exactly the arrays of `P` (irrelevant for a block without rows / entries) -/
def HasSig (P : Sig) (b : Block) : Prop :=
  (b.size = 0 ∨ b.label.isSome = P.l) ∧ (b.size = 0 ∨ b.weight.isSome = P.w) ∧ (b.size = 0 ∨ b.qid.isSome = P.q) ∧
  (b.ndata = 0 ∨ b.field.isSome = P.f) ∧ (b.ndata = 0 ∨ b.value.isSome = P.v)

structure BlockOk (P : Sig) (lim : Nat) (b : Block) : Prop where
  sound : Sound b = true
  sig : HasSig P b
  fits : FitsLim lim b
  small : b.off0 + b.ndata < 2 ^ 62

def blocksRowsN (bs : List Block) : List RowVal := bs.flatMap (fun b => b.rowsT.map RowVal.norm)

def sumSize (bs : List Block) : Nat := (bs.map (·.size)).sum
def sumData (bs : List Block) : Nat := (bs.map (·.ndata)).sum

-- Save / Load
def ElemsLt (w : Nat) (l : List Nat) : Prop := ∀ x ∈ l, x < 256 ^ w

/-- every stored value fits the width it is written with, every vector length fits the 64-bit count -/
structure InRange (iw : Nat) (c : Container) : Prop where
  offset : ElemsLt 8 c.offset ∧ c.offset.length < 2 ^ 64
  label : ElemsLt 4 c.label ∧ c.label.length < 2 ^ 64
  weight : ElemsLt 4 c.weight ∧ c.weight.length < 2 ^ 64
  qid : ElemsLt 8 c.qid ∧ c.qid.length < 2 ^ 64
  field : ElemsLt iw c.field ∧ c.field.length < 2 ^ 64
  index : ElemsLt iw c.index ∧ c.index.length < 2 ^ 64
  value : ElemsLt 4 c.value ∧ c.value.length < 2 ^ 64
  maxF : c.maxField < 256 ^ iw
  maxI : c.maxIndex < 256 ^ iw

/-- the values of the optional per-row arrays and of `value` fit their C++ types -/
structure BlockRange (b : Block) : Prop where
  label : ElemsLt 4 (ext b.label)
  weight : ElemsLt 4 (ext b.weight)
  qid : ElemsLt 8 (ext b.qid)
  value : ElemsLt 4 (ext b.value)

/-- `InRange` without the offsets and the length bounds, which follow from `Good` (`inRange_of`): `InRange` is what
`Save` / `Load` need, `Vals` what a push keeps (`vals_pushed`) -/
structure Vals (iw : Nat) (c : Container) : Prop where
  label : ElemsLt 4 c.label
  weight : ElemsLt 4 c.weight
  qid : ElemsLt 8 c.qid
  field : ElemsLt iw c.field
  index : ElemsLt iw c.index
  value : ElemsLt 4 c.value
  maxF : c.maxField < 256 ^ iw
  maxI : c.maxIndex < 256 ^ iw

/-- `RowBlockContainer<IndexType, float>` as a class with Save/Load: its nine members in Save order
(`iw = sizeof(IndexType)`) -/
def rbcTy (iw : Nat) : Ty :=
  .ccons (.vec (.arith .u 8)) (.ccons (.vec (.arith .f 4)) (.ccons (.vec (.arith .f 4)) (.ccons (.vec (.arith .u 8))
    (.ccons (.vec (.arith .u iw)) (.ccons (.vec (.arith .u iw)) (.ccons (.vec (.arith .f 4))
      (.ccons (.arith .u iw) (.ccons (.arith .u iw) .cnil))))))))

def rbcVal (iw : Nat) (c : Container) : Val (rbcTy iw) :=
  (c.offset, c.label, c.weight, c.qid, c.field, c.index, c.value, c.maxField, c.maxIndex, ())

end DmlcModel.RowBlock
