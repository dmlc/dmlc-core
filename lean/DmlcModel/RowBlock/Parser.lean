/-
Whatever the three ParseBlock disciplines leave in the container has non-decreasing offsets, so a block
that passes the CHECKs of `GetBlock` is sound.
-/
import DmlcModel.RowBlock.Lemmas

namespace DmlcModel.RowBlock
open DmlcModel DmlcModel.Gen.RowBlock

/-- offsets recorded so far are non-decreasing and none exceeds the number of entries stored -/
def OffInv (c : Container) : Prop :=
  mono c.offset = true ∧ ∀ y, c.offset.getLast? = some y → y ≤ c.index.length

theorem OffInv.empty : OffInv Container.empty := by
  refine ⟨rfl, ?_⟩
  intro y hy; simp [Container.empty] at hy; omega

theorem OffInv.pushOffset {c : Container} (h : OffInv c) :
    OffInv { c with offset := c.offset ++ [c.index.length] } := by
  refine ⟨mono_append_singleton _ _ h.1 h.2, ?_⟩
  intro y hy
  simp only [List.getLast?_append, List.getLast?_singleton, Option.some_or, Option.some.injEq] at hy
  subst hy
  exact Nat.le_refl _

theorem OffInv.grow {c c' : Container} (h : OffInv c) (ho : c'.offset = c.offset) (hi : c.index.length ≤ c'.index.length) :
    OffInv c' := by
  refine ⟨by rw [ho]; exact h.1, ?_⟩
  intro y hy; rw [ho] at hy; have := h.2 y hy; omega

theorem svmEntries_inv : ∀ (es : List Entry) (c : Container), OffInv c → OffInv (svmEntries c es)
  | [], _, h => h
  | e :: es, c, h => svmEntries_inv es _ (h.grow rfl (by simp))

theorem fmEntries_inv : ∀ (es : List Entry) (c : Container), OffInv c → OffInv (fmEntries c es)
  | [], _, h => h
  | e :: es, c, h => fmEntries_inv es _ (h.grow rfl (by simp))

theorem csvEntries_inv : ∀ (es : List Entry) (c : Container), OffInv c → OffInv (csvEntries c es)
  | [], _, h => h
  | e :: es, c, h => csvEntries_inv es _ (h.grow rfl (by simp))

/-- the guarded `offset.push_back(index.size())` at the start of a libsvm / libfm line and at the end of the block -/
theorem OffInv.offGuard {c : Container} (h : OffInv c) (g : Bool) :
    OffInv (if g then { c with offset := c.offset ++ [c.index.length] } else c) := by
  cases g
  · exact h
  · exact h.pushOffset

theorem svmLine_inv (c : Container) (ln : Line) (h : OffInv c) : OffInv (svmLine c ln) := by
  have h1 : OffInv { c with weight := pushOpt c.weight ln.weight } := h.grow rfl (Nat.le_refl _)
  exact svmEntries_inv _ _ ((h1.offGuard _).grow rfl (Nat.le_refl _))

theorem fmLine_inv (c : Container) (ln : Line) (h : OffInv c) : OffInv (fmLine c ln) := by
  have h1 : OffInv { c with weight := pushOpt c.weight ln.weight } := h.grow rfl (Nat.le_refl _)
  exact fmEntries_inv _ _ ((h1.offGuard _).grow rfl (Nat.le_refl _))

theorem foldl_inv (f : Container → Line → Container) (hf : ∀ c ln, OffInv c → OffInv (f c ln)) :
    ∀ (ls : List Line) (c : Container), OffInv c → OffInv (ls.foldl f c)
  | [], _, h => h
  | l :: ls, c, h => foldl_inv f hf ls _ (hf c l h)

theorem ok_of_endCheck {p : Bool} {x c : Container} {e : Err} (h : (if p then .ok x else .error e : R Container) = .ok c) :
    x = c := by
  cases p
  · cases h
  · exact Except.ok.inj h

theorem parseSvm_mono {ls : List Line} {c : Container} (h : parseSvm ls = .ok c) : mono c.offset = true :=
  ok_of_endCheck h ▸ ((foldl_inv svmLine svmLine_inv ls _ OffInv.empty).offGuard _).1

theorem parseFm_mono {ls : List Line} {c : Container} (h : parseFm ls = .ok c) : mono c.offset = true :=
  ok_of_endCheck (ok_of_check h).2 ▸ ((foldl_inv fmLine fmLine_inv ls _ OffInv.empty).offGuard _).1

theorem csvGo_inv : ∀ (ls : List Line) (c c' : Container), OffInv c → csvGo c ls = .ok c' → OffInv c'
  | [], c, c', h, e => by simp [csvGo] at e; subst e; exact h
  | ln :: rest, c, c', h, e => by
    simp only [csvGo] at e
    split at e
    · cases e
    · refine csvGo_inv rest _ c' ?_ e
      have h1 : OffInv { c with label := pushOpt c.label ln.label } := h.grow rfl (Nat.le_refl _)
      have h2 := csvEntries_inv ln.entries _ h1
      exact OffInv.pushOffset (h2.grow rfl (Nat.le_refl _))

theorem parseCsv_mono {ls : List Line} {c : Container} (h : parseCsv ls = .ok c) : mono c.offset = true := by
  unfold parseCsv at h
  cases hg : csvGo Container.empty ls with
  | error e => simp [hg] at h
  | ok c0 =>
    simp only [hg] at h
    exact ok_of_endCheck (ok_of_check h).2 ▸ (csvGo_inv ls _ _ OffInv.empty hg).1

theorem handOut_sound {c : Container} {b : Block} (hm : mono c.offset = true) (hs : ContainerSmall c)
    (h : handOut c = .ok (some b)) : Sound b = true := by
  unfold handOut at h
  split at h
  · cases hg : getBlock c with
    | error e => simp [hg] at h
    | ok b' =>
      simp [hg] at h
      subst h
      exact sound_of_getBlock hm hs hg
  · cases h

end DmlcModel.RowBlock
