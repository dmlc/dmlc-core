/-
Partition boundaries for the RECORDIO format on files written by the RecordIO writer.  The generic lemmas of SnapLemmas need
`SeekOk F` (a statement about ALL byte strings), which is false for `Fmt.recordio` on garbage; here everything is re-derived
relative to the files `recFiles rss`: `snap` on a 4-aligned offset is the least global record start `≥` it (`snap_rec`), so the
boundaries are `nextStart`s, the records of a part a slice of the record list, and the parts telescope.
-/
import DmlcModel.Split.SnapLemmas
import DmlcModel.Split.StreamLemmas
import DmlcModel.Split.RecLemmas
import DmlcModel.RecordIO.Tiling

namespace DmlcModel.Split
open DmlcModel DmlcModel.Gen.Split DmlcModel.RecordIO
open SnapAux

/-- the hypotheses of the boundary lemmas -/
structure RecOk (rss : List (List Bytes)) (n : Nat) : Prop where
  ok : RssOk rss
  total : totalSize (recFiles rss) < 2^62
  pos : 0 < n
  lt : n < 2^32

theorem flatten_recFiles (rss : List (List Bytes)) : (recFiles rss).flatten = writeAll rss.flatten := by
  induction rss with
  | nil => rfl
  | cons rs rss ih =>
    have e : recFiles (rs :: rss) = writeAll rs :: recFiles rss := rfl
    rw [e, List.flatten_cons, List.flatten_cons, writeAll_append, ih]

theorem totalSize_recFiles (rss : List (List Bytes)) :
    totalSize (recFiles rss) = (writeAll rss.flatten).length := by
  rw [totalSize_eq_flatten, flatten_recFiles]

namespace RecSnapAux

theorem short_flatten (rss : List (List Bytes)) (hrss : RssOk rss) : Short rss.flatten := by
  intro r hr
  obtain ⟨rs, hrs, hr'⟩ := List.mem_flatten.mp hr
  exact (hrss rs hrs).2 r hr'

theorem short_append {a b : List Bytes} (ha : Short a) (hb : Short b) : Short (a ++ b) :=
  Split.short_append.2 ⟨ha, hb⟩

theorem fileOffset_eq_total_take (files : List Bytes) (i : Nat) :
    fileOffset files i = totalSize (files.take i) := by
  unfold totalSize fileOffset
  rw [List.take_of_length_le (Nat.le_refl _)]

theorem fileOffset_recFiles (rss : List (List Bytes)) (i : Nat) :
    fileOffset (recFiles rss) i = (writeAll (rss.take i).flatten).length := by
  rw [fileOffset_eq_total_take]
  have e : (recFiles rss).take i = recFiles (rss.take i) := by
    unfold recFiles; rw [List.map_take]
  rw [e, totalSize_recFiles]

theorem flatten_split (rss : List (List Bytes)) (i : Nat) (rs : List Bytes) (rest : List (List Bytes))
    (h : rss.drop i = rs :: rest) : rss.flatten = (rss.take i).flatten ++ (rs ++ rest.flatten) := by
  conv => lhs; rw [← List.take_append_drop i rss, h]
  rw [List.flatten_append, List.flatten_cons]

theorem recFiles_drop (rss : List (List Bytes)) (i : Nat) (f : Bytes) (later : List Bytes)
    (h : (recFiles rss).drop i = f :: later) :
    ∃ rs rest, rss.drop i = rs :: rest ∧ f = writeAll rs := by
  unfold recFiles at h
  rw [← List.map_drop] at h
  cases hd : rss.drop i with
  | nil => rw [hd] at h; simp at h
  | cons rs rest =>
    rw [hd] at h
    simp only [List.map_cons, List.cons.injEq] at h
    exact ⟨rs, rest, rfl, h.1.symm⟩

theorem recFiles_ne (rss : List (List Bytes)) (hrss : RssOk rss) : ∀ f ∈ recFiles rss, f ≠ [] := by
  intro f hf
  unfold recFiles at hf
  obtain ⟨rs, hrs, rfl⟩ := List.mem_map.mp hf
  obtain ⟨hne, hsh⟩ := hrss rs hrs
  intro e
  have := writeAll_length_ge rs hsh
  rw [e, List.length_nil] at this
  exact hne (List.length_eq_zero_iff.mp (by omega))

theorem total_mod4 (rss : List (List Bytes)) (hrss : RssOk rss) : totalSize (recFiles rss) % 4 = 0 := by
  rw [totalSize_recFiles]
  exact writeAll_length_mod4 _ (short_flatten rss hrss)

theorem fileOffset_mod4 (rss : List (List Bytes)) (hrss : RssOk rss) (i : Nat) :
    fileOffset (recFiles rss) i % 4 = 0 := by
  rw [fileOffset_recFiles]
  refine writeAll_length_mod4 _ (short_flatten _ ?_)
  intro rs hrs
  exact hrss rs (List.mem_of_mem_take hrs)

end RecSnapAux
open RecSnapAux

theorem snap_rec (rss : List (List Bytes)) (hrss : RssOk rss) (ht : totalSize (recFiles rss) < 2^62)
    (x : Nat) (hx4 : x % 4 = 0) (hx : x ≤ totalSize (recFiles rss)) :
    snap Fmt.recordio (recFiles rss) x = .ok (nextStart rss.flatten 0 x) := by
  by_cases hb : x = fileOffset (recFiles rss) (filePtrOf (recFiles rss) x)
  · rw [snap_start _ _ x hb]
    generalize filePtrOf (recFiles rss) x = i at hb
    rw [fileOffset_recFiles] at hb
    have h1 := nextStart_le_total (rss.take i).flatten 0 x
    have h2 := le_nextStart (rss.take i).flatten 0 x (by omega)
    rw [← List.take_append_drop i rss, List.flatten_append, nextStart_append, if_pos (by omega)]
    congr 1
    omega
  · have hxt := interior_lt_total (recFiles rss) x hx hb
    have hle := fileOffset_filePtrOf_le (recFiles rss) x
    obtain ⟨f, hd, ho, hlt⟩ := drop_filePtrOf (recFiles rss) x hxt
    obtain ⟨rs, rest, hdr, rfl⟩ := recFiles_drop rss _ f _ hd
    have hrs := hrss rs (List.mem_of_mem_drop (hdr ▸ List.mem_cons_self ..))
    have hfo4 := fileOffset_mod4 rss hrss (filePtrOf (recFiles rss) x)
    have hnext := fileOffset_le_total (recFiles rss) (filePtrOf (recFiles rss) x + 1)
    rw [snap_inside _ _ x _ _ hb hd, flatten_split rss _ rs rest hdr, nextStart_append, nextStart_append, ← fileOffset_recFiles]
    generalize fileOffset (recFiles rss) (filePtrOf (recFiles rss) x) = fo at *
    obtain ⟨c, hs⟩ := recSeek_spec rs hrs.2 (x - fo) (by omega) (by omega) (by omega)
    have hs' : Fmt.recordio.seekRecordBegin ((writeAll rs).drop (x - fo)) = .ok (nextStart rs 0 (x - fo) - (x - fo), c) := hs
    have h2 := le_nextStart rs 0 (x - fo) (by omega)
    have h3 := nextStart_shift rs fo 0 (x - fo)
    rw [Nat.zero_add, Nat.sub_add_cancel hle] at h3
    rw [Nat.zero_add, hs', if_neg (by omega), if_pos (by omega), h3]
    show Except.ok _ = _
    congr 1
    omega

theorem recordio_align : Fmt.recordio.align = 4 := rfl

theorem rawBnd_rec_mod4 {rss : List (List Bytes)} {n : Nat} (h : RecOk rss n) (j : Nat) :
    rawBnd Fmt.recordio (recFiles rss) n j % 4 = 0 := by
  have ht4 := total_mod4 rss h.ok
  have ht := h.total
  have hst := rpStepRaw_le (totalSize (recFiles rss)) n ht h.pos h.lt
  unfold rawBnd
  rw [recordio_align, rpStepAlign_spec _ 4 (by omega) (Or.inr recordio_align)]
  generalize (rpStepRaw (totalSize (recFiles rss)) n + 4 - 1) / 4 = q
  have e : q * 4 * j = 4 * (q * j) := by rw [Nat.mul_comm q 4, Nat.mul_assoc]
  rw [e]
  generalize q * j = m
  simp only [Nat.min_def]
  split <;> omega

theorem bndR_spec {rss : List (List Bytes)} {n : Nat} (h : RecOk rss n) (j : Nat) :
    bnd Fmt.recordio (recFiles rss) n j = .ok (bndR rss n j) ∧
      bndR rss n j = nextStart rss.flatten 0 (rawBnd Fmt.recordio (recFiles rss) n j) := by
  have hb : bnd Fmt.recordio (recFiles rss) n j
      = .ok (nextStart rss.flatten 0 (rawBnd Fmt.recordio (recFiles rss) n j)) :=
    snap_rec rss h.ok h.total _ (rawBnd_rec_mod4 h j) (rawBnd_le _ _ _ _)
  unfold bndR
  rw [hb, okVal_ok]
  exact ⟨rfl, rfl⟩

theorem bnd_rec_eq {rss : List (List Bytes)} {n : Nat} (h : RecOk rss n) (j : Nat) :
    bnd Fmt.recordio (recFiles rss) n j = .ok (bndR rss n j) :=
  (bndR_spec h j).1

theorem bndR_zero (rss : List (List Bytes)) (n : Nat) : bndR rss n 0 = 0 := by
  unfold bndR bnd
  rw [rawBnd_zero, snap_zero, okVal_ok]

theorem bndR_last (rss : List (List Bytes)) (ht : totalSize (recFiles rss) < 2^62)
    (n : Nat) (hn0 : 0 < n) (hn : n < 2^32) : bndR rss n n = totalSize (recFiles rss) := by
  unfold bndR bnd
  rw [rawBnd_last Fmt.recordio (recFiles rss) n (Or.inr recordio_align) ht hn0 hn,
    snap_total Fmt.recordio (recFiles rss), okVal_ok]

theorem bndR_mono {rss : List (List Bytes)} {n : Nat} (h : RecOk rss n) (i j : Nat) (hij : i ≤ j) :
    bndR rss n i ≤ bndR rss n j := by
  rw [(bndR_spec h i).2, (bndR_spec h j).2]
  exact nextStart_mono _ _ _ _ (rawBnd_mono Fmt.recordio (recFiles rss) n i j hij)

theorem bndR_le {rss : List (List Bytes)} {n : Nat} (h : RecOk rss n) (j : Nat) :
    bndR rss n j ≤ totalSize (recFiles rss) := by
  rw [(bndR_spec h j).2, totalSize_recFiles, ← Nat.zero_add (writeAll _).length]
  exact nextStart_le_total _ _ _

theorem bndR_ghead {rss : List (List Bytes)} {n : Nat} (h : RecOk rss n) (j : Nat) : GHead rss (bndR rss n j) := by
  rw [(bndR_spec h j).2]
  obtain ⟨i, hi, e⟩ := nextStart_isStart rss.flatten 0 (rawBnd Fmt.recordio (recFiles rss) n j)
  exact ⟨i, hi, e.trans (Nat.zero_add _)⟩

theorem bndR_mod4 {rss : List (List Bytes)} {n : Nat} (h : RecOk rss n) (j : Nat) : bndR rss n j % 4 = 0 := by
  obtain ⟨i, _, hi⟩ := bndR_ghead h j
  rw [hi]
  exact writeAll_length_mod4 _ (short_take (short_flatten rss h.ok) i)

theorem rawBnd_le_bndR (rss : List (List Bytes)) (hrss : RssOk rss) (ht : totalSize (recFiles rss) < 2^62)
    (n j : Nat) (hn0 : 0 < n) (hn : n < 2^32) : rawBnd Fmt.recordio (recFiles rss) n j ≤ bndR rss n j := by
  rw [(bndR_spec ⟨hrss, ht, hn0, hn⟩ j).2]
  exact le_nextStart _ _ _ (by rw [Nat.zero_add, ← totalSize_recFiles]; exact rawBnd_le _ _ _ _)

namespace RecSnapAux

theorem recsIn_cons (r : Bytes) (rs : List Bytes) (off b e : Nat) :
    recsIn (r :: rs) off b e =
      (if b ≤ off ∧ off < e then [r] else []) ++ recsIn rs (off + (writeRecord r).1.length) b e := rfl

theorem recsIn_shift (R : List Bytes) : ∀ (off b e d : Nat),
    recsIn R (off + d) (b + d) (e + d) = recsIn R off b e := by
  induction R with
  | nil => intros; rfl
  | cons r rs ih =>
    intro off b e d
    rw [recsIn_cons, recsIn_cons]
    have e1 : off + d + (writeRecord r).1.length = off + (writeRecord r).1.length + d := by omega
    rw [e1, ih]
    by_cases hc : b ≤ off ∧ off < e
    · rw [if_pos hc, if_pos (by omega)]
    · rw [if_neg hc, if_neg (by omega)]

end RecSnapAux

theorem recsIn_eq_slice (R : List Bytes) : ∀ (off b e : Nat),
    recsIn R off b e = (R.drop (startIdx R off b)).take (startIdx R off e - startIdx R off b) := by
  induction R with
  | nil => intros; rfl
  | cons r rs ih =>
    intro off b e
    have h0 : ∀ o, o ≤ off → startIdx rs (off + (writeRecord r).1.length) o = 0 :=
      fun o h => startIdx_of_le rs _ o (Nat.le_add_right_of_le h)
    rw [recsIn_cons, ih]
    simp only [startIdx, imageLen]
    by_cases hb : b ≤ off
    · rw [if_pos hb, h0 b hb]
      by_cases he : e ≤ off
      · rw [if_pos he, if_neg (by omega), h0 e he]; rfl
      · rw [if_neg he, if_pos ⟨hb, by omega⟩, Nat.add_comm 1]; rfl
    · rw [if_neg hb, if_neg (fun h => hb h.1)]
      by_cases he : e ≤ off
      · rw [if_pos he, h0 e he, Nat.zero_sub, Nat.zero_sub]; rfl
      · rw [if_neg he, Nat.add_comm 1, Nat.add_comm 1, Nat.add_sub_add_right]; rfl

theorem recsIn_split (R : List Bytes) (off a m c : Nat) (h1 : a ≤ m) (h2 : m ≤ c) :
    recsIn R off a m ++ recsIn R off m c = recsIn R off a c := by
  simp only [recsIn_eq_slice]
  exact slice_append R _ _ _ (startIdx_mono R off a m h1) (startIdx_mono R off m c h2)

theorem short_recsIn (R : List Bytes) (hR : Short R) (off b e : Nat) : Short (recsIn R off b e) := by
  rw [recsIn_eq_slice]
  exact fun r hr => hR r (List.mem_of_mem_drop (List.mem_of_mem_take hr))

theorem writeAll_recsIn (R : List Bytes) (hR : Short R) (off b e : Nat) (hb : IsHead R b) (he : IsHead R e)
    (hbe : b ≤ e) : writeAll (recsIn R off (off + b) (off + e)) = ((writeAll R).drop b).take (e - b) := by
  obtain ⟨i, hi, rfl⟩ := hb
  obtain ⟨j, hj, rfl⟩ := he
  have hij := startIdx_mono R off _ _ (Nat.add_le_add_left hbe off)
  rw [recsIn_eq_slice, startIdx_head R hR off i hi, startIdx_head R hR off j hj] at *
  exact writeAll_slice R i j hij

/-- the records that START in it -/
theorem rangeStream_rec (rss : List (List Bytes)) (hrss : RssOk rss) (b e : Nat) (hb : GHead rss b)
    (he : GHead rss e) (hbe : b ≤ e) :
    rangeStream false (recFiles rss) b e = writeAll (recsIn rss.flatten 0 b e) := by
  have hle := isHead_le _ _ he
  rw [rangeStream_binary (recFiles rss) (recFiles_ne rss hrss) b e hbe
    (by rw [totalSize_recFiles]; exact hle), flatten_recFiles]
  have := writeAll_recsIn rss.flatten (short_flatten rss hrss) 0 b e hb he hbe
  rw [Nat.zero_add, Nat.zero_add] at this
  exact this.symm

theorem recsIn_telescope (R : List Bytes) (off : Nat) (cs : List Nat) (c0 : Nat)
    (hchain : List.Pairwise (· ≤ ·) (c0 :: cs)) :
    ((c0 :: cs).zip cs).flatMap (fun p => recsIn R off p.1 p.2)
      = recsIn R off c0 ((c0 :: cs).getLast (by simp)) :=
  flatMap_zip_telescope (recsIn R off) (fun _ => True) (fun _ => True)
    (fun a _ => by rw [recsIn_eq_slice, Nat.sub_self, List.take_zero]) (fun a m c h1 h2 _ _ => recsIn_split R off a m c h1 h2)
    cs c0 hchain (fun _ _ => trivial) (fun _ _ => trivial)

theorem records_parts_telescope {rss : List (List Bytes)} {n : Nat} (h : RecOk rss n) :
    (List.range n).flatMap (fun k => recsIn rss.flatten 0 (bndR rss n k) (bndR rss n (k + 1))) = rss.flatten := by
  simp only [recsIn_eq_slice]
  exact slices_cover _ (short_flatten rss h.ok) (bndR rss n) n
    (fun k _ => bndR_mono h k (k + 1) (by omega)) (bndR_zero rss n)
    ((bndR_last rss h.total n h.pos h.lt).trans (totalSize_recFiles rss))

theorem rangeStream_part_rec {rss : List (List Bytes)} {n : Nat} (h : RecOk rss n) (k : Nat) :
    rangeStream false (recFiles rss) (bndR rss n k) (bndR rss n (k + 1))
      = writeAll (recsIn rss.flatten 0 (bndR rss n k) (bndR rss n (k + 1))) :=
  rangeStream_rec rss h.ok _ _ (bndR_ghead h k) (bndR_ghead h (k + 1)) (bndR_mono h k (k + 1) (by omega))

theorem bndR_match (rss : List (List Bytes)) (n j : Nat) :
    bndR rss n j = (match bnd Fmt.recordio (recFiles rss) n j with | .ok y => y | .error _ => 0) := by
  unfold bndR
  generalize bnd Fmt.recordio (recFiles rss) n j = v
  cases v <;> rfl

end DmlcModel.Split
