/-
`InputSplitBase::Read`: one call delivers a prefix of the pending stream of the part (`pending`), keeps `RInv`, and raises no
error under it (the "file offset not calculated correctly" fatal, the out-of-range `files_[file_ptr_]` and the model's fuel bound
are unreachable).  The C++ wrap-around comparisons `offset_curr_ + size > offset_end_` and `file_ptr_ + 1 >= files_.size()`
need the range hypothesis `totalSize s.files + size < 2^64`.
-/
import DmlcModel.Split.OffsetLemmas
import DmlcModel.Split.Unfold

namespace DmlcModel.Split
open DmlcModel DmlcModel.Gen.Split

theorem rdClip_min (oc size oe : Nat) (h1 : oc ≤ oe) (h2 : oe + size < 2 ^ 64) :
    (if rdClip oc size oe = true then rdClipped oc oe else size) = min size (oe - oc) := by
  unfold rdClip rdClipped
  rw [u64_of_lt (Nat.lt_of_le_of_lt (Nat.add_le_add_right h1 size) h2),
    sub64_of_le (Nat.lt_of_le_of_lt (Nat.le_add_right _ _) h2) h1]
  by_cases hc : oe < oc + size
  · rw [if_pos (decide_eq_true hc)]
    exact (Nat.min_eq_right (Nat.le_of_lt (Nat.sub_lt_left_of_lt_add h1 hc))).symm
  · rw [if_neg (fun h => hc (of_decide_eq_true h))]
    exact (Nat.min_eq_left (Nat.le_sub_of_add_le' (Nat.le_of_not_lt hc))).symm

theorem rdOffsetBad_spec (oc fo : Nat) : rdOffsetBad oc fo = decide (oc ≠ fo) := by
  by_cases h : oc = fo <;> simp [rdOffsetBad, h]

theorem rdLastFile_spec (fp n : Nat) (h : fp + 1 < 2 ^ 64) :
    rdLastFile fp n = decide (n ≤ fp + 1) := by
  simp [rdLastFile, u64_of_lt h]

theorem rdNewline_byte : UInt8.ofNat rdNewline = 10 := by decide

theorem totalSize_of_drop (files : List Bytes) (fp : Nat) (f : Bytes) (later : List Bytes)
    (h : files.drop fp = f :: later) :
    totalSize files = fileOffset files fp + (f.length + (later.map List.length).sum) := by
  rw [← List.sum_cons, ← List.map_cons, ← h]
  unfold totalSize fileOffset
  rw [List.take_length, ← List.sum_append, ← List.map_append, List.take_append_drop]

theorem fileOffset_succ (files : List Bytes) (fp : Nat) (f : Bytes) (later : List Bytes)
    (h : files.drop fp = f :: later) :
    fileOffset files (fp + 1) = fileOffset files fp + f.length :=
  SnapAux.fileOffset_succ_of_drop files fp f later h

theorem drop_succ_of_drop {α} (l : List α) (n : Nat) (a : α) (r : List α) (h : l.drop n = a :: r) :
    l.drop (n + 1) = r := by
  rw [← List.tail_drop, h, List.tail_cons]

theorem pendFrom_zero (isText : Bool) (later : List Bytes) (cur : Bytes) :
    pendFrom isText later cur 0 = [] :=
  pendFrom_of_le isText later cur 0 (Nat.zero_le _)

theorem pendFrom_take (isText : Bool) (later : List Bytes) (cur : Bytes) (budget n : Nat)
    (h1 : n ≤ cur.length) (h2 : n ≤ budget) :
    cur.take n ++ pendFrom isText later (cur.drop n) (budget - n) = pendFrom isText later cur budget := by
  have htake : cur.take n ++ (cur.drop n).take (budget - n) = cur.take budget := by
    conv => rhs; rw [← Nat.add_sub_of_le h2, List.take_add]
  cases later with
  | nil => simpa [pendFrom] using htake
  | cons f fs =>
    simp only [pendFrom, List.length_drop]
    by_cases hb : budget ≤ cur.length
    · rw [if_pos hb, if_pos (Nat.sub_le_sub_right hb n)]
      exact htake
    · rw [if_neg hb, if_neg (fun h => hb ((Nat.sub_le_sub_iff_right h1).mp h)), Nat.sub_sub_sub_cancel_right h1,
        ← List.append_assoc, ← List.append_assoc, List.take_append_drop]

/-! the byte injected behind a text file, as the list `if isText then [10] else []` of `pendFrom` -/

theorem newline_length_le (isText : Bool) : (if isText = true then [(10 : UInt8)] else []).length ≤ 1 := by
  cases isText <;> decide

theorem newline_count (isText : Bool) :
    (if isText = true then [(10 : UInt8)] else []).count 10 = (if isText = true then [(10 : UInt8)] else []).length := by
  cases isText <;> rfl

theorem ite_snoc_newline (isText : Bool) (a : Bytes) :
    (if isText = true then a ++ [UInt8.ofNat rdNewline] else a) = a ++ (if isText = true then [10] else []) := by
  cases isText
  · exact (List.append_nil a).symm
  · rfl

theorem ite_sub_newline (isText : Bool) (n : Nat) :
    (if isText = true then n - 1 else n) = n - (if isText = true then [(10 : UInt8)] else []).length := by
  cases isText <;> rfl

/-- the real bytes (the budget, as far as the files reach) and `k` injected newlines, at most one per later file, none in binary
mode; with non-empty files every newline but the first follows a real byte -/
theorem pendFrom_length (isText : Bool) (later : List Bytes) : ∀ (cur : Bytes) (budget : Nat),
    ∃ k, (pendFrom isText later cur budget).length = min budget (cur.length + (later.map List.length).sum) + k ∧
      k ≤ later.length ∧ (isText = false → k = 0) ∧
      ((∀ g ∈ later, g ≠ []) → k ≤ budget ∧ (cur ≠ [] → budget ≠ 0 → k + 1 ≤ budget)) := by
  induction later with
  | nil =>
    intro cur budget
    exact ⟨0, by simp [pendFrom], Nat.le_refl _, fun _ => rfl, fun _ => ⟨Nat.zero_le _, fun _ h => Nat.pos_of_ne_zero h⟩⟩
  | cons f fs ih =>
    intro cur budget
    simp only [pendFrom, List.map_cons, List.sum_cons, List.length_cons]
    by_cases hb : budget ≤ cur.length
    · rw [if_pos hb, List.length_take]
      exact ⟨0, by omega, Nat.zero_le _, fun _ => rfl, fun _ => ⟨Nat.zero_le _, fun _ h => Nat.pos_of_ne_zero h⟩⟩
    · obtain ⟨k, h1, h2, h3, h4⟩ := ih f (budget - cur.length)
      rw [if_neg hb, List.length_append, List.length_append, h1]
      have hnl := newline_length_le isText
      refine ⟨(if isText = true then [(10 : UInt8)] else []).length + k, by omega, by omega, fun h => ?_, fun hne => ?_⟩
      · rw [h3 h, h]; rfl
      · have hf : 0 < f.length := List.length_pos_iff.mpr (hne f (by simp))
        have := (h4 fun g hg => hne g (by simp [hg])).2 (List.length_pos_iff.mp hf) (by omega)
        exact ⟨by omega, fun hc _ => by have := List.length_pos_iff.mpr hc; omega⟩

theorem pendFrom_length_le (isText : Bool) (later : List Bytes) (cur : Bytes) (budget : Nat)
    (hne : ∀ g ∈ later, g ≠ []) : (pendFrom isText later cur budget).length ≤ 2 * budget := by
  obtain ⟨k, h, _, _, h4⟩ := pendFrom_length isText later cur budget
  have := (h4 hne).1
  omega

theorem pending_eq_nil (F : Fmt) (s : Base) (h : s.fpos = none ∨ s.offEnd ≤ s.offBegin) : pending F s = [] := by
  unfold pending
  rcases h with h | h
  · rw [h]
  · split
    · rfl
    · exact if_pos h

/-- `pending` is unfolded here and in `pending_eq_nil` only -/
theorem pending_pend (F : Fmt) (s : Base) {pos : Nat} (hfp : s.fpos = some pos) (hne : ¬ s.offEnd ≤ s.offBegin) :
    pending F s = pend F.isText s.files s.filePtr pos (s.offEnd - s.offCurr) := by
  simp only [pending, hfp, hne, if_false]

theorem pending_eq (F : Fmt) (s : Base) {pos : Nat} {f : Bytes} {later : List Bytes} (hfp : s.fpos = some pos)
    (hd : s.files.drop s.filePtr = f :: later) (hne : ¬ s.offEnd ≤ s.offBegin) :
    pending F s = pendFrom F.isText later (f.drop pos) (s.offEnd - s.offCurr) := by
  rw [pending_pend F s hfp hne, pend, hd]

/-- `budget`: that many real bytes do not outlive the last file -/
theorem readLoop_spec (isText : Bool) (files : List Bytes) (hlen : files.length < 2 ^ 64) :
    ∀ (fuel nleft fp pos oc : Nat) (acc f : Bytes) (later : List Bytes) (budget : Nat),
      files.drop fp = f :: later → pos ≤ f.length → oc = fileOffset files fp + pos →
      nleft ≤ budget → budget ≤ (f.length - pos) + (later.map List.length).sum →
      later.length < fuel →
      ∃ (taken : Bytes) (fp' pos' oc' : Nat) (f' : Bytes) (later' : List Bytes),
        readLoop isText files fuel nleft fp pos oc acc = .ok (acc ++ taken, fp', pos', oc') ∧
        files.drop fp' = f' :: later' ∧ pos' ≤ f'.length ∧ oc' = fileOffset files fp' + pos' ∧
        oc ≤ oc' ∧ oc' - oc ≤ budget ∧ taken.length = nleft ∧
        taken ++ pendFrom isText later' (f'.drop pos') (budget - (oc' - oc))
          = pendFrom isText later (f.drop pos) budget ∧
        taken.length ≤ (oc' - oc) + taken.count 10 := by
  intro fuel
  induction fuel with
  | zero => intro nleft fp pos oc acc f later budget _ _ _ _ _ hf; exact absurd hf (Nat.not_lt_zero _)
  | succ fuel ih =>
    intro nleft fp pos oc acc f later budget hdrop hpos hoc hnb hbud hfuel
    unfold readLoop
    rw [hdrop]
    simp only
    by_cases hcase : nleft ≤ f.length - pos
    · -- the request is served from the current file
      have hn : ((f.drop pos).take nleft).length = nleft := by
        rw [List.length_take, List.length_drop]; exact Nat.min_eq_left hcase
      refine ⟨(f.drop pos).take nleft, fp, pos + nleft, oc + nleft, f, later, ?_, hdrop,
        Nat.add_le_of_le_sub' hpos hcase, by rw [hoc, Nat.add_assoc], Nat.le_add_right _ _,
        by rw [Nat.add_sub_cancel_left]; exact hnb, hn, ?_,
        by rw [hn, Nat.add_sub_cancel_left]; exact Nat.le_add_right _ _⟩
      · simp [hn]
      · rw [Nat.add_sub_cancel_left, ← List.drop_drop]
        exact pendFrom_take isText later (f.drop pos) budget nleft (by rw [List.length_drop]; exact hcase) hnb
    · -- the current file is exhausted
      have hcur : (f.drop pos).length = f.length - pos := by simp only [List.length_drop]
      have hgot : (f.drop pos).take nleft = f.drop pos :=
        List.take_of_length_le (by rw [hcur]; exact Nat.le_of_not_le hcase)
      rw [hgot, hcur]
      generalize hr : f.length - pos = r at *
      have hfl : f.length = pos + r := by rw [← hr]; exact (Nat.add_sub_of_le hpos).symm
      have hrn : r < nleft := Nat.lt_of_not_le hcase
      clear hpos hr hgot
      have hne : ¬ (nleft - r = 0) := fun h => hcase (Nat.sub_eq_zero_iff_le.mp h)
      simp only [hne, if_false]
      -- a later file exists
      cases later with
      | nil => exact absurd (Nat.le_trans hnb hbud) hcase
      | cons f2 fs =>
        have hdrop2 : files.drop (fp + 1) = f2 :: fs := drop_succ_of_drop files fp f (f2 :: fs) hdrop
        have hlt : fp + 1 < files.length :=
          Nat.lt_of_not_le fun h => by rw [List.drop_eq_nil_of_le h] at hdrop2; cases hdrop2
        have hoff : fileOffset files (fp + 1) = oc + r := by
          rw [fileOffset_succ files fp f (f2 :: fs) hdrop, hoc, hfl, Nat.add_assoc]
        have hbad : rdOffsetBad (oc + r) (fileOffset files (fp + 1)) = false := by
          rw [rdOffsetBad_spec, hoff]; exact decide_eq_false (fun h => h rfl)
        have hlast : rdLastFile fp files.length = false := by
          rw [rdLastFile_spec fp files.length (Nat.lt_trans hlt hlen)]; exact decide_eq_false (Nat.not_le.mpr hlt)
        simp only [hbad, hlast, Bool.false_eq_true, if_false]
        rw [ite_snoc_newline, ite_sub_newline]
        have hnlr : (if isText = true then [(10 : UInt8)] else []).length ≤ nleft - r :=
          Nat.le_trans (newline_length_le isText) (Nat.sub_pos_of_lt hrn)
        have hrb : r ≤ budget := Nat.le_trans (Nat.le_of_lt hrn) hnb
        obtain ⟨taken, fp', pos', oc', f', later', hrun, hd', hp', ho', hle, hbd, htl, hpend, hcnt⟩ :=
          ih _ (fp + 1) 0 (oc + r) _ f2 fs (budget - r) hdrop2 (Nat.zero_le _) hoff.symm
            (Nat.le_trans (Nat.sub_le _ _) (Nat.sub_le_sub_right hnb r)) (Nat.sub_le_iff_le_add'.mpr hbud)
            (Nat.lt_of_succ_lt_succ hfuel)
        rw [← Nat.sub_sub] at hbd hpend hcnt
        rw [Nat.sub_sub_sub_cancel_right (Nat.le_sub_of_add_le' hle), List.drop_zero] at hpend
        refine ⟨f.drop pos ++ (if isText = true then [10] else []) ++ taken, fp', pos', oc', f', later',
          ?_, hd', hp', ho', Nat.le_trans (Nat.le_add_right _ _) hle, Nat.le_of_sub_le_sub_right hrb hbd, ?_, ?_, ?_⟩
        · rw [hrun]
          simp only [List.append_assoc]
        · simp only [List.length_append, hcur, htl]
          rw [Nat.add_assoc, Nat.add_sub_of_le hnlr, Nat.add_sub_of_le (Nat.le_of_lt hrn)]
        · rw [pendFrom_next isText f2 fs (f.drop pos) budget (by rw [hcur]; exact Nat.lt_of_lt_of_le hrn hnb), hcur,
            ← hpend]
          simp only [List.append_assoc]
        · simp only [List.length_append, List.count_append, hcur, newline_count]
          omega

structure ReadPost (F : Fmt) (s : Base) (size : Nat) (bytes : Bytes) (s' : Base) : Prop where
  rinv : RInv s'
  app : bytes ++ pending F s' = pending F s
  len : bytes.length ≤ size
  nil : bytes = [] → size = 0 ∨ pending F s = []
  files : s'.files = s.files
  offBegin : s'.offBegin = s.offBegin
  offEnd : s'.offEnd = s.offEnd
  chunk : s'.chunk = s.chunk
  overflow : s'.overflow = s.overflow
  bufWords : s'.bufWords = s.bufWords

theorem readPost_nil (F : Fmt) (s : Base) (size : Nat) (hinv : RInv s) (h : size = 0 ∨ pending F s = []) :
    ReadPost F s size [] s :=
  ⟨hinv, rfl, Nat.zero_le _, fun _ => h, rfl, rfl, rfl, rfl, rfl, rfl⟩

/-- the three clauses after `ReadPost` (the length of a `Read` inside a part; `offset_curr_` does not go back; every byte that
does not advance it is an injected newline) are what `read_short` needs to bound the doubling loop of `Chunk::Load` -/
theorem read_ok (F : Fmt) (s : Base) (size : Nat) (hinv : RInv s)
    (hrange : totalSize s.files + size < 2 ^ 64) :
    ∃ bytes s', read F s size = .ok (bytes, s') ∧ ReadPost F s size bytes s' ∧
      (s.fpos ≠ none → s.offBegin < s.offEnd → bytes.length = min size (s.offEnd - s.offCurr)) ∧
      s.offCurr ≤ s'.offCurr ∧ bytes.length ≤ (s'.offCurr - s.offCurr) + bytes.count 10 := by
  have hinv0 := hinv
  obtain ⟨hne, htot, hpos⟩ := hinv
  by_cases hemp : s.offEnd ≤ s.offBegin
  · rw [read_empty F s size hemp]
    exact ⟨[], s, rfl, readPost_nil F s size hinv0 (Or.inr (pending_eq_nil F s (Or.inr hemp))),
      fun _ h => absurd hemp (Nat.not_le.mpr h), Nat.le_refl _, by simp⟩
  · rcases hpos with h | ⟨pos, f, hfp, hdrop, hp, hoc, hb, he⟩
    · exact absurd h hemp
    · rw [read_open F s size hfp hemp,
        rdClip_min _ _ _ he (Nat.lt_of_le_of_lt (Nat.add_le_add_right htot size) hrange)]
      have hpend := pending_eq F s hfp hdrop hemp
      by_cases hz : min size (s.offEnd - s.offCurr) = 0
      · simp only [hz, if_true]
        exact ⟨[], s, rfl, readPost_nil F s size hinv0
          ((Nat.min_eq_zero_iff.mp hz).imp_right fun h => by rw [hpend, h, pendFrom_zero]),
          fun _ _ => rfl, Nat.le_refl _, by simp⟩
      · simp only [hz, if_false]
        have hflen : s.files.length < 2 ^ 64 :=
          Nat.lt_of_le_of_lt (length_le_totalSize s.files hne) (Nat.lt_of_le_of_lt (Nat.le_add_right _ _) hrange)
        have hsplit := totalSize_of_drop s.files s.filePtr f _ hdrop
        obtain ⟨taken, fp', pos', oc', f', later', hrun, hd', hp', ho', hle, hbd, htl, hpd, hcnt⟩ :=
          readLoop_spec F.isText s.files hflen (s.files.length + 1) (min size (s.offEnd - s.offCurr))
            s.filePtr pos s.offCurr [] f (s.files.drop (s.filePtr + 1)) (s.offEnd - s.offCurr)
            hdrop hp hoc (Nat.min_le_right _ _) (by omega)
            (by rw [List.length_drop]; exact Nat.lt_succ_of_le (Nat.sub_le _ _))
        rw [hrun]
        simp only [List.nil_append]
        have hlater' : s.files.drop (fp' + 1) = later' := drop_succ_of_drop s.files fp' f' later' hd'
        refine ⟨taken, _, rfl, ⟨⟨hne, htot, Or.inr ⟨pos', f', rfl, ?_, hp', ho', ?_, ?_⟩⟩, ?_, ?_, ?_,
          rfl, rfl, rfl, rfl, rfl, rfl⟩, fun _ _ => htl, hle, hcnt⟩
        · show s.files.drop fp' = f' :: s.files.drop (fp' + 1)
          rw [hlater']; exact hd'
        · exact Nat.le_trans hb hle
        · exact Nat.le_of_sub_le_sub_right he hbd
        · rw [hpend, ← hpd, Nat.sub_sub_sub_cancel_right hle]
          exact congrArg _ (pending_eq F _ rfl hd' hemp)
        · rw [htl]; exact Nat.min_le_left _ _
        · intro ht; rw [ht] at htl; exact absurd htl.symm hz

theorem read_post (F : Fmt) (s : Base) (size : Nat) (bytes : Bytes) (s' : Base)
    (hrd : read F s size = .ok (bytes, s')) (hinv : RInv s) (hrange : totalSize s.files + size < 2 ^ 64) :
    ReadPost F s size bytes s' ∧
      (s.fpos ≠ none → s.offBegin < s.offEnd → bytes.length = min size (s.offEnd - s.offCurr)) ∧
      s.offCurr ≤ s'.offCurr ∧ bytes.length ≤ (s'.offCurr - s.offCurr) + bytes.count 10 := by
  obtain ⟨b, t, hrd', h⟩ := read_ok F s size hinv hrange
  rw [hrd] at hrd'
  cases hrd'
  exact h

/-- `ReadSpec` / `ReadTotal` (Spec.lean) are fixed definitions nothing assumes; these two theorems are their only inhabitants -/
theorem readSpec' (F : Fmt) : ReadSpec F := fun s size bytes s' hrd hinv hrange =>
  have h := (read_post F s size bytes s' hrd hinv hrange).1
  ⟨h.rinv, h.app, h.len, h.nil, h.files, h.offBegin, h.offEnd, h.chunk, h.overflow, h.bufWords⟩

theorem readTotal' (F : Fmt) : ReadTotal F := fun s size hinv hrange =>
  have ⟨b, t, hrd, _⟩ := read_ok F s size hinv hrange
  ⟨(b, t), hrd⟩

theorem count_le_one_of_drop (bytes : Bytes) (hno : ∀ b ∈ bytes.drop 1, b ≠ 10) : bytes.count 10 ≤ 1 := by
  cases bytes with
  | nil => simp
  | cons b t =>
    simp only [List.drop_succ_cons, List.drop_zero] at hno
    have : t.count 10 = 0 := List.count_eq_zero.mpr (fun h => hno 10 h rfl)
    rw [List.count_cons, this]
    split <;> omega

/-- bounds the doubling loop of `Chunk::Load`: a short `Read` returns `min size (offEnd - offCurr)` bytes, every byte that does
not advance `offset_curr_` is an injected newline, and at most every second pending byte is one -/
theorem read_short (F : Fmt) (s : Base) (size : Nat) (bytes : Bytes) (s' : Base)
    (hrd : read F s size = .ok (bytes, s')) (hinv : RInv s) (hrange : totalSize s.files + size < 2 ^ 64)
    (hshort : bytes.length < size) (hno : ∀ b ∈ bytes.drop 1, b ≠ 10) :
    (pending F s').length ≤ 2 := by
  obtain ⟨hp, hlen, hmono, hcnt⟩ := read_post F s size bytes s' hrd hinv hrange
  have happ := hp.app
  have hob := hp.offBegin
  have hoe := hp.offEnd
  have hle : (pending F s').length ≤ (pending F s).length := by
    rw [← happ, List.length_append]; omega
  by_cases hemp : s.fpos = none ∨ s.offEnd ≤ s.offBegin
  · rw [pending_eq_nil F s hemp, List.length_nil] at hle; omega
  · have hlen := hlen (fun h => hemp (Or.inl h)) (by omega)
    have hc1 := count_le_one_of_drop bytes hno
    obtain ⟨hne', _, hpos'⟩ := hp.rinv
    rcases hpos' with h | ⟨pos', f', hfp', hdrop', _, _, _, he'⟩
    · omega
    · have hb := pendFrom_length_le F.isText (s'.files.drop (s'.filePtr + 1)) (f'.drop pos')
        (s'.offEnd - s'.offCurr) (fun g hg => hne' g (List.mem_of_mem_drop hg))
      rw [pending_eq F s' hfp' hdrop' (by omega)]
      omega

theorem pending_length_le (F : Fmt) (s : Base) :
    (pending F s).length ≤ (s.offEnd - s.offCurr) + s.files.length := by
  by_cases hemp : s.fpos = none ∨ s.offEnd ≤ s.offBegin
  · simp [pending_eq_nil F s hemp]
  · obtain ⟨pos, hfp⟩ := Option.ne_none_iff_exists'.mp (fun h => hemp (Or.inl h))
    cases hd : s.files.drop s.filePtr with
    | nil => simp [pending_pend F s hfp (fun h => hemp (Or.inr h)), pend, hd]
    | cons f later =>
      rw [pending_eq F s hfp hd (fun h => hemp (Or.inr h))]
      obtain ⟨k, h1, hk, _⟩ := pendFrom_length F.isText later (f.drop pos) (s.offEnd - s.offCurr)
      have h2 := congrArg List.length hd
      rw [List.length_drop, List.length_cons] at h2
      omega

theorem pending_binary_length (F : Fmt) (s : Base) (hinv : RInv s) (hb : F.isText = false)
    (hne : s.offBegin < s.offEnd) (_hfp : s.fpos ≠ none) :
    (pending F s).length = s.offEnd - s.offCurr := by
  obtain ⟨_, htot, hpos⟩ := hinv
  rcases hpos with h | ⟨pos, f, hfp', hdrop, hp, hoc, _, he⟩
  · omega
  · have hsplit := totalSize_of_drop s.files s.filePtr f _ hdrop
    obtain ⟨k, h1, _, hk, _⟩ := pendFrom_length false (s.files.drop (s.filePtr + 1)) (f.drop pos) (s.offEnd - s.offCurr)
    rw [pending_eq F s hfp' hdrop (by omega), hb, h1, hk rfl, List.length_drop]
    omega

theorem read_short_binary (F : Fmt) (s : Base) (size : Nat) (bytes : Bytes) (s' : Base)
    (h : read F s size = .ok (bytes, s')) (hinv : RInv s) (hr : totalSize s.files + size < 2 ^ 64)
    (hb : F.isText = false) (hs : bytes.length < size) : pending F s' = [] := by
  obtain ⟨hp, hlen, _⟩ := read_post F s size bytes s' h hinv hr
  have happ := hp.app
  have hsum : bytes.length + (pending F s').length = (pending F s).length := by
    rw [← happ, List.length_append]
  apply List.eq_nil_of_length_eq_zero
  by_cases hemp : s.fpos = none ∨ s.offEnd ≤ s.offBegin
  · rw [pending_eq_nil F s hemp, List.length_nil] at hsum; omega
  · have hlen := hlen (fun h => hemp (Or.inl h)) (by omega)
    have hl := pending_binary_length F s hinv hb (by omega) (fun h => hemp (Or.inl h))
    omega

end DmlcModel.Split
