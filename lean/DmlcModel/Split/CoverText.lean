/-
Assembly layer of C03: the freshly constructed bare text split of part `k` of `n` (`mkSt`) is a clean state whose pending stream
is the byte range between `bndT files n k` and `bndT files n (k+1)`, hence a full drain delivers blobs whose canonical lines are
the lines of that range.  The steps that do not depend on the format stand in `CoverAux`.
-/
import DmlcModel.Split.DrainLemmas
import DmlcModel.Split.SnapText

namespace DmlcModel.Split
open DmlcModel DmlcModel.Gen.Split

namespace CoverAux

theorem filter_nonempty (files : List Bytes) (hne : ∀ f ∈ files, f ≠ []) :
    files.filter (fun f => !f.isEmpty) = files := by
  rw [List.filter_eq_self]
  intro f hf
  have := hne f hf
  cases f with
  | nil => exact absurd rfl this
  | cons a t => rfl

theorem any_initAligned_text (files : List Bytes) :
    files.any (fun f => !initAligned f.length Fmt.text.align) = false := by
  rw [List.any_eq_false]
  intro f _
  simp [initAligned, Fmt.text, lineAlign, Nat.mod_one]

/-- the blank object `Init` hands to `ResetPartition` -/
def blank (files : List Bytes) (dw : Nat) : Base :=
  { files := files, chunk := { dataWords := chunkInitWords dw }, bufWords := dw }

/-- the early-return clears of `ResetPartition` / `BeforeFirst` are no-ops on it, so C03 / C04 do not depend on fix C05-1 -/
theorem clearsOk_blank (files : List Bytes) (dw : Nat) : ClearsOk (blank files dw) := Or.inr ⟨rfl, rfl⟩

/-- what `mkBase` makes of the `ResetPartition` result, as a function of that result, so that the result itself is never
evaluated (header of Unfold.lean, first paragraph) -/
def mkBaseK (w : Nat) (r : Except Err Base) : Except Err Base :=
  match r with
  | .error e => .error e
  | .ok b => .ok { b with bufWords := w }

def mkStK (wrapped : Bool) (dw : Nat) (r : Except Err Base) : Except Err St :=
  match r with
  | .error e => .error e
  | .ok b => .ok { base := b, wrap := if wrapped then some { bufWords := dw } else none }

theorem mkSt_unfold (F : Fmt) (files : List Bytes) (k n w dw : Nat) (wrapped : Bool) :
    mkSt F files k n w wrapped dw = mkStK wrapped dw
      (if (files.filter (fun f => !f.isEmpty)).isEmpty then .error .check
       else if (files.filter (fun f => !f.isEmpty)).any (fun f => !initAligned f.length F.align) then .error .check
       else mkBaseK w (resetPartition F (blank (files.filter (fun f => !f.isEmpty)) dw) k n)) := by
  unfold mkSt mkBase
  rfl

theorem mkSt_eq (F : Fmt) (files : List Bytes) (k n w dw : Nat) (hfiles : files ≠ [])
    (hne : ∀ f ∈ files, f ≠ []) (hal : files.any (fun f => !initAligned f.length F.align) = false) :
    mkSt F files k n w false dw = mkStK false dw (mkBaseK w (resetPartition F (blank files dw) k n)) := by
  rw [mkSt_unfold, filter_nonempty files hne, hal, List.isEmpty_eq_false_iff.2 hfiles]
  rfl

theorem pending_of_clean_fmt (F : Fmt) (s : Base) (hc : Clean s) (b e : Nat)
    (hr : (s.offBegin = b ∧ s.offEnd = e) ∨ (s.offEnd ≤ s.offBegin ∧ b = e)) :
    pending F s = rangeStream F.isText s.files b e := by
  by_cases h : s.offEnd ≤ s.offBegin
  · rw [rangeStream, show e - b = 0 by omega, pend_zero_budget]
    exact pending_eq_nil F s (Or.inr h)
  · obtain ⟨rfl, rfl⟩ | ⟨h1, _⟩ := hr
    · obtain h' | ⟨c1, c2, c3⟩ := hc.pos
      · exact absurd h' h
      · rw [pending_pend F s c3 h, c1, c2]
        rfl
    · exact absurd h1 h

theorem mkSt_ok (F : Fmt) (ha : F.align = 1 ∨ F.align = 4) (files : List Bytes) (k n w dw : Nat) (hfiles : files ≠ [])
    (hne : ∀ f ∈ files, f ≠ []) (hal : files.any (fun f => !initAligned f.length F.align) = false)
    (ht : totalSize files < 2^62) (hk : k < n) (hn : n < 2^32)
    (b e : Nat) (hb : bnd F files n k = .ok b) (he : bnd F files n (k + 1) = .ok e) (hle : e ≤ totalSize files) :
    ∃ s, mkSt F files k n w false dw = .ok s ∧ s.wrap = none ∧ Clean s.base ∧ RInv s.base ∧
      s.base.files = files ∧ s.base.bufWords = w ∧ pending F s.base = rangeStream F.isText files b e := by
  obtain ⟨s', hs', hC, hR, hF, _, _, hrg⟩ :=
    resetPartition_bnd F ha (blank files dw) k n hne (clearsOk_blank files dw) ht hk hn b e hb he hle
  refine ⟨{ base := { s' with bufWords := w }, wrap := none }, ?_, rfl, hC, hR, hF, rfl,
    (pending_of_clean_fmt F s' hC b e hrg).trans (by rw [hF]; rfl)⟩
  rw [mkSt_eq _ files k n w dw hfiles hne hal, hs']
  rfl

theorem nulFree_take (s : Bytes) (n : Nat) (h : NulFree s) : NulFree (s.take n) :=
  fun b hb => h b (List.mem_of_mem_take hb)

theorem nulFree_drop (s : Bytes) (n : Nat) (h : NulFree s) : NulFree (s.drop n) :=
  fun b hb => h b (List.mem_of_mem_drop hb)

theorem nulFree_pendFrom : ∀ (later : List Bytes) (cur : Bytes) (budget : Nat),
    (∀ f ∈ later, NulFree f) → NulFree cur → NulFree (pendFrom true later cur budget)
  | [], cur, budget, _, hc => by
    unfold pendFrom; exact nulFree_take cur budget hc
  | f :: fs, cur, budget, hl, hc => by
    unfold pendFrom
    by_cases hbd : budget ≤ cur.length
    · rw [if_pos hbd]; exact nulFree_take cur budget hc
    · rw [if_neg hbd]
      simp only [if_true]
      rw [nulFree_append, nulFree_append]
      refine ⟨⟨hc, ?_⟩, nulFree_pendFrom fs f _ (fun g hg => hl g (List.mem_cons_of_mem _ hg))
        (hl f (List.mem_cons_self ..))⟩
      intro x hx
      simp only [List.mem_singleton] at hx
      subst hx; decide

theorem nulFree_pend (files : List Bytes) (hn : ∀ f ∈ files, NulFree f) (fp pos budget : Nat) :
    NulFree (pend true files fp pos budget) := by
  unfold pend
  cases hd : files.drop fp with
  | nil => exact nulFree_nil
  | cons f later =>
    simp only []
    have hsub : ∀ g ∈ f :: later, g ∈ files := fun g hg => List.mem_of_mem_drop (hd ▸ hg)
    exact nulFree_pendFrom later _ budget (fun g hg => hn g (hsub g (List.mem_cons_of_mem _ hg)))
      (nulFree_drop f pos (hn f (hsub f (List.mem_cons_self ..))))

theorem nulFree_pending (s : Base) (hn : ∀ f ∈ s.files, NulFree f) : NulFree (pending Fmt.text s) := by
  by_cases hemp : s.fpos = none ∨ s.offEnd ≤ s.offBegin
  · rw [pending_eq_nil _ s hemp]; exact nulFree_nil
  · obtain ⟨pos, hfp⟩ := Option.ne_none_iff_exists'.mp (fun h => hemp (Or.inl h))
    rw [pending_pend _ s hfp (fun h => hemp (Or.inr h))]; exact nulFree_pend s.files hn _ _ _

theorem nulFree_rangeStream (files : List Bytes) (hn : ∀ f ∈ files, NulFree f) (b e : Nat) :
    NulFree (rangeStream true files b e) := by
  unfold rangeStream; exact nulFree_pend files hn _ _ _

theorem TInv_of_clean_files (s : Base) (hR : RInv s) (hC : Clean s) (hn : ∀ f ∈ s.files, f ≠ [] ∧ NulFree f)
    (ht : totalSize s.files < 2^55) (hb : s.bufWords < 2^56) : TInv s ∧ tailT s = pending Fmt.text s := by
  refine ⟨TInv_of_clean s hR hC.rest hC.overflow (nulFree_pending s fun f hf => (hn f hf).2) ht hb, ?_⟩
  unfold tailT
  rw [hC.rest, hC.overflow]
  rfl

theorem partBlobs_of_mkSt (F : Fmt) (files : List Bytes) (k n w dw : Nat) (pick : Nat → Bool) (s s' : St)
    (r : Except Err (List Bytes)) (hs : mkSt F files k n w false dw = .ok s)
    (hd : drain F pick s = (s', r)) : partBlobs F files k n w dw pick = r := by
  unfold partBlobs
  rw [hs]
  simp only []
  rw [hd]

end CoverAux
open CoverAux

/-- the common hypotheses of property C03 -/
structure TextSplitOk (files : List Bytes) (n w : Nat) : Prop where
  ne : files ≠ []
  ok : ∀ f ∈ files, f ≠ [] ∧ NulFree f
  total : totalSize files < 2^55
  lt : n < 2^32
  w56 : w < 2^56

variable {files : List Bytes} {n w : Nat}

theorem mkSt_text_inv (h : TextSplitOk files n w) (k dw : Nat) (hk : k < n) :
    ∃ s, mkSt Fmt.text files k n w false dw = .ok s ∧ s.wrap = none ∧ TInv s.base ∧
      tailT s.base = rangeStream true files (bndT files n k) (bndT files n (k + 1)) := by
  have ht := h.total
  obtain ⟨s, hs, hwr, hC, hR, hF, hB, hp⟩ :=
    mkSt_ok Fmt.text (Or.inl rfl) files k n w dw h.ne (fun f hf => (h.ok f hf).1) (any_initAligned_text files) (by omega)
      hk h.lt _ _ (bnd_text_eq files n k) (bnd_text_eq files n (k + 1)) (bndT_le files n (k + 1))
  obtain ⟨hT, htl⟩ := TInv_of_clean_files s.base hR hC (hF ▸ h.ok) (hF ▸ ht) (hB ▸ h.w56)
  exact ⟨s, hs, hwr, hT, htl.trans hp⟩

/-- at most every second byte is an injected newline -/
theorem rangeStream_length_le (files : List Bytes) (hne : ∀ f ∈ files, f ≠ []) (b e : Nat) :
    (rangeStream true files b e).length ≤ 2 * (e - b) := by
  unfold rangeStream pend
  cases hd : files.drop (filePtrOf files b) with
  | nil => simp
  | cons f later =>
    simp only []
    exact pendFrom_length_le true later _ _
      (fun g hg => hne g (List.mem_of_mem_drop (hd ▸ List.mem_cons_of_mem _ hg)))

/-- `2 * totalSize files + 1`: at most every second byte of the part's stream is an injected newline, plus the one `ReadChunk`
may append -/
theorem part_text (h : TextSplitOk files n w) (k dw : Nat) (hk : k < n) (pick : Nat → Bool) :
    ∃ bs, partBlobs Fmt.text files k n w dw pick = .ok bs ∧
      bs.flatMap canon = lines (rangeStream true files (bndT files n k) (bndT files n (k + 1))) ∧
      (∀ i b, bs[i]? = some b → b ≠ [] ∧ b.length ≤ 2 * totalSize files + 1 ∧
        (pick i = false → EndsEol b ∧ NulFree b)) := by
  obtain ⟨s, hs, hwr, hT, htl⟩ := mkSt_text_inv h k dw hk
  obtain ⟨bs, s', hd, h1, h2, _⟩ := drain_text_correct s hwr hT pick
  refine ⟨bs, partBlobs_of_mkSt _ _ _ _ _ _ _ s s' _ hs hd, by rw [h1, htl], fun i b hb => ?_⟩
  obtain ⟨g1, g2, g3⟩ := h2 i b hb
  have h3 := rangeStream_length_le files (fun f hf => (h.ok f hf).1) (bndT files n k) (bndT files n (k + 1))
  have h4 := bndT_le files n (k + 1)
  rw [drainM_text, htl] at g2
  exact ⟨g1, by omega, g3⟩

theorem linesOf_part_text (h : TextSplitOk files n w) (k dw : Nat) (hk : k < n) (pick : Nat → Bool) :
    linesOf (partBlobs Fmt.text files k n w dw pick)
      = lines (rangeStream true files (bndT files n k) (bndT files n (k + 1))) := by
  obtain ⟨bs, h1, h2, _⟩ := part_text h k dw hk pick
  rw [h1]
  exact h2

theorem parts_cover_text (h : TextSplitOk files n w) (dw : Nat) (hn0 : 0 < n) (pick : Nat → Nat → Bool) :
    (List.range n).flatMap (fun k => linesOf (partBlobs Fmt.text files k n w dw (pick k)))
      = files.flatMap lines := by
  have ht := h.total
  rw [← lines_parts_telescope files (fun f hf => (h.ok f hf).1) n (by omega) hn0 h.lt]
  apply flatMap_congr_mem
  intro k hk
  exact linesOf_part_text h k dw (List.mem_range.1 hk) (pick k)

end DmlcModel.Split
