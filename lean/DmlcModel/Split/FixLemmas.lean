/-
The facts that hold only on the source tree WITH fix C05-1 (fixes/C05-1.diff, the repair of finding C05-F1: the early returns
of `ResetPartition` and `BeforeFirst` drop the buffered chunk and the carry-over): the two generated constants are `true`.
C03 / C04 go through the "nothing buffered" disjunct of `ClearsOk` and build on the unfixed tree as well.
-/
import DmlcModel.Split.SnapLemmas

namespace DmlcModel.Split
open DmlcModel DmlcModel.Gen.Split

theorem rpEmptyClears_true : rpEmptyClears = true := rfl
theorem bfEmptyClears_true : bfEmptyClears = true := rfl

theorem clearsOk_fixed (s : Base) : ClearsOk s := Or.inl ⟨rpEmptyClears_true, bfEmptyClears_true⟩

end DmlcModel.Split
