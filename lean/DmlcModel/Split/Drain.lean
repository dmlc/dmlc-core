/-
`NextRecord` / `NextChunk` and a full `drain` of a bare split, proved once for any format, relative to a family of states
`I s l` ("`s` is well formed and still owes its consumer the items `l`": lines for text, records for RecordIO) and a relation
`G rec b run` ("the blob `b` stands for the items `run`").  The measure `drainM` is the same for every format.
-/
import DmlcModel.Split.ChunkLemmas

namespace DmlcModel.Split
open DmlcModel

/-- bytes still to be delivered, plus one for the newline that `ReadChunk` may still append to an unterminated last line -/
def drainM (F : Fmt) (s : Base) : Nat := s.chunk.rest.length + (ahead F s).length + min 1 (ahead F s).length

theorem drainM_le_fuel (F : Fmt) (s : St) (hw : s.wrap = none) (he : s.base.offEnd ≤ totalSize s.base.files) :
    drainM F s.base + 1 ≤ drainFuel s := by
  have hp := pending_length_le F s.base
  unfold drainM drainFuel ahead
  simp only [hw, List.length_append]
  omega

/-- the `Extract` function of `NextRecord` (`rec = true`) / `NextChunk` -/
def extOf (F : Fmt) (rec : Bool) : Chunk → Except Err (Option (Bytes × Chunk)) :=
  if rec then F.extractNext else fun c => .ok (extractChunk c)

/-- the model bounds the `while` loop of `NextRecord` / `NextChunk` by 3 visits (Model.lean).  Two suffice: the first may find
the chunk exhausted and load, the second extracts, since a chunk that `Load` hands out is not empty (`next_of`, and
`nextLoop_two` of WrapView); the bound is written `1 + 2` for `next_of`, which argues for any bound `≥ 2` -/
theorem next_eq_loop (F : Fmt) (rec : Bool) (s : Base) :
    (if rec then nextRecord F s else nextChunk F s) = nextLoop F (extOf F rec) (1 + 2) s := by
  cases rec <;> simp only [extOf, nextRecord, nextChunk, if_true, Bool.false_eq_true, if_false]

theorem extractChunk_nil (c : Chunk) (h : c.rest = []) : extractChunk c = none := by
  simp [extractChunk, h]

theorem extOf_chunk (F : Fmt) (c : Chunk) (h : c.rest ≠ []) :
    extOf F false c = .ok (some (c.rest, { c with begin := c.begin + c.rest.length, rest := [] })) := by
  simp [extOf, extractChunk, h]

/-- the contract of one `NextRecord` (`rec = true`) / `NextChunk` in the states `I`: it ends without error; a
blob stands (`G`) for a run of items at the front of those still owed, and the measure drops; `false` is returned
only when nothing is owed -/
def NextOk {α : Type} (F : Fmt) (I : Base → List α → Prop) (G : Bool → Bytes → List α → Prop) : Prop :=
  ∀ (rec : Bool) (s : Base) (l : List α), I s l →
    ∃ r s', (if rec then nextRecord F s else nextChunk F s) = .ok (r, s') ∧
    match r with
    | some b => ∃ run l', G rec b run ∧ run ++ l' = l ∧ I s' l' ∧ drainM F s' < drainM F s
    | none => l = [] ∧ I s' []

/-- two visits of the loop suffice: a loaded chunk is not empty -/
theorem next_of {α : Type} (F : Fmt) (I : Base → List α → Prop) (G : Bool → Bytes → List α → Prop)
    (hnone : ∀ c, c.rest = [] → F.extractNext c = .ok none)
    (hext : ∀ rec s l, I s l → s.chunk.rest ≠ [] → ∃ b c' run l',
      extOf F rec s.chunk = .ok (some (b, c')) ∧ G rec b run ∧ run ++ l' = l ∧ I { s with chunk := c' } l' ∧
      drainM F { s with chunk := c' } < drainM F s)
    (hload : ∀ s l, I s l → s.chunk.rest = [] → ∃ ok s1 c, load F s s.chunk = .ok (ok, s1, c) ∧
      (ok = false → l = [] ∧ I { s1 with chunk := c } []) ∧
      (ok = true → c.rest ≠ [] ∧ I { s1 with chunk := c } l ∧ drainM F { s1 with chunk := c } ≤ drainM F s)) :
    NextOk F I G := by
  intro rec s l hI
  rw [next_eq_loop]
  generalize (1 : Nat) = fuel  -- the `1` of `1 + 2`, the only one in the goal: any bound `fuel + 2`
  by_cases hne : s.chunk.rest = []
  · obtain ⟨ok, s1, c, hl, k0, k1⟩ := hload s l hI hne
    have hx : extOf F rec s.chunk = .ok none := by
      cases rec
      · exact congrArg Except.ok (extractChunk_nil _ hne)
      · exact hnone _ hne
    rw [nextLoop_succ, hx, hl]
    cases ok with
    | false => exact ⟨none, _, rfl, k0 rfl⟩
    | true =>
      obtain ⟨e1, e2, e3⟩ := k1 rfl
      obtain ⟨b, c', run, l', h1, h2, h3, h4, h5⟩ := hext rec _ l e2 e1
      have hn : nextLoop F (extOf F rec) (fuel + 1) { s1 with chunk := c }
          = .ok (some b, { { s1 with chunk := c } with chunk := c' }) := by
        rw [nextLoop_succ, h1]; rfl
      exact ⟨some b, _, hn, run, l', h2, h3, h4, Nat.lt_of_lt_of_le h5 e3⟩
  · obtain ⟨b, c', run, l', h1, h2, h3, h4, h5⟩ := hext rec s l hI hne
    exact ⟨some b, _, by rw [nextLoop_succ, h1]; rfl, run, l', h2, h3, h4, h5⟩

theorem drainGo_of_next {α : Type} (F : Fmt) (I : Base → List α → Prop) (G : Bool → Bytes → List α → Prop)
    (hN : NextOk F I G) (pick : Nat → Bool) :
    ∀ (fuel i : Nat) (s : St) (acc : List Bytes) (l : List α), s.wrap = none → I s.base l →
    drainM F s.base + 1 ≤ fuel →
    ∃ (s' : St) (runs : List (List α)) (new : List Bytes),
      drainGo F pick fuel i s acc = (s', .ok (acc ++ new)) ∧ s'.wrap = none ∧ I s'.base [] ∧
      runs.length = new.length ∧ runs.flatten = l ∧
      ∀ j b run, new[j]? = some b → runs[j]? = some run → G (pick (i + j)) b run := by
  intro fuel
  induction fuel with
  | zero => intro i s acc l _ _ h; omega
  | succ fuel ih =>
    intro i s acc l hw hI hf
    obtain ⟨r, b1, hx, m⟩ := hN (pick i) s.base l hI
    rw [drainGo_succ, step_bare _ _ hw, hx]
    cases r with
    | none =>
      exact ⟨{ s with base := b1 }, [], [], by rw [List.append_nil]; rfl, hw, m.2, rfl, m.1.symm, by simp⟩
    | some b =>
      obtain ⟨run, l', k1, k2, k3, k4⟩ := m
      obtain ⟨s', runs, new, hd, n1, n2, hlen, hfl, hidx⟩ :=
        ih (i + 1) { s with base := b1 } (acc ++ [b]) l' hw k3 (by show drainM F b1 + 1 ≤ fuel; omega)
      refine ⟨s', run :: runs, b :: new, by rw [List.append_cons]; exact hd, n1, n2, by simp [hlen],
        by rw [List.flatten_cons, hfl, k2], ?_⟩
      intro j b' run' hj hr
      cases j with
      | zero =>
        simp only [List.getElem?_cons_zero, Option.some.injEq] at hj hr
        subst hj; subst hr
        exact k1
      | succ j =>
        rw [List.getElem?_cons_succ] at hj hr
        rw [show i + (j + 1) = i + 1 + j by omega]
        exact hidx j b' run' hj hr

theorem drain_of_next {α : Type} (F : Fmt) (I : Base → List α → Prop) (G : Bool → Bytes → List α → Prop)
    (hN : NextOk F I G) (pick : Nat → Bool) (s : St) (hw : s.wrap = none) (l : List α) (hI : I s.base l)
    (he : s.base.offEnd ≤ totalSize s.base.files) :
    ∃ bs s', drain F pick s = (s', .ok bs) ∧
      (∃ runs : List (List α), runs.length = bs.length ∧ runs.flatten = l ∧
        ∀ i b run, bs[i]? = some b → runs[i]? = some run → G (pick i) b run) ∧
      s'.wrap = none ∧ I s'.base [] := by
  obtain ⟨s', runs, new, hd, h1, h2, hlen, hfl, hidx⟩ :=
    drainGo_of_next F I G hN pick _ 0 s [] l hw hI (drainM_le_fuel F s hw he)
  refine ⟨new, s', hd, ⟨runs, hlen, hfl, fun i b run hi hr => ?_⟩, h1, h2⟩
  have := hidx i b run hi hr
  rwa [Nat.zero_add] at this

end DmlcModel.Split
