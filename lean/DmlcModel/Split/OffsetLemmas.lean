/-
The file table: `fileOffset` / `totalSize` (the vector `file_offset_`) and `filePtrOf` (the `std::upper_bound` that locates an
offset in it), characterised by its recursion over the file list (`filePtrOf_cons_lt`, `filePtrOf_cons_ge`); everything else
follows by induction from that.
-/
import DmlcModel.Split.Spec
import DmlcModel.BasicLemmas

namespace DmlcModel.Split
open DmlcModel

namespace SnapAux

theorem fileOffset_nil (i : Nat) : fileOffset [] i = 0 := by simp [fileOffset]
theorem fileOffset_zero (files : List Bytes) : fileOffset files 0 = 0 := by simp [fileOffset]
theorem fileOffset_cons_succ (f : Bytes) (fs : List Bytes) (i : Nat) :
    fileOffset (f :: fs) (i + 1) = f.length + fileOffset fs i := by simp [fileOffset]
theorem totalSize_nil : totalSize [] = 0 := by simp [totalSize, fileOffset]
theorem totalSize_cons (f : Bytes) (fs : List Bytes) : totalSize (f :: fs) = f.length + totalSize fs := by
  simp [totalSize, fileOffset]

theorem fileOffset_le_of_le (files : List Bytes) : ∀ i j, i ≤ j → fileOffset files i ≤ fileOffset files j := by
  induction files with
  | nil => intro i j _; simp [fileOffset_nil]
  | cons f fs ih =>
    intro i j hij
    cases i with
    | zero => simp [fileOffset_zero]
    | succ i =>
      cases j with
      | zero => omega
      | succ j =>
        rw [fileOffset_cons_succ, fileOffset_cons_succ]
        have := ih i j (by omega)
        omega

theorem fileOffset_of_length_le (files : List Bytes) (i : Nat) (h : files.length ≤ i) :
    fileOffset files i = totalSize files := by
  unfold totalSize fileOffset
  rw [List.take_of_length_le h, List.take_of_length_le (Nat.le_refl _)]

theorem fileOffset_le_total (files : List Bytes) (i : Nat) : fileOffset files i ≤ totalSize files := by
  by_cases h : i ≤ files.length
  · exact fileOffset_le_of_le files i _ h
  · rw [fileOffset_of_length_le files i (by omega)]; exact Nat.le_refl _

theorem fileOffset_succ_of_drop (files : List Bytes) : ∀ (i : Nat) (f : Bytes) (rest : List Bytes),
    files.drop i = f :: rest → fileOffset files (i + 1) = fileOffset files i + f.length := by
  induction files with
  | nil => intro i f rest h; simp at h
  | cons g gs ih =>
    intro i f rest h
    cases i with
    | zero =>
      simp at h
      obtain ⟨rfl, _⟩ := h
      simp [fileOffset]
    | succ i =>
      simp at h
      rw [fileOffset_cons_succ, fileOffset_cons_succ, ih i f rest h]; omega

end SnapAux
open SnapAux

private theorem upperBound_offsetsFrom_shift (fs : List Bytes) (acc k x : Nat) :
    upperBound (offsetsFrom (acc + k) fs) (x + k) = upperBound (offsetsFrom acc fs) x := by
  induction fs generalizing acc with
  | nil => simp only [offsetsFrom, upperBound, Nat.add_lt_add_iff_right]
  | cons f fs ih =>
    simp only [offsetsFrom, upperBound, Nat.add_lt_add_iff_right, Nat.add_right_comm acc k, ih]

theorem filePtrOf_nil (x : Nat) : filePtrOf [] x = 0 := by
  simp [filePtrOf, offsetsFrom, upperBound]

theorem filePtrOf_cons_lt (f : Bytes) (fs : List Bytes) (x : Nat) (h : x < f.length) :
    filePtrOf (f :: fs) x = 0 := by
  cases fs <;> simp [filePtrOf, offsetsFrom, upperBound, h]

theorem filePtrOf_cons_ge (f : Bytes) (fs : List Bytes) (x : Nat) (h : f.length ≤ x) :
    filePtrOf (f :: fs) x = filePtrOf fs (x - f.length) + 1 := by
  have h1 := upperBound_offsetsFrom_shift fs 0 f.length (x - f.length)
  have h2 : 1 ≤ upperBound (offsetsFrom 0 fs) (x - f.length) := by
    cases fs <;> simp [offsetsFrom, upperBound]
  rw [Nat.sub_add_cancel h] at h1
  simp only [filePtrOf, offsetsFrom, upperBound, Nat.not_lt_zero, if_false, h1]
  omega

namespace SnapAux

/-- one past the last file from `totalSize` on -/
theorem filePtrOf_bounds (files : List Bytes) (x : Nat) :
    filePtrOf files x ≤ files.length ∧ fileOffset files (filePtrOf files x) ≤ x ∧
    (x < totalSize files → filePtrOf files x < files.length ∧ x < fileOffset files (filePtrOf files x + 1)) ∧
    (totalSize files ≤ x → filePtrOf files x = files.length) := by
  induction files generalizing x with
  | nil => simp [filePtrOf_nil, fileOffset_nil, totalSize_nil]
  | cons f fs ih =>
    by_cases h : x < f.length
    · rw [filePtrOf_cons_lt f fs x h]
      simp only [fileOffset_zero, fileOffset_cons_succ, totalSize_cons, List.length_cons]
      omega
    · have := ih (x - f.length)
      rw [filePtrOf_cons_ge f fs x (by omega)]
      simp only [fileOffset_cons_succ, totalSize_cons, List.length_cons]
      omega

theorem filePtrOf_le (files : List Bytes) (x : Nat) : filePtrOf files x ≤ files.length :=
  (filePtrOf_bounds files x).1

theorem fileOffset_filePtrOf_le (files : List Bytes) (x : Nat) :
    fileOffset files (filePtrOf files x) ≤ x :=
  (filePtrOf_bounds files x).2.1

theorem filePtrOf_lt (files : List Bytes) (x : Nat) (h : x < totalSize files) :
    filePtrOf files x < files.length ∧ x < fileOffset files (filePtrOf files x + 1) :=
  (filePtrOf_bounds files x).2.2.1 h

theorem filePtrOf_of_total_le (files : List Bytes) (x : Nat) (h : totalSize files ≤ x) :
    filePtrOf files x = files.length :=
  (filePtrOf_bounds files x).2.2.2 h

theorem interior_lt_total (files : List Bytes) (x : Nat) (hx : x ≤ totalSize files)
    (hb : ¬ x = fileOffset files (filePtrOf files x)) : x < totalSize files := by
  apply Nat.lt_of_le_of_ne hx
  intro e
  rw [filePtrOf_of_total_le files x (by omega), fileOffset_of_length_le files _ (Nat.le_refl _)] at hb
  exact hb e

theorem filePtrOf_unique (files : List Bytes) (x j : Nat) (hj : fileOffset files j ≤ x)
    (hj' : x < fileOffset files (j + 1)) : filePtrOf files x = j := by
  have hxt : x < totalSize files := Nat.lt_of_lt_of_le hj' (fileOffset_le_total files _)
  have ⟨_, h2⟩ := filePtrOf_lt files x hxt
  have h1 := fileOffset_filePtrOf_le files x
  generalize filePtrOf files x = fp at *
  by_cases hlt : fp < j
  · have := fileOffset_le_of_le files (fp + 1) j (by omega); omega
  · by_cases hgt : j < fp
    · have := fileOffset_le_of_le files (j + 1) fp (by omega); omega
    · omega

theorem drop_filePtrOf (files : List Bytes) (x : Nat) (h : x < totalSize files) :
    ∃ f, files.drop (filePtrOf files x) = f :: files.drop (filePtrOf files x + 1) ∧
      fileOffset files (filePtrOf files x + 1) = fileOffset files (filePtrOf files x) + f.length ∧
      x < fileOffset files (filePtrOf files x) + f.length := by
  have ⟨h1, h2⟩ := filePtrOf_lt files x h
  have hd := List.drop_eq_getElem_cons h1
  refine ⟨_, hd, ?_, ?_⟩
  · exact fileOffset_succ_of_drop files _ _ _ hd
  · rw [← fileOffset_succ_of_drop files _ _ _ hd]; exact h2

end SnapAux

theorem length_le_totalSize (files : List Bytes) (h : ∀ f ∈ files, f ≠ []) :
    files.length ≤ totalSize files := by
  induction files with
  | nil => exact Nat.zero_le _
  | cons g gs ih =>
    have hg : 0 < g.length := List.length_pos_iff.mpr (h g (by simp))
    have := ih (fun f hf => h f (by simp [hf]))
    rw [totalSize_cons, List.length_cons]
    omega

theorem totalSize_eq_flatten (files : List Bytes) : totalSize files = files.flatten.length := by
  induction files with
  | nil => simp [totalSize_nil]
  | cons f fs ih => simp [totalSize_cons, ih]

theorem totalSize_pos_of_ne_nil (files : List Bytes) (hne : ∀ f ∈ files, f ≠ []) (h : files ≠ []) :
    0 < totalSize files :=
  Nat.lt_of_lt_of_le (List.length_pos_iff.mpr h) (length_le_totalSize files hne)

set_option linter.unusedVariables false in
/-- `hne` is not used -/
theorem filePtrOf_spec (files : List Bytes) (hne : ∀ f ∈ files, f ≠ []) (x : Nat) (hx : x < totalSize files) :
    filePtrOf files x < files.length ∧ fileOffset files (filePtrOf files x) ≤ x ∧
      x < fileOffset files (filePtrOf files x + 1) :=
  ⟨(filePtrOf_lt files x hx).1, fileOffset_filePtrOf_le files x, (filePtrOf_lt files x hx).2⟩

set_option linter.unusedVariables false in
theorem filePtrOf_total (files : List Bytes) (hne : ∀ f ∈ files, f ≠ []) :
    filePtrOf files (totalSize files) = files.length :=
  filePtrOf_of_total_le files _ (Nat.le_refl _)

theorem filePtrOf_fileOffset (files : List Bytes) (hne : ∀ f ∈ files, f ≠ []) (i : Nat) (hi : i ≤ files.length) :
    filePtrOf files (fileOffset files i) = i := by
  by_cases h : i < files.length
  · have hd := List.drop_eq_getElem_cons h
    have := List.length_pos_iff.mpr (hne _ (List.getElem_mem h))
    exact filePtrOf_unique files _ i (Nat.le_refl _) (by rw [SnapAux.fileOffset_succ_of_drop files i _ _ hd]; omega)
  · rw [fileOffset_of_length_le files i (by omega), show i = files.length by omega]
    exact filePtrOf_total files hne

theorem pendFrom_of_le (isText : Bool) (later : List Bytes) (cur : Bytes) (budget : Nat)
    (h : budget ≤ cur.length) : pendFrom isText later cur budget = cur.take budget := by
  cases later
  · rfl
  · exact if_pos h

theorem pendFrom_next (isText : Bool) (f : Bytes) (fs : List Bytes) (cur : Bytes) (budget : Nat)
    (h : cur.length < budget) :
    pendFrom isText (f :: fs) cur budget
      = cur ++ (if isText then [10] else []) ++ pendFrom isText fs f (budget - cur.length) :=
  if_neg (Nat.not_le.mpr h)

end DmlcModel.Split
