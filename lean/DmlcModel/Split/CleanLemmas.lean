/-
C05 lemma layer.  Part A: `BeforeFirst` / `ResetPartition` establish `Clean` from any state and read only the file list and
`(k, n)` (`RpRel`: their outcomes on two states at once, as rules); it holds on the tree WITH fix C05-1 only (the two flags below).
Part B: `step` respects the state equivalence; the loop of `Chunk::Load` as an instance of `Foot`, the wrapper through its view.
-/
import DmlcModel.Split.SnapLemmas
import DmlcModel.Split.WrapView
import DmlcModel.Split.TextLemmas

namespace DmlcModel.Split
open DmlcModel DmlcModel.Gen.Split

private theorem rpEmptyClears_true : rpEmptyClears = true := rfl
private theorem bfEmptyClears_true : bfEmptyClears = true := rfl

/-! ## A. `beforeFirst` / `resetPartition` establish `Clean` -/

theorem beforeFirst_inv (s s' : Base) (h : beforeFirst s = .ok s') :
    (s.offEnd ≤ s.offBegin ∧ s' = { s with chunk := s.chunk.clear, overflow := [] }) ∨
    (s.offBegin < s.offEnd ∧
      s' = { s with filePtr := filePtrOf s.files s.offBegin,
                    fpos := some (sub64 s.offBegin (fileOffset s.files (filePtrOf s.files s.offBegin))),
                    offCurr := s.offBegin, chunk := s.chunk.clear, overflow := [] }) := by
  rw [beforeFirst_eq] at h
  split at h
  · rename_i he
    rw [bfEmptyClears_true, if_pos rfl] at h
    exact Or.inl ⟨he, by cases h; rfl⟩
  · rename_i he
    refine Or.inr ⟨by omega, ?_⟩
    split at h
    · cases h
    · split at h
      · cases h
      · cases h; rfl

theorem beforeFirst_frame (s s' : Base) (h : beforeFirst s = .ok s') :
    s'.files = s.files ∧ s'.offBegin = s.offBegin ∧ s'.offEnd = s.offEnd ∧
    s'.bufWords = s.bufWords ∧ s'.chunk.rest = [] ∧ s'.overflow = [] := by
  rcases beforeFirst_inv s s' h with ⟨_, rfl⟩ | ⟨_, rfl⟩ <;> exact ⟨rfl, rfl, rfl, rfl, rfl, rfl⟩

theorem beforeFirst_clean (s s' : Base) (h : beforeFirst s = .ok s')
    (hlt : s.offBegin < s.offEnd → s.offBegin < 2^64) : Clean s' := by
  rcases beforeFirst_inv s s' h with ⟨he, rfl⟩ | ⟨hne, rfl⟩
  · exact ⟨rfl, rfl, Or.inl he⟩
  · exact ⟨rfl, rfl, Or.inr ⟨rfl, rfl, congrArg some
      (sub64_of_le (hlt hne) (SnapAux.fileOffset_filePtrOf_le s.files s.offBegin))⟩⟩

/-- `Equiv`, with equal `offCurr` in the strict mode (`ign = false`): `loadFuel` is then equal on both sides -/
def EquivG (ign : Bool) (s t : Base) : Prop := Equiv s t ∧ (ign = false → s.offCurr = t.offCurr)

section
variable {ign : Bool} {s t : Base} (h : EquivG ign s t)
include h
theorem EquivG.files : s.files = t.files := h.1.1
theorem EquivG.offBegin : s.offBegin = t.offBegin := h.1.2.1
theorem EquivG.offEnd : s.offEnd = t.offEnd := h.1.2.2.1
theorem EquivG.overflow : s.overflow = t.overflow := h.1.2.2.2.1
theorem EquivG.bufWords : s.bufWords = t.bufWords := h.1.2.2.2.2.1
theorem EquivG.chunk : ChunkEquiv s.chunk t.chunk := h.1.2.2.2.2.2.1
theorem EquivG.pos : s.offEnd ≤ s.offBegin ∨ (s.offCurr = t.offCurr ∧ s.filePtr = t.filePtr ∧ s.fpos = t.fpos) :=
  h.1.2.2.2.2.2.2
end

namespace CleanAux

theorem chunkEquiv_symm {c d : Chunk} (h : ChunkEquiv c d) : ChunkEquiv d c :=
  ⟨h.1.symm, fun hd => by have := h.2 (by rw [h.1]; exact hd); exact ⟨this.1.symm, this.2.symm⟩⟩
theorem chunkEquiv_trans {c d e : Chunk} (h : ChunkEquiv c d) (g : ChunkEquiv d e) : ChunkEquiv c e :=
  ⟨h.1.trans g.1, fun hc => by
    have h2 := h.2 hc
    have g2 := g.2 (by rw [← h.1]; exact hc)
    exact ⟨h2.1.trans g2.1, h2.2.trans g2.2⟩⟩
theorem chunkEquiv_of_empty {c d : Chunk} (hc : c.rest = []) (hd : d.rest = []) : ChunkEquiv c d :=
  ⟨hc.trans hd.symm, fun h => absurd hc h⟩

theorem beforeFirst_core (ign : Bool) (s t : Base) (hf : s.files = t.files) (hb : s.offBegin = t.offBegin)
    (he : s.offEnd = t.offEnd) (hw : s.bufWords = t.bufWords)
    (hp : s.offEnd ≤ s.offBegin ∨ (s.filePtr = t.filePtr ∧ s.fpos.isSome = t.fpos.isSome))
    (hq : s.offEnd ≤ s.offBegin → ign = false → s.offCurr = t.offCurr) :
    ERel false (EquivG ign) (beforeFirst s) (beforeFirst t) := by
  rw [beforeFirst_eq, beforeFirst_eq, ← hf, ← hb, ← he]
  split
  · rename_i hle
    rw [bfEmptyClears_true, if_pos rfl, if_pos rfl]
    exact ⟨⟨rfl, rfl, rfl, rfl, hw, chunkEquiv_of_empty rfl rfl, Or.inl hle⟩, hq hle⟩
  · rename_i hle
    obtain ⟨hp1, hp2⟩ := hp.resolve_left hle
    rw [← hp1]
    cases h1 : s.fpos <;> cases h2 : t.fpos <;> rw [h1, h2] at hp2 <;> try cases hp2
    · exact ERel.err _
    · simp only []
      split
      · exact ERel.err _
      · exact ⟨⟨rfl, rfl, rfl, rfl, hw, chunkEquiv_of_empty rfl rfl, Or.inr ⟨rfl, rfl, rfl⟩⟩, fun _ => rfl⟩

/-- the outcomes of `resetPartition` on two states over the same files at once; `ob` is the raw start offset -/
inductive RpRel (F : Fmt) (s t : Base) (ob : Nat) : Except Err Base → Except Err Base → Prop
  | err (e : Err) : RpRel F s t ob (.error e) (.error e)
  | early : RpRel F s t ob
      (.ok { s with offBegin := ob, offEnd := ob, offCurr := ob, chunk := s.chunk.clear, overflow := [] })
      (.ok { t with offBegin := ob, offEnd := ob, offCurr := ob, chunk := t.chunk.clear, overflow := [] })
  | seek (ob' oe' fp pos : Nat)
      (hs : ob' = ob ∨ ∃ f q m c, f ∈ s.files ∧ F.seekRecordBegin (f.drop q) = .ok (m, c) ∧ ob' = ob + m) :
      RpRel F s t ob
        (beforeFirst { s with offBegin := ob', offEnd := oe', offCurr := ob, filePtr := fp, fpos := some pos })
        (beforeFirst { t with offBegin := ob', offEnd := oe', offCurr := ob, filePtr := fp, fpos := some pos })

theorem rpCore_rel (F : Fmt) (s t : Base) (ob oe : Nat) (hf : s.files = t.files) :
    RpRel F s t ob (SnapAux.rpCore F s ob oe) (SnapAux.rpCore F t ob oe) := by
  cases s
  cases t
  cases hf
  -- the tests of `rpCore` in their order; both sides take the same branch
  unfold SnapAux.rpCore
  simp only []
  split                 -- `rpEmpty`: the early return
  · rename_i he
    have : ob = oe := by simpa [rpEmpty] using he
    subst this
    rw [rpEmptyClears_true, if_pos rfl, if_pos rfl]
    exact .early
  · split               -- the block `rpEndX` (the end moved to a record start) fails
    · exact .err _
    · split             -- no file at `filePtrOf files ob`
      · exact .err _
      · rename_i f _ hd
        have hfm := List.mem_of_mem_drop (hd ▸ List.mem_cons_self ..)
        split           -- the block `rpBeginX` (the begin moved to a record start) fails
        · exact .err _
        · rename_i ob' pos hr
          refine .seek ob' _ _ pos ?_
          split at hr   -- inside `rpBeginX`: `ob` is not a file start, and then the outcome of `seekRecordBegin`
          · split at hr
            · cases hr
            · rename_i m c hq
              cases hr
              exact Or.inr ⟨f, _, m, c, hfm, hq, rfl⟩
          · cases hr
            exact Or.inl rfl

theorem resetPartition_rel (F : Fmt) (s t : Base) (k n : Nat) (hf : s.files = t.files) :
    ∃ ob, ob ≤ totalSize s.files ∧ RpRel F s t ob (resetPartition F s k n) (resetPartition F t k n) := by
  rw [SnapAux.resetPartition_eq_core, SnapAux.resetPartition_eq_core, ← hf]
  split
  · exact ⟨0, Nat.zero_le _, .err _⟩
  · exact ⟨_, Nat.min_le_right _ _, rpCore_rel F s t _ _ hf⟩

theorem resetPartition_core (F : Fmt) (s t : Base) (k n : Nat) (hf : s.files = t.files)
    (hb : s.bufWords = t.bufWords) :
    ERel false (EquivG false) (resetPartition F s k n) (resetPartition F t k n) := by
  obtain ⟨ob, _, h⟩ := resetPartition_rel F s t k n hf
  generalize resetPartition F s k n = x, resetPartition F t k n = y at h
  cases h with
  | err e => exact ERel.err e
  | early => exact ⟨⟨hf, rfl, rfl, rfl, hb, chunkEquiv_of_empty rfl rfl, Or.inl (Nat.le_refl _)⟩, fun _ => rfl⟩
  | seek ob' oe' fp pos _ => exact beforeFirst_core false _ _ hf rfl rfl hb (Or.inr ⟨rfl, rfl⟩) (fun _ _ => rfl)

theorem resetPartition_inv (F : Fmt) (s s' : Base) (k n : Nat) (h : resetPartition F s k n = .ok s') :
    ∃ ob, ob ≤ totalSize s.files ∧
      (s' = { s with offBegin := ob, offEnd := ob, offCurr := ob, chunk := s.chunk.clear, overflow := [] } ∨
       ∃ ob' oe' fp pos,
        (ob' = ob ∨ ∃ f q m c, f ∈ s.files ∧ F.seekRecordBegin (f.drop q) = .ok (m, c) ∧ ob' = ob + m) ∧
        beforeFirst { s with offBegin := ob', offEnd := oe', offCurr := ob, filePtr := fp, fpos := some pos }
          = .ok s') := by
  obtain ⟨ob, hob, hr⟩ := resetPartition_rel F s s k n rfl
  refine ⟨ob, hob, ?_⟩
  generalize hx : resetPartition F s k n = x at hr
  rw [hx] at h
  cases hr with
  | err e => cases h
  | early => cases h; exact Or.inl rfl
  | seek ob' oe' fp pos hs => exact Or.inr ⟨ob', oe', fp, pos, hs, h⟩

end CleanAux
open CleanAux

theorem equiv_refl (s : Base) : Equiv s s :=
  ⟨rfl, rfl, rfl, rfl, rfl, chunkEquiv_refl _, Or.inr ⟨rfl, rfl, rfl⟩⟩

theorem equiv_symm {s t : Base} (h : Equiv s t) : Equiv t s := by
  obtain ⟨h1, h2, h3, h4, h5, h6, h7⟩ := h
  refine ⟨h1.symm, h2.symm, h3.symm, h4.symm, h5.symm, chunkEquiv_symm h6, ?_⟩
  rcases h7 with h7 | ⟨a, b, c⟩
  · left; omega
  · right; exact ⟨a.symm, b.symm, c.symm⟩

theorem equiv_trans {s t u : Base} (h : Equiv s t) (g : Equiv t u) : Equiv s u := by
  obtain ⟨h1, h2, h3, h4, h5, h6, h7⟩ := h
  obtain ⟨g1, g2, g3, g4, g5, g6, g7⟩ := g
  refine ⟨h1.trans g1, h2.trans g2, h3.trans g3, h4.trans g4, h5.trans g5, chunkEquiv_trans h6 g6, ?_⟩
  rcases h7 with h7 | ⟨a, b, c⟩
  · left; exact h7
  · rcases g7 with g7 | ⟨a', b', c'⟩
    · left; omega
    · right; exact ⟨a.trans a', b.trans b', c.trans c'⟩

theorem clean_equiv (s t : Base) (hs : Clean s) (ht : Clean t) (hf : s.files = t.files)
    (hb : s.offBegin = t.offBegin) (he : s.offEnd = t.offEnd) (hw : s.bufWords = t.bufWords) :
    Equiv s t := by
  obtain ⟨s1, s2, s3⟩ := hs
  obtain ⟨t1, t2, t3⟩ := ht
  refine ⟨hf, hb, he, s2.trans t2.symm, hw, chunkEquiv_of_empty s1 t1, ?_⟩
  rcases s3 with s3 | ⟨a, b, c⟩
  · left; exact s3
  · rcases t3 with t3 | ⟨a', b', c'⟩
    · left; omega
    · right
      rw [a, a', b, b', c, c', hf, hb]
      exact ⟨rfl, rfl, rfl⟩

theorem resetPartition_clean (F : Fmt) (s s' : Base) (k n : Nat) (h : resetPartition F s k n = .ok s')
    (hlt : s'.offBegin < s'.offEnd → s'.offBegin < 2^64) : Clean s' := by
  obtain ⟨ob, _, rfl | ⟨ob', oe', fp, pos, _, hbf⟩⟩ := resetPartition_inv F s s' k n h
  · exact ⟨rfl, rfl, Or.inl (Nat.le_refl _)⟩
  · obtain ⟨_, f2, f3, _⟩ := beforeFirst_frame _ _ hbf
    exact beforeFirst_clean _ _ hbf (by rw [← f2, ← f3]; exact hlt)

theorem resetPartition_indep (F : Fmt) (s t : Base) (k n : Nat) (hf : s.files = t.files)
    (hb : s.bufWords = t.bufWords) :
    match resetPartition F s k n, resetPartition F t k n with
    | .ok s', .ok t' => Equiv s' t'
    | .error e1, .error e2 => e1 = e2
    | _, _ => False := by
  have h := ERel.mono (resetPartition_core F s t k n hf hb) fun _ _ h => h.1
  generalize resetPartition F s k n = x, resetPartition F t k n = y at h ⊢
  cases x <;> cases y <;> exact ERel_false_iff.1 h

theorem beforeFirst_equivG (ign : Bool) (s t : Base) (h : EquivG ign s t) :
    ERel false (EquivG ign) (beforeFirst s) (beforeFirst t) := by
  obtain ⟨⟨h1, h2, h3, h4, h5, h6, h7⟩, h8⟩ := h
  exact beforeFirst_core ign s t h1 h2 h3 h5 (h7.imp_right fun ⟨_, b, c⟩ => ⟨b, by rw [c]⟩) (fun _ => h8)

theorem beforeFirst_equiv (s t : Base) (h : Equiv s t) :
    match beforeFirst s, beforeFirst t with
    | .ok s', .ok t' => Equiv s' t'
    | .error e1, .error e2 => e1 = e2
    | _, _ => False := by
  have h := ERel.mono (beforeFirst_equivG true s t ⟨h, fun h => by cases h⟩) fun _ _ h => h.1
  generalize beforeFirst s = x, beforeFirst t = y at h ⊢
  cases x <;> cases y <;> exact ERel_false_iff.1 h

theorem beforeFirst_idem (s s' : Base) (h : beforeFirst s = .ok s') : beforeFirst s' = .ok s' := by
  rcases beforeFirst_inv s s' h with ⟨he, rfl⟩ | ⟨hne, rfl⟩ <;> rw [beforeFirst_eq] <;> simp only []
  · rw [if_pos he, bfEmptyClears_true, if_pos rfl]
    rfl
  · rw [if_neg (by omega), if_neg (by simp)]
    rfl

theorem resetPartition_idem (F : Fmt) (s s' : Base) (k n : Nat) (h : resetPartition F s k n = .ok s') :
    beforeFirst s' = .ok s' := by
  obtain ⟨ob, _, rfl | ⟨_, _, _, _, _, hbf⟩⟩ := resetPartition_inv F s s' k n h
  · rw [beforeFirst_eq, if_pos (Nat.le_refl _), bfEmptyClears_true, if_pos rfl]
    rfl
  · exact beforeFirst_idem _ _ hbf

namespace ResetAux

/-- the wrapper after `BeforeFirst` / `ResetPartition`: its chunk is handed back (`tmp_chunk_ = NULL`) -/
def clearWrap (w : Option Wrap) : Option Wrap := w.map fun w => { w with chunk := none }

end ResetAux
open ResetAux

def resetOut (s : St) (x : Except Err Base) : St × Out :=
  match x with
  | .error e => (s, .err e)
  | .ok b => ({ base := b, wrap := clearWrap s.wrap }, .done)

attribute [local irreducible] beforeFirst in
theorem step_hint (F : Fmt) (s : St) (m : Nat) :
    step F s (.hint m) =
      match s.wrap with
      | none => ({ s with base := hint s.base m }, .done)
      | some w => ({ s with wrap := some { w with bufWords := hintWords m w.bufWords } }, .done) := rfl

theorem step_beforeFirst (F : Fmt) (s : St) : step F s .beforeFirst = resetOut s (beforeFirst s.base) := by
  unfold step resetOut
  simp only []
  cases beforeFirst s.base <;> rfl

attribute [local irreducible] beforeFirst resetPartition in
/-- bare or wrapped: the wrapper's extra `BeforeFirst` changes nothing -/
theorem step_reset (F : Fmt) (s : St) (k n : Nat) :
    step F s (.reset k n) = resetOut s (resetPartition F s.base k n) := by
  obtain ⟨sb, sw⟩ := s
  unfold step resetOut
  simp only []
  cases hb : resetPartition F sb k n with
  | error e => rfl
  | ok b =>
    cases sw with
    | none => rfl
    | some w => simp only []; rw [resetPartition_idem F _ _ k n hb]; rfl

theorem resetOut_done {s s' : St} {x : Except Err Base} (h : resetOut s x = (s', .done)) :
    ∃ b, x = .ok b ∧ s' = { base := b, wrap := clearWrap s.wrap } := by
  cases x with
  | error e => injection h with _ h2; cases h2
  | ok b => injection h with h1 _; exact ⟨b, rfl, h1.symm⟩

/-! ## B. the state machine respects the equivalence -/

namespace CleanAux

theorem EquivG.setOverflow {ign : Bool} {s t : Base} (h : EquivG ign s t) (o : Bytes) :
    EquivG ign { s with overflow := o } { t with overflow := o } := by
  obtain ⟨⟨h1, h2, h3, _, h5, h6, h7⟩, h8⟩ := h
  exact ⟨⟨h1, h2, h3, rfl, h5, h6, h7⟩, h8⟩

theorem EquivG.setChunk {ign : Bool} {s t : Base} (h : EquivG ign s t) {c d : Chunk} (hc : ChunkEquiv c d) :
    EquivG ign { s with chunk := c } { t with chunk := d } := by
  obtain ⟨⟨h1, h2, h3, h4, h5, _, h7⟩, h8⟩ := h
  exact ⟨⟨h1, h2, h3, h4, h5, hc, h7⟩, h8⟩

theorem EquivG.weaken {ign : Bool} {s t : Base} (h : EquivG false s t) : EquivG ign s t :=
  ⟨h.1, fun _ => h.2 rfl⟩

theorem EquivG.hint {ign : Bool} {s t : Base} (h : EquivG ign s t) (m : Nat) :
    EquivG ign (hint s m) (hint t m) := by
  obtain ⟨⟨h1, h2, h3, h4, h5, h6, h7⟩, h8⟩ := h
  exact ⟨⟨h1, h2, h3, h4, congrArg (hintWords m) h5, h6, h7⟩, h8⟩

end CleanAux

theorem foot_equivG (ign : Bool) : Foot (EquivG ign) :=
  ⟨fun h => ⟨h.files, h.offBegin, h.offEnd, h.overflow, h.pos⟩,
   fun h _ _ _ => ⟨⟨h.files, h.offBegin, h.offEnd, h.overflow, h.bufWords, h.chunk, Or.inr ⟨rfl, rfl, rfl⟩⟩, fun _ => rfl⟩,
   fun h o => EquivG.setOverflow h o⟩

/-! From `loadLoop` upwards the model functions are unfolded only through the lemmas of Unfold.lean (its header says why),
`step` through `step_bare`, `step_next` / `step_next_view` (WrapView) and `step_hint` / `step_beforeFirst` / `step_reset` above. -/

attribute [local irreducible] readChunk in
theorem loadLoop_mono (F : Fmt) : ∀ (fuel : Nat) (s : Base) (dw : Nat), loadLoop F fuel s dw ≠ .error .fuel →
    ∀ k, loadLoop F (fuel + k) s dw = loadLoop F fuel s dw := by
  intro fuel
  induction fuel with
  | zero => intro s dw h; exact absurd rfl h
  | succ fuel ih =>
    intro s dw h k
    rw [show fuel + 1 + k = (fuel + k) + 1 by omega, loadLoop_succ, loadLoop_succ]
    rw [loadLoop_succ] at h
    generalize readChunk F s (loadSize dw) = x at h ⊢
    rcases x with _ | ⟨_ | _ | _, s1⟩
    · rfl
    · rfl
    · exact ih _ _ h k
    · rfl

theorem loadLoop_equivG (ign : Bool) (F : Fmt) (f1 f2 : Nat) (hf : ign = false → f1 = f2) (s t : Base) (dw : Nat)
    (h : EquivG ign s t) : ERel ign (LoopRel (EquivG ign)) (loadLoop F f1 s dw) (loadLoop F f2 t dw) := by
  cases ign with
  | false => rw [hf rfl]; exact loadLoop_rel (foot_equivG false) F f2 dw h
  | true =>
    by_cases hx : loadLoop F f1 s dw = .error .fuel
    · rw [hx]; exact ERel.fuel_left rfl _
    · by_cases hy : loadLoop F f2 t dw = .error .fuel
      · rw [hy]; exact ERel.fuel_right rfl _
      · have := loadLoop_rel (foot_equivG true) F (f1 + f2) dw h
        rw [loadLoop_mono F f1 s dw hx f2, Nat.add_comm, loadLoop_mono F f2 t dw hy f1] at this
        exact ERel.weaken this

/-- on `false` the chunk keeps its window (only `dataWords` changes), on `true` the new chunks are equal -/
def LoadRel (ign : Bool) (a b : Bool × Base × Chunk) : Prop :=
  a.1 = b.1 ∧ EquivG ign a.2.1 b.2.1 ∧ ChunkEquiv a.2.2 b.2.2

theorem loadFuel_eq_of_equivG {ign : Bool} {s t : Base} (h : EquivG ign s t) (hi : ign = false) :
    loadFuel s = loadFuel t := by
  unfold loadFuel
  rw [h.files, h.offEnd, h.overflow, h.2 hi]

attribute [local irreducible] loadLoop loadFuel loadResize load in
theorem load_equivG (ign : Bool) (F : Fmt) (s t : Base) (h : EquivG ign s t) (c d : Chunk)
    (hc : ChunkEquiv c d) : ERel ign (LoadRel ign) (load F s c) (load F t d) := by
  have hx := loadLoop_equivG ign F _ _ (loadFuel_eq_of_equivG h) s t (loadResize s.bufWords) h
  rw [load_unfold, load_unfold, ← h.bufWords]
  generalize loadLoop F (loadFuel s) s (loadResize s.bufWords) = x,
    loadLoop F (loadFuel t) t (loadResize s.bufWords) = y at hx ⊢
  apply ERel.bind hx
  rintro ⟨o, s1, dw1⟩ ⟨_, t1, _⟩ ⟨ho, hst, hdw, -⟩
  cases ho
  cases hdw
  cases o with
  | none => exact ⟨rfl, hst, hc.1, fun hr => ⟨(hc.2 hr).1, rfl⟩⟩
  | some bytes => exact ⟨rfl, hst, chunkEquiv_refl _⟩

def ExtRel : Option (Bytes × Chunk) → Option (Bytes × Chunk) → Prop
  | none, none => True
  | some (b1, c1), some (b2, c2) => b1 = b2 ∧ ChunkEquiv c1 c2
  | _, _ => False

def ExtractRespects (F : Fmt) : Prop :=
  ∀ c d, ChunkEquiv c d →
    match F.extractNext c, F.extractNext d with
    | .ok none, .ok none => True
    | .ok (some (b1, c1)), .ok (some (b2, d1)) => b1 = b2 ∧ ChunkEquiv c1 d1
    | .error e1, .error e2 => e1 = e2
    | _, _ => False

namespace CleanAux

theorem extRel_iff (x y : Except Err (Option (Bytes × Chunk))) :
    ERel false ExtRel x y ↔
      match x, y with
      | .ok none, .ok none => True
      | .ok (some (b1, c1)), .ok (some (b2, d1)) => b1 = b2 ∧ ChunkEquiv c1 d1
      | .error e1, .error e2 => e1 = e2
      | _, _ => False := by
  rcases x with e1 | _ | ⟨b1, c1⟩ <;> rcases y with e2 | _ | ⟨b2, c2⟩ <;> simp [ERel, ExtRel]

end CleanAux

attribute [local irreducible] load in
theorem nextLoop_equivG (ign : Bool) (F : Fmt) (ext : Chunk → Except Err (Option (Bytes × Chunk)))
    (hext : ∀ c d, ChunkEquiv c d → ERel false ExtRel (ext c) (ext d)) : ∀ (fuel : Nat) (s t : Base),
    EquivG ign s t → ERel ign (ResRel (EquivG ign)) (nextLoop F ext fuel s) (nextLoop F ext fuel t) := by
  intro fuel
  induction fuel with
  | zero => intro s t _; exact ERel.err _
  | succ fuel ih =>
    intro s t h
    have hc := h.chunk
    rw [nextLoop_succ, nextLoop_succ]
    have hx := ERel.weaken (ign := ign) (hext _ _ hc)
    have hl := load_equivG ign F s t h _ _ hc
    generalize ext s.chunk = x, ext t.chunk = y at hx ⊢
    generalize load F s s.chunk = l, load F t t.chunk = l' at hl ⊢
    apply ERel.bind hx
    rintro (_ | ⟨b1, c1⟩) (_ | ⟨b2, c2⟩) hR <;> try exact hR.elim
    · apply ERel.bind hl
      rintro ⟨ok1, s1, c1⟩ ⟨_, t1, d1⟩ ⟨hok, hst, hcd⟩
      cases hok
      cases ok1
      · exact ⟨rfl, EquivG.setChunk hst hcd⟩
      · exact ih _ _ (EquivG.setChunk hst hcd)
    · exact ⟨congrArg some hR.1, EquivG.setChunk h hR.2⟩

namespace CleanAux

theorem extRel_refl (o : Option (Bytes × Chunk)) : ExtRel o o := by
  cases o with
  | none => trivial
  | some p => exact ⟨rfl, chunkEquiv_refl _⟩

theorem resp_of_none_iff (ext : Chunk → Except Err (Option (Bytes × Chunk)))
    (h : ∀ c, ext c = .ok none ↔ c.rest = []) (c d : Chunk) (hcd : ChunkEquiv c d) :
    ERel false ExtRel (ext c) (ext d) := by
  by_cases hne : c.rest = []
  · have hd : d.rest = [] := by rw [← hcd.1]; exact hne
    rw [(h c).2 hne, (h d).2 hd]
    trivial
  · rw [chunk_eq_of_equiv hcd hne]
    cases ext d with
    | error e => exact ERel.err _
    | ok o => exact extRel_refl o

theorem extractChunk_none_iff (c : Chunk) :
    (Except.ok (extractChunk c) : Except Err _) = .ok none ↔ c.rest = [] := by
  unfold extractChunk
  cases hr : c.rest with
  | nil => simp
  | cons x xs => simp

theorem recExtractMore_ne_none : ∀ (fuel : Nat) (out : Bytes) (c : Chunk) (cflag : Nat),
    recExtractMore fuel out c cflag ≠ .ok none := by
  intro fuel
  induction fuel with
  | zero => intro out c cflag h; simp [recExtractMore] at h
  | succ fuel ih =>
    intro out c cflag h
    rw [recExtractMore] at h
    split at h
    · split at h
      · split at h
        · simp only [] at h
          split at h
          · cases h
          · exact ih _ _ _ h
        · cases h
      · cases h
    · cases h

/-- every exit of `recExtract` on a non-empty window is an error, a record, or the reassembly loop (`recExtractMore_ne_none`);
the `split`s walk its tests in the order of the model -/
theorem recExtract_none_iff (c : Chunk) : recExtract c = .ok none ↔ c.rest = [] := by
  unfold recExtract
  cases hr : c.rest with
  | nil => simp
  | cons x xs =>
    simp only [List.isEmpty_cons, Bool.false_eq_true, if_false]
    constructor
    · intro h
      split at h
      · cases h
      · split at h
        · cases h
        · split at h
          · split at h
            · cases h
            · split at h
              · cases h
              · split at h
                · exact absurd h (recExtractMore_ne_none _ _ _ _)
                · cases h
          · cases h
    · intro h; cases h

end CleanAux

theorem extractNoneIff_text : ExtractNoneIff Fmt.text := textExtract_none
theorem extractNoneIff_recordio : ExtractNoneIff Fmt.recordio := recExtract_none_iff

theorem extractRespects_of_noneIff (F : Fmt) (h : ExtractNoneIff F) : ExtractRespects F :=
  fun c d hcd => (extRel_iff _ _).1 (resp_of_none_iff F.extractNext h c d hcd)

theorem extractRespects_text : ExtractRespects Fmt.text :=
  extractRespects_of_noneIff _ extractNoneIff_text

theorem extractRespects_recordio : ExtractRespects Fmt.recordio :=
  extractRespects_of_noneIff _ extractNoneIff_recordio

namespace CleanAux

theorem wpChunk_equiv (v w : Wrap) (h : WrapEquiv (some v) (some w)) : ChunkEquiv (wpChunk v) (wpChunk w) := by
  obtain ⟨_, hch⟩ := h
  unfold wpChunk
  cases hv : v.chunk with
  | none =>
    cases hw : w.chunk with
    | none => exact chunkEquiv_of_empty rfl rfl
    | some d =>
      rw [hv, hw] at hch
      exact chunkEquiv_of_empty rfl hch
  | some c =>
    cases hw : w.chunk with
    | none =>
      rw [hv, hw] at hch
      exact chunkEquiv_of_empty hch rfl
    | some d =>
      rw [hv, hw] at hch
      exact hch

end CleanAux

def StEquivG (ign : Bool) (s t : St) : Prop := EquivG ign s.base t.base ∧ WrapEquiv s.wrap t.wrap

def OutRel (ign : Bool) (o1 o2 : Out) : Prop :=
  o1 = o2 ∨ (ign = true ∧ (o1 = .err .fuel ∨ o2 = .err .fuel))

/-- the successor states are related only after a normal outcome: an object that reported an error is not used any further -/
def StepRel (ign : Bool) (a b : St × Out) : Prop :=
  OutRel ign a.2 b.2 ∧ ((∀ e, a.2 ≠ .err e) → (∀ e, b.2 ≠ .err e) → StEquivG ign a.1 b.1)

namespace CleanAux

theorem StepRel.err (ign : Bool) (s t : St) (e : Err) : StepRel ign (s, .err e) (t, .err e) :=
  ⟨Or.inl rfl, fun h _ => absurd rfl (h e)⟩

theorem StepRel.fuelL {ign : Bool} (hi : ign = true) (s : St) (b : St × Out) :
    StepRel ign (s, .err .fuel) b :=
  ⟨Or.inr ⟨hi, Or.inl rfl⟩, fun h _ => absurd rfl (h .fuel)⟩

theorem StepRel.fuelR {ign : Bool} (hi : ign = true) (a : St × Out) (t : St) :
    StepRel ign a (t, .err .fuel) :=
  ⟨Or.inr ⟨hi, Or.inr rfl⟩, fun _ h => absurd rfl (h .fuel)⟩

theorem StepRel.ok {ign : Bool} {s t : St} (o : Out) (h : StEquivG ign s t) : StepRel ign (s, o) (t, o) :=
  ⟨Or.inl rfl, fun _ _ => h⟩

theorem StepRel.bind {ign : Bool} {α β : Type} {R : α → β → Prop} {x : Except Err α} {y : Except Err β}
    (h : ERel ign R x y) {f : Except Err α → St × Out} {g : Except Err β → St × Out} {s t : St}
    (hk : ∀ a b, R a b → StepRel ign (f (.ok a)) (g (.ok b)))
    (hf : ∀ e, f (.error e) = (s, .err e) := by intros; rfl)
    (hg : ∀ e, g (.error e) = (t, .err e) := by intros; rfl) : StepRel ign (f x) (g y) := by
  rcases ERel.cases h with ⟨a, b, rfl, rfl, hR⟩ | ⟨e, rfl, rfl⟩ | ⟨hi, rfl⟩ | ⟨hi, rfl⟩
  · exact hk a b hR
  · rw [hf, hg]; exact StepRel.err ign s t e
  · rw [hf]; exact StepRel.fuelL hi s _
  · rw [hg]; exact StepRel.fuelR hi _ t

theorem wrapEquiv_cases {a b : Option Wrap} (h : WrapEquiv a b) :
    (a = none ∧ b = none) ∨ ∃ v w, a = some v ∧ b = some w ∧ WrapEquiv (some v) (some w) := by
  rcases a with _ | v <;> rcases b with _ | w
  · exact Or.inl ⟨rfl, rfl⟩
  · exact h.elim
  · exact h.elim
  · exact Or.inr ⟨v, w, rfl, rfl, h⟩

theorem outOf_ne_err (r : Option Bytes) (e : Err) : outOf r ≠ .err e := by
  cases r <;> simp [outOf]

theorem wrapEquiv_map_clear (a b : Option Wrap) (h : WrapEquiv a b) :
    WrapEquiv (a.map fun w => { w with chunk := none }) (b.map fun w => { w with chunk := none }) := by
  cases a with
  | none =>
    cases b with
    | none => trivial
    | some w => exact False.elim h
  | some v =>
    cases b with
    | none => exact False.elim h
    | some w => exact ⟨h.1, trivial⟩

theorem view_equivG {ign : Bool} {s t : St} (h : StEquivG ign s t) : EquivG ign s.view t.view := by
  obtain ⟨hb, hw⟩ := h
  unfold St.view
  rcases wrapEquiv_cases hw with ⟨hs, ht⟩ | ⟨v, w, hs, ht, hvw⟩ <;> rw [hs, ht]
  · exact hb
  · exact EquivG.setChunk hb (wpChunk_equiv v w hvw)

theorem unview_rel {ign : Bool} {s t : St} (h : StEquivG ign s t) {x y : Except Err (Option Bytes × Base)}
    (hx : ERel ign (ResRel (EquivG ign)) x y) : StepRel ign (s.unview x) (t.unview y) := by
  obtain ⟨hb, hw⟩ := h
  unfold St.unview
  rcases wrapEquiv_cases hw with ⟨hs, ht⟩ | ⟨v, w, hs, ht, hvw⟩
  · rw [hs, ht]
    apply StepRel.bind hx
    rintro ⟨r, s1⟩ ⟨_, t1⟩ ⟨rfl, hst⟩
    exact StepRel.ok _ ⟨hst, hw⟩
  · rw [hs, ht]
    apply StepRel.bind hx
    rintro ⟨r, s1⟩ ⟨_, t1⟩ ⟨rfl, hst⟩
    refine StepRel.ok _ ⟨EquivG.setChunk hst hb.chunk, hvw.1, ?_⟩
    show ChunkEquiv (if r = none then _ else _) (if r = none then _ else _)
    split
    · exact chunkEquiv_of_empty rfl rfl
    · exact hst.chunk

attribute [local irreducible] step in
theorem drainGo_equiv (ign : Bool) (F : Fmt) (hst : ∀ s t op, StEquivG ign s t → StepRel ign (step F s op) (step F t op))
    (pick : Nat → Bool) : ∀ (fuel i : Nat) (s t : St) (acc : List Bytes), StEquivG ign s t →
      ERel ign (fun a b => a = b) (drainGo F pick fuel i s acc).2 (drainGo F pick fuel i t acc).2 := by
  intro fuel
  induction fuel with
  | zero => intro i s t acc _; exact ERel.err _
  | succ fuel ih =>
    intro i s t acc h
    rw [drainGo_succ, drainGo_succ]
    have hs := hst s t (if pick i then .nextRec else .nextChunk) h
    generalize step F s (if pick i then .nextRec else .nextChunk) = A,
      step F t (if pick i then .nextRec else .nextChunk) = B at hs ⊢
    obtain ⟨s1, o1⟩ := A
    obtain ⟨t1, o2⟩ := B
    obtain ⟨ho, hstate⟩ := hs
    rcases ho with heq | ⟨hi, hl | hr⟩
    · cases heq
      cases o1 with
      | blob b => exact ih (i + 1) s1 t1 (acc ++ [b]) (hstate (fun e h => by cases h) (fun e h => by cases h))
      | eof => rfl
      | err e => exact ERel.err _
      | done => exact ERel.err _
    · cases hl
      exact ERel.fuel_left hi _
    · cases hr
      exact ERel.fuel_right hi _

/-- the wrapper's share of the iteration bound of `drain` is the window of the chunk it loads into -/
theorem drainFuel_view (s : St) :
    drainFuel s = s.base.chunk.rest.length + s.base.overflow.length + totalSize s.base.files
      + (match s.wrap with | some w => (wpChunk w).rest.length | none => 0) + 2 * s.base.files.length + 4 := by
  obtain ⟨b, _ | ⟨_ | c, bw⟩⟩ := s <;> rfl

theorem drainFuel_eq (s t : St) (h : StEquiv s t) : drainFuel s = drainFuel t := by
  obtain ⟨⟨h1, _, _, h4, _, h6, _⟩, hw⟩ := h
  rw [drainFuel_view, drainFuel_view, h1, h4, h6.1]
  rcases wrapEquiv_cases hw with ⟨hs, ht⟩ | ⟨v, w, hs, ht, hvw⟩ <;> rw [hs, ht]
  simp only [(wpChunk_equiv v w hvw).1]

end CleanAux

attribute [local irreducible] nextRecord nextChunk wrapNext beforeFirst resetPartition in
/-- the wrapper needs that `extractNext` returns "no record" exactly on an exhausted chunk, the bare object only that it
respects `ChunkEquiv` -/
theorem step_equiv_of (ign : Bool) (F : Fmt) (s t : St)
    (hext : ∀ c d, ChunkEquiv c d → ERel false ExtRel (F.extractNext c) (F.extractNext d))
    (hwn : s.wrap ≠ none → ExtractNoneIff F) (h : StEquivG ign s t) (op : Op) :
    StepRel ign (step F s op) (step F t op) := by
  have next : ∀ rec : Bool, StepRel ign (step F s (if rec then .nextRec else .nextChunk))
      (step F t (if rec then .nextRec else .nextChunk)) := by
    intro rec
    have hE : (∀ c d, ChunkEquiv c d → ERel false ExtRel (extOf F rec c) (extOf F rec d)) ∧
        (s.wrap ≠ none → ∀ c, extOf F rec c = .ok none ↔ c.rest = []) := by
      cases rec
      · exact ⟨resp_of_none_iff _ extractChunk_none_iff, fun _ => extractChunk_none_iff⟩
      · exact ⟨hext, hwn⟩
    have hst : t.wrap ≠ none → s.wrap ≠ none := fun ht hs => by
      rcases wrapEquiv_cases h.2 with ⟨_, h2⟩ | ⟨_, _, h1, _⟩
      · exact ht h2
      · rw [h1] at hs; cases hs
    rw [step_next_view F s rec hE.2, step_next_view F t rec (fun ht => hE.2 (hst ht))]
    exact unview_rel h (nextLoop_equivG ign F _ hE.1 3 _ _ (view_equivG h))
  obtain ⟨hb, hw⟩ := h
  cases op with
  | nextRec => exact next true
  | nextChunk => exact next false
  | hint m =>
    rw [step_hint, step_hint]
    rcases wrapEquiv_cases hw with ⟨hs, ht⟩ | ⟨v, w, hs, ht, hvw⟩ <;> rw [hs, ht]
    · exact StepRel.ok _ ⟨EquivG.hint hb m, trivial⟩
    · exact StepRel.ok _ ⟨hb, congrArg (hintWords m) hvw.1, hvw.2⟩
  | beforeFirst =>
    rw [step_beforeFirst, step_beforeFirst]
    have hx := beforeFirst_equivG ign _ _ hb
    generalize beforeFirst s.base = x, beforeFirst t.base = y at hx ⊢
    apply StepRel.bind (ERel.weaken hx)
    intro b1 b2 hst
    exact StepRel.ok _ ⟨hst, wrapEquiv_map_clear _ _ hw⟩
  | reset k n =>
    rw [step_reset, step_reset]
    have hx := resetPartition_core F _ _ k n hb.files hb.bufWords
    generalize resetPartition F s.base k n = x, resetPartition F t.base k n = y at hx ⊢
    apply StepRel.bind (ERel.weaken hx)
    intro b1 b2 hst
    exact StepRel.ok _ ⟨EquivG.weaken hst, wrapEquiv_map_clear _ _ hw⟩

theorem step_equivG (ign : Bool) (F : Fmt) (hN : ExtractNoneIff F) (s t : St) (h : StEquivG ign s t) (op : Op) :
    StepRel ign (step F s op) (step F t op) :=
  step_equiv_of ign F s t (resp_of_none_iff _ hN) (fun _ => hN) h op

theorem step_equivG_bare (ign : Bool) (F : Fmt) (hF : ExtractRespects F) (s t : St) (h : StEquivG ign s t)
    (hs : s.wrap = none) (op : Op) :
    StepRel ign (step F s op) (step F t op) :=
  step_equiv_of ign F s t (fun c d h => (extRel_iff _ _).2 (hF c d h)) (fun h => absurd hs h) h op

theorem stEquivG_true (s t : St) (h : StEquiv s t) : StEquivG true s t :=
  ⟨⟨h.1, fun hh => by cases hh⟩, h.2⟩

theorem stEquivG_false (s t : St) (h : StEquiv s t) (hc : s.base.offCurr = t.base.offCurr) :
    StEquivG false s t := ⟨⟨h.1, fun _ => hc⟩, h.2⟩

/-- C05 simulation step; `fuel` (the model's iteration bound) on either side is a wildcard -/
theorem step_equiv (F : Fmt) (hN : ExtractNoneIff F) (s t : St) (h : StEquiv s t) (op : Op) :
    (step F s op).2 = .err .fuel ∨ (step F t op).2 = .err .fuel ∨
    ((step F s op).2 = (step F t op).2 ∧
     ((∀ e, (step F s op).2 ≠ .err e) → StEquiv (step F s op).1 (step F t op).1)) := by
  obtain ⟨ho, hst⟩ := step_equivG true F hN s t (stEquivG_true s t h) op
  rcases ho with heq | ⟨_, hl | hr⟩
  · right; right
    refine ⟨heq, fun hne => ?_⟩
    have := hst hne (by rw [← heq]; exact hne)
    exact ⟨this.1.1, this.2⟩
  · left; exact hl
  · right; left; exact hr

/-- strict version: `offCurr` agrees after `resetPartition` and stays so; then `fuel` outcomes agree too -/
theorem step_equiv_strict (F : Fmt) (hN : ExtractNoneIff F) (s t : St) (h : StEquiv s t)
    (hc : s.base.offCurr = t.base.offCurr) (op : Op) :
    (step F s op).2 = (step F t op).2 ∧
    ((∀ e, (step F s op).2 ≠ .err e) →
      StEquiv (step F s op).1 (step F t op).1 ∧ (step F s op).1.base.offCurr = (step F t op).1.base.offCurr) := by
  obtain ⟨ho, hst⟩ := step_equivG false F hN s t (stEquivG_false s t h hc) op
  rcases ho with heq | ⟨hi, _⟩
  · refine ⟨heq, fun hne => ?_⟩
    have := hst hne (by rw [← heq]; exact hne)
    exact ⟨⟨this.1.1, this.2⟩, this.1.2 rfl⟩
  · cases hi

attribute [local irreducible] drainGo step in
theorem drain_equivG (ign : Bool) (F : Fmt) (hN : ExtractNoneIff F) (s t : St) (h : StEquivG ign s t)
    (pick : Nat → Bool) :
    ERel ign (fun a b => a = b) (drain F pick s).2 (drain F pick t).2 := by
  unfold drain
  rw [drainFuel_eq s t ⟨h.1.1, h.2⟩]
  exact drainGo_equiv ign F (fun s t op h => step_equivG ign F hN s t h op) pick _ 0 s t [] h

theorem drain_equiv (F : Fmt) (hN : ExtractNoneIff F) (s t : St) (h : StEquiv s t) (pick : Nat → Bool) :
    (drain F pick s).2 = .error .fuel ∨ (drain F pick t).2 = .error .fuel ∨
    (drain F pick s).2 = (drain F pick t).2 := by
  rcases ERel.cases (drain_equivG true F hN s t (stEquivG_true s t h) pick) with
    ⟨a, b, hx, hy, hR⟩ | ⟨e, hx, hy⟩ | ⟨_, hx⟩ | ⟨_, hy⟩
  · right; right; rw [hx, hy, hR]
  · right; right; rw [hx, hy]
  · left; exact hx
  · right; left; exact hy

theorem drain_equiv_strict (F : Fmt) (hN : ExtractNoneIff F) (s t : St) (h : StEquiv s t)
    (hc : s.base.offCurr = t.base.offCurr) (pick : Nat → Bool) :
    (drain F pick s).2 = (drain F pick t).2 := by
  rcases ERel.cases (drain_equivG false F hN s t (stEquivG_false s t h hc) pick) with
    ⟨a, b, hx, hy, hR⟩ | ⟨e, hx, hy⟩ | ⟨hi, _⟩ | ⟨hi, _⟩
  · rw [hx, hy, hR]
  · rw [hx, hy]
  · cases hi
  · cases hi

end DmlcModel.Split

