/-
The file list of a ';'-list of canonical absolute names.  A canonical name is recognised by the automaton `canonGo`, from
which the byte-level facts `ConvertToURIs` depends on are read off; `initInputFileInfo_canon_of` reduces the list to what
the loop body lists for one existing piece.
-/
import DmlcModel.Split.FilesInit

namespace DmlcModel.Split
open DmlcModel DmlcModel.Gen.Split

variable (rx : Name → Name → Bool) (fs : FileSys)

section
attribute [local instance] lawfulBEqByte

def canonGo : Bool → Bytes → Bool
  | afterSlash, [] => !afterSlash
  | afterSlash, b :: r => if b == 47 then !afterSlash && canonGo true r else b != 59 && canonGo false r

def canonNameB : Name → Bool
  | [] => false
  | b :: r => b == 47 && canonGo true r

theorem canonGo_slash (r : Bytes) : canonGo false (47 :: r) = canonGo true r := by
  rw [canonGo]; simp

theorem canonGo_other (st : Bool) (b : Byte) (r : Bytes) (h1 : (47 : UInt8) ≠ b) (h2 : (59 : UInt8) ≠ b) :
    canonGo st (b :: r) = canonGo false r := by
  simp [canonGo, h1.symm, h2.symm]

theorem canonGo_false_comp (r : Bytes) : ∀ (c : Bytes), (47 : UInt8) ∉ c → (59 : UInt8) ∉ c →
    canonGo false (c ++ r) = canonGo false r := by
  intro c
  induction c with
  | nil => intro _ _; rfl
  | cons b t ih =>
    intro h1 h2
    rw [List.cons_append, canonGo_other _ _ _ (List.ne_of_not_mem_cons h1) (List.ne_of_not_mem_cons h2)]
    exact ih (List.not_mem_of_not_mem_cons h1) (List.not_mem_of_not_mem_cons h2)

theorem canonGo_flatMap : ∀ (comps : List Bytes), (∀ c ∈ comps, c ≠ [] ∧ (47 : UInt8) ∉ c ∧ (59 : UInt8) ∉ c) →
    canonGo false (comps.flatMap (fun c => 47 :: c)) = true := by
  intro comps
  induction comps with
  | nil => intro _; rfl
  | cons c t ih =>
    intro h
    obtain ⟨g1, g2, g3⟩ := h c (List.mem_cons_self ..)
    obtain ⟨b, c, rfl⟩ := List.exists_cons_of_ne_nil g1
    rw [List.flatMap_cons, List.cons_append, canonGo_slash, List.cons_append,
      canonGo_other _ _ _ (List.ne_of_not_mem_cons g2) (List.ne_of_not_mem_cons g3),
      canonGo_false_comp _ c (List.not_mem_of_not_mem_cons g2) (List.not_mem_of_not_mem_cons g3)]
    exact ih (fun c hc => h c (List.mem_cons_of_mem _ hc))

theorem canonNameB_of (p : Name) (h : CanonName p) : canonNameB p = true := by
  obtain ⟨comps, h1, h2, rfl⟩ := h
  have := canonGo_flatMap comps h2
  obtain ⟨c, t, rfl⟩ := List.exists_cons_of_ne_nil h1
  rw [List.flatMap_cons, List.cons_append, canonGo_slash] at this
  rw [List.flatMap_cons, List.cons_append, canonNameB, this]
  rfl


theorem canonGo_comps : ∀ (r cur : Bytes), canonGo cur.isEmpty r = true → (47 : UInt8) ∉ cur → (59 : UInt8) ∉ cur →
    ∃ comps : List Bytes, comps ≠ [] ∧ (∀ c ∈ comps, c ≠ [] ∧ (47 : UInt8) ∉ c ∧ (59 : UInt8) ∉ c) ∧
      47 :: (cur ++ r) = comps.flatMap (fun c => 47 :: c) := by
  intro r
  induction r with
  | nil =>
    intro cur h h1 h2
    rw [canonGo] at h
    refine ⟨[cur], by simp, ?_, by simp⟩
    intro c hc
    rw [List.mem_singleton.1 hc]
    exact ⟨fun hn => (by rw [hn] at h; cases h), h1, h2⟩
  | cons b r ih =>
    intro cur h h1 h2
    rw [canonGo] at h
    by_cases hb : b = 47
    · subst hb
      simp only [beq_self_eq_true, if_true, Bool.and_eq_true, Bool.not_eq_true'] at h
      obtain ⟨comps, _, g2, g3⟩ := ih [] h.2 (by simp) (by simp)
      refine ⟨cur :: comps, by simp, ?_, by rw [List.flatMap_cons, ← g3]; simp⟩
      intro c hc
      rcases List.mem_cons.1 hc with hc | hc
      · exact ⟨fun hn => (by rw [← hc, hn] at h; exact absurd h.1 (by decide)), hc ▸ h1, hc ▸ h2⟩
      · exact g2 c hc
    · simp only [beq_iff_eq, hb, if_false, Bool.and_eq_true, bne_iff_ne, ne_eq] at h
      obtain ⟨comps, g1, g2, g3⟩ := ih (cur ++ [b]) (by rw [show (cur ++ [b]).isEmpty = false by simp]; exact h.2)
        (by simp [h1, Ne.symm hb]) (by simp [h2, Ne.symm h.1])
      exact ⟨comps, g1, g2, by rw [← g3]; simp⟩

theorem canonName_iff (p : Name) : CanonName p ↔ canonNameB p = true := by
  refine ⟨canonNameB_of p, fun h => ?_⟩
  cases p with
  | nil => cases h
  | cons b r =>
    unfold canonNameB at h
    simp only [Bool.and_eq_true, beq_iff_eq] at h
    obtain ⟨comps, g1, g2, g3⟩ := canonGo_comps r [] h.2 (by simp) (by simp)
    exact ⟨comps, g1, g2, by rw [h.1, ← g3]; simp⟩

instance (p : Name) : Decidable (CanonName p) := decidable_of_iff _ (canonName_iff p).symm

instance (fs : FileSys) : Decidable (FsOk fs) := by unfold FsOk; infer_instance

/-! ### byte-level consequences -/

theorem noTrail_nil : NoTrail [] := by intro t h; simp at h

theorem noTrail_append (a t : Bytes) (ht : t ≠ []) (h47 : (47 : UInt8) ∉ t) : NoTrail (a ++ t) := by
  intro x hx
  rcases List.eq_nil_or_concat t with h | ⟨l, b, h⟩
  · exact ht h
  · rw [List.concat_eq_append] at h
    subst h
    rw [← List.append_assoc] at hx
    have hb := List.append_inj_right' hx rfl
    exact h47 (by simp [hb])

theorem stripEnd_noTrail (s : Bytes) (h : NoTrail s) : stripEnd s 47 = s := by
  rcases List.eq_nil_or_concat s with hs | ⟨l, b, hs⟩
  · subst hs; rfl
  · rw [List.concat_eq_append] at hs
    subst hs
    have hn : (b.toNat == 47) = false :=
      beq_eq_false_iff_ne.2 fun hh => h l (by rw [show b = 47 from UInt8.toNat_inj.1 hh])
    unfold stripEnd
    rw [List.reverse_append, List.reverse_singleton, List.singleton_append, stripEndRev, seStrip, hn]
    simp

theorem dirPrefix_noTrail (nm : Name) (h : NoTrail nm) : dirPrefix nm = nm ++ [47] := by
  rw [dirPrefix, stripEnd_noTrail nm h]

theorem canonGo_dbl (y : Bytes) : ∀ (x : Bytes) (st : Bool), canonGo st (x ++ 47 :: 47 :: y) = false := by
  intro x
  induction x with
  | nil => intro st; simp [canonGo]
  | cons b t ih => intro st; rw [List.cons_append, canonGo, ih, ih]; simp

/-- without "//" there is no "://" -/
theorem afterScheme_none : ∀ (s : Bytes), (∀ x y, s ≠ x ++ 47 :: 47 :: y) → afterScheme s = none
  | [], _ => rfl
  | b :: r, h => by
    rw [afterScheme, if_neg, afterScheme_none r (fun x y hr => h (b :: x) y (by rw [hr]; rfl))]
    intro hp
    obtain ⟨t, ht⟩ := (isPrefix_iff _ _).1 hp
    exact h [58] t ht

theorem noTrail_flatMap (comps : List Bytes) (h : ∀ c ∈ comps, c ≠ [] ∧ (47 : UInt8) ∉ c ∧ (59 : UInt8) ∉ c) :
    NoTrail (comps.flatMap (fun c => 47 :: c)) := by
  rcases List.eq_nil_or_concat comps with rfl | ⟨l, c, rfl⟩
  · exact noTrail_nil
  · obtain ⟨g1, g2, _⟩ := h c (by simp)
    rw [show (l.concat c).flatMap (fun c => 47 :: c) = (l.flatMap (fun c => 47 :: c) ++ [47]) ++ c by simp]
    exact noTrail_append _ c g1 g2

theorem canonFacts (p : Name) (h : CanonName p) :
    NoTrail p ∧ (∀ x y, p ≠ x ++ 47 :: 47 :: y) ∧ afterScheme p = none ∧ p ≠ [] ∧ (59 : UInt8) ∉ p := by
  obtain ⟨comps, h1, h2, rfl⟩ := h
  have hdbl : ∀ x y, comps.flatMap (fun c => 47 :: c) ≠ x ++ 47 :: 47 :: y := by
    intro x y hxy
    have hg := canonGo_flatMap comps h2
    rw [hxy, canonGo_dbl] at hg
    cases hg
  refine ⟨noTrail_flatMap comps h2, hdbl, afterScheme_none _ hdbl, ?_, ?_⟩
  · obtain ⟨c, t, rfl⟩ := List.exists_cons_of_ne_nil h1
    exact List.cons_ne_nil _ _
  · intro hm
    obtain ⟨c, hc, hmc⟩ := List.mem_flatMap.1 hm
    rcases List.mem_cons.1 hmc with h | h
    · cases h
    · exact (h2 c hc).2.2 h

theorem CanonName.noTrail {p : Name} (h : CanonName p) : NoTrail p := (canonFacts p h).1

theorem canon_decomp (p : Name) (h : CanonName p) :
    ∃ d c, p = d ++ 47 :: c ∧ c ≠ [] ∧ (47 : UInt8) ∉ c ∧ NoTrail d := by
  obtain ⟨comps, h1, h2, rfl⟩ := h
  rcases List.eq_nil_or_concat comps with hc | ⟨l, c, rfl⟩
  · exact absurd hc h1
  · obtain ⟨g1, g2, _⟩ := h2 c (by simp)
    exact ⟨l.flatMap (fun c => 47 :: c), c, by simp, g1, g2, noTrail_flatMap l (fun x hx => h2 x (by simp [hx]))⟩

theorem uriName_canon (p : Name) (h : CanonName p) : uriName p = p := by
  rw [uriName, (canonFacts p h).2.2.1]

theorem rfind_slash (d c : Bytes) (hc : (47 : UInt8) ∉ c) : rfind (d ++ 47 :: c) cuSlash = some d.length := by
  unfold rfind
  rw [show (d ++ 47 :: c).reverse = c.reverse ++ 47 :: d.reverse by simp, findIdx?_hit _ _ _ _ _ (by decide)]
  · simp only [List.length_reverse, List.length_append, List.length_cons]
    congr 1
    omega
  · intro x hx
    exact beq_eq_false_iff_ne.2 fun hh => hc ((show x = 47 from UInt8.toNat_inj.1 hh) ▸ List.mem_reverse.1 hx)

theorem cuAsIs_false (dl cl : Nat) (hc : 0 < cl) : cuAsIs dl (dl + 1 + cl + 1) (dl + 1 + cl) = false := by
  unfold cuAsIs u64
  have e1 : (dl == dl + 1 + cl + 1) = false := by simp; omega
  have e2 : ((dl + 1) % 18446744073709551616 == dl + 1 + cl) = false := by
    simp only [beq_eq_false_iff_ne, ne_eq]; omega
  rw [e1, e2]
  rfl

/-! ### `dmlc::Split` on a ';'-joined list -/

theorem splitGo_piece (rest : Bytes) : ∀ (p cur : Bytes), (59 : UInt8) ∉ p →
    splitGo cuDelim (p ++ rest) cur = splitGo cuDelim rest (cur ++ p) := by
  intro p
  induction p with
  | nil => intro cur _; simp
  | cons b t ih =>
    intro cur h
    have hb : b.toNat ≠ cuDelim := fun hh => List.ne_of_not_mem_cons h (UInt8.toNat_inj.1 hh).symm
    rw [List.cons_append, splitGo, if_neg hb, ih _ (List.not_mem_of_not_mem_cons h)]
    simp

theorem splitDelim_joinSemi : ∀ (pieces : List Name), (∀ p ∈ pieces, p ≠ [] ∧ (59 : UInt8) ∉ p) →
    splitDelim (joinSemi pieces) cuDelim = pieces := by
  intro pieces
  induction pieces with
  | nil => intro _; rfl
  | cons p t ih =>
    intro h
    obtain ⟨hp1, hp2⟩ := h p (List.mem_cons_self ..)
    cases t with
    | nil =>
      unfold splitDelim
      have := splitGo_piece [] p [] hp2
      rw [List.append_nil] at this
      rw [joinSemi, this, splitGo]
      obtain ⟨_, _, rfl⟩ := List.exists_cons_of_ne_nil hp1
      rfl
    | cons q r =>
      have ih' := ih (fun x hx => h x (List.mem_cons_of_mem _ hx))
      unfold splitDelim at ih' ⊢
      rw [joinSemi, splitGo_piece _ p [] hp2, List.nil_append, splitGo,
        if_pos (by rfl : (59 : UInt8).toNat = cuDelim), ih']


/-! ### what a directory listing contains -/

theorem isDirOf_iff (p : Name) (hp : NoTrail p) :
    isDirOf fs p = true ↔ ∃ e ∈ fs, ∃ t, e.1 = p ++ 47 :: t := by
  unfold isDirOf
  rw [dirPrefix_noTrail p hp, List.any_eq_true]
  simp only [isPrefix_iff, List.append_assoc, List.singleton_append]

theorem subdir_facts (hfs : CanonFs fs) (d : Name) (hd : NoTrail d) (s : Name) (h : s ∈ subdirsM fs d) :
    NoTrail s ∧ ∃ t1, s = d ++ [47] ++ t1 ∧ (47 : UInt8) ∉ t1 ∧ ∃ e ∈ fs, ∃ t2, e.1 = s ++ 47 :: t2 := by
  obtain ⟨e, he, hc⟩ := (mem_subdirsM fs d s).1 h
  rw [dirPrefix_noTrail d hd] at hc
  obtain ⟨t1, t2, g1, g2, rfl⟩ := classify_sub_inv _ e s hc
  refine ⟨?_, t1, rfl, g2, e, he, t2, by rw [g1]; simp⟩
  cases t1 with
  | nil => exact fun x _ => (canonFacts e.1 (hfs e he)).2.1 d t2 (by rw [g1]; simp)
  | cons b t => exact noTrail_append _ _ (List.cons_ne_nil _ _) g2

theorem listDirectory_names (hfs : CanonFs fs) (d : Name) (hd : NoTrail d) (i : Info) (hi : i ∈ listDirectory fs d) :
    NoTrail i.name ∧ present fs i.name = true := by
  rw [present, Bool.or_eq_true]
  cases hk : i.kind == .dir with
  | true =>
    obtain ⟨hnt, _, _, _, e, he, t2, g⟩ :=
      subdir_facts fs hfs d hd i.name (List.mem_map.2 ⟨i, List.mem_filter.2 ⟨hi, hk⟩, rfl⟩)
    exact ⟨hnt, Or.inr ((isDirOf_iff fs _ hnt).2 ⟨e, he, t2, g⟩)⟩
  | false =>
    obtain ⟨e, he, hc⟩ := (mem_filesM fs d i).1 (List.mem_filter.2 ⟨hi, by rw [bne, hk]; rfl⟩)
    rw [(classify_file_inv _ e i hc).1]
    exact ⟨(hfs e he).noTrail, Or.inl (List.any_eq_true.2 ⟨e, he, beq_self_eq_true _⟩)⟩

theorem listDirectory_has (d c : Bytes) (hd : NoTrail d) (hdc : NoTrail (d ++ 47 :: c)) (hc1 : c ≠ [])
    (hc2 : (47 : UInt8) ∉ c) (hex : present fs (d ++ 47 :: c) = true) :
    ∃ i ∈ listDirectory fs d, i.name = d ++ 47 :: c := by
  rw [present, Bool.or_eq_true, List.any_eq_true, isDirOf_iff fs _ hdc] at hex
  rcases hex with ⟨e, he, hn⟩ | ⟨e, he, t, hn⟩
  · rw [beq_iff_eq] at hn
    have := (mem_filesM fs d _).2 ⟨e, he, by
      rw [dirPrefix_noTrail d hd]; exact classify_file _ e c (by rw [hn]; simp) hc1 hc2⟩
    exact ⟨_, (List.mem_filter.1 this).1, hn⟩
  · have := (mem_subdirsM fs d _).2 ⟨e, he, by
      rw [dirPrefix_noTrail d hd]; exact classify_sub _ e c t (by rw [hn]; simp) hc2⟩
    obtain ⟨i, hi, hname⟩ := List.mem_map.1 this
    exact ⟨i, (List.mem_filter.1 hi).1, by rw [hname]; simp⟩

/-- the matcher the driver uses -/
theorem literalRx_beq : LiteralRx (fun a b => a == b) := by
  intro p c h
  simpa using h

theorem expandOne_canon (hrx : LiteralRx rx) (hfs : CanonFs fs)
    (p : Name) (hp : CanonName p) :
    expandOne rx fs p = if present fs p then [p] else [] := by
  obtain ⟨d, c, hdc, hc1, hc2, hd⟩ := canon_decomp p hp
  have hpt := hp.noTrail
  have h1 : rfind p cuSlash = some d.length := by rw [hdc]; exact rfind_slash d c hc2
  have h2 : cuAsIs d.length (p.length + 1) p.length = false := by
    have e : (d ++ 47 :: c).length = d.length + 1 + c.length := by
      rw [List.length_append, List.length_cons]; omega
    rw [hdc, e]
    exact cuAsIs_false d.length c.length (List.length_pos_iff.2 hc1)
  have h3 : p.take d.length = d := by rw [hdc]; exact List.take_left' rfl
  have h5 : stripEnd p cuStripCh = p := stripEnd_noTrail p hpt
  simp only [expandOne, uriName_canon p hp, h1, h2, h3, h5, Bool.false_eq_true, if_false]
  cases hfind : (listDirectory fs d).find? (fun x => stripEnd x.name cuStripCh == p) with
  | some i =>
    obtain ⟨g1, g2⟩ := listDirectory_names fs hfs d hd i (List.mem_of_find?_eq_some hfind)
    have hs : stripEnd i.name cuStripCh = p := by simpa using List.find?_some hfind
    rw [show cuStripCh = 47 from rfl, stripEnd_noTrail _ g1] at hs
    rw [← hs, g2, if_pos rfl]
  | none =>
    rw [List.find?_eq_none] at hfind
    have hflt : (listDirectory fs d).filter
        (fun x => !cuRxSkip (x.kind != .file) x.size && rx p (stripEnd x.name cuStripCh)) = [] := by
      rw [List.filter_eq_nil_iff]
      intro i hi hk
      rw [Bool.and_eq_true] at hk
      exact hfind i hi (by rw [← hrx _ _ hk.2]; simp)
    rw [hflt]
    by_cases hex : present fs p = true
    · rw [hdc] at hex
      obtain ⟨i, hi, hn⟩ := listDirectory_has fs d c hd (hdc ▸ hpt) hc1 hc2 hex
      rw [← hdc] at hn
      exact absurd (by rw [show cuStripCh = 47 from rfl, hn, stripEnd_noTrail _ hpt]; simp) (hfind i hi)
    · rw [if_neg hex]
      rfl


end

/-! ### the loop body of `InitInputFileInfo` on an existing canonical name -/

attribute [local instance] lawfulBEqByte

theorem filterMap_congr_mem {α β : Type} (f g : α → Option β) : ∀ (l : List α), (∀ x ∈ l, f x = g x) →
    l.filterMap f = l.filterMap g := by
  intro l
  induction l with
  | nil => intro _; rfl
  | cons a t ih =>
    intro h
    rw [List.filterMap_cons, List.filterMap_cons, h a (List.mem_cons_self ..),
      ih (fun x hx => h x (List.mem_cons_of_mem _ hx))]

theorem children_entry (d : Bytes) (e : Name × Bytes) (he : NoTrail e.1) :
    (fileOf (d ++ [47]) e).filter kept =
    (if isPrefix (d ++ [47]) e.1 && !(e.1.drop (d.length + 1)).contains 47 && !e.2.isEmpty
     then some { name := e.1, size := e.2.length, kind := .file } else none) := by
  obtain ⟨nm, c⟩ := e
  rw [fileOf]
  rcases classify_cases (d ++ [47]) (nm, c) with ⟨h, h' | h'⟩ | ⟨t, g1, _, g3, h⟩ | ⟨t1, t2, g1, _, h⟩
  · rw [h, h']
    rfl
  · exact absurd h' (he d)
  · have : t.contains 47 = false := by simpa using g3
    rw [h]
    rw [g1, isPrefix_append, List.drop_left' (by simp), this, Option.filter, kept, iiKeepListed]
    cases c <;> rfl
  · rw [h]
    rw [g1, isPrefix_append, List.drop_left' (by simp), show (t1 ++ 47 :: t2).contains 47 = true by simp]
    rfl

theorem filesM_kept (d : Name) :
    (filesM fs d).filter kept =
      (listDirectory fs d).filter kept := by
  unfold filesM
  rw [List.filter_filter]
  apply List.filter_congr
  intro i _
  unfold kept iiKeepListed
  cases i.kind <;> simp


theorem listDirectory_kept (hfs : CanonFs fs) (d : Name) (hd : NoTrail d) :
    (listDirectory fs d).filter kept = childrenOf fs d := by
  rw [← filesM_kept, filesM_eq, dirPrefix_noTrail d hd, List.filter_filterMap]
  exact filterMap_congr_mem _ _ fs (fun e he => children_entry d e (hfs e he).noTrail)

theorem subdirsM_flat (d : Name) (hd : NoTrail d) (hflat : FlatDir fs d) : subdirsM fs d = [] := by
  rw [List.eq_nil_iff_forall_not_mem]
  intro s hs
  obtain ⟨e, he, hc⟩ := (mem_subdirsM fs d s).1 hs
  rw [dirPrefix_noTrail d hd] at hc
  obtain ⟨t1, t2, g1, _, _⟩ := classify_sub_inv _ e s hc
  have := hflat e he (by rw [g1]; exact isPrefix_append _ _)
  rw [g1, List.drop_left' (by simp)] at this
  exact this (by simp)

theorem listDirectoryRecursive_flat (d : Name) (hd : NoTrail d) (hflat : FlatDir fs d) :
    listDirectoryRecursive fs d = .ok (filesM fs d) := by
  have := subdirsM_flat fs d hd hflat
  unfold subdirsM at this
  unfold listDirectoryRecursive listRecFuel
  rw [listRecGo, this]
  rfl

theorem keptListing_flat (hfs : CanonFs fs) (p : Name) (hp : NoTrail p) (rc : Bool)
    (hflat : rc = true → FlatDir fs p) : keptListing fs rc p = .ok (childrenOf fs p) := by
  unfold keptListing
  cases rc with
  | false => exact congrArg _ (listDirectory_kept fs hfs p hp)
  | true =>
    rw [if_pos rfl, listDirectoryRecursive_flat fs p hp (hflat rfl)]
    simp only []
    rw [filesM_kept, listDirectory_kept fs hfs p hp]

theorem isDirOf_of_named (p : Name) (hf : fs.find? (fun e => e.1 == p) = none)
    (hex : present fs p = true) : isDirOf fs p = true := by
  rw [present, Bool.or_eq_true] at hex
  refine hex.resolve_left fun h => ?_
  obtain ⟨e, he, hn⟩ := List.any_eq_true.1 h
  exact List.find?_eq_none.1 hf e he hn

theorem absent (p : Name) (hp : NoTrail p)
    (hex : present fs p = false) :
    fs.find? (fun e => e.1 == p) = none ∧ ∀ e ∈ fs, isPrefix (p ++ [47]) e.1 = false := by
  rw [present, Bool.or_eq_false_iff, isDirOf, dirPrefix_noTrail p hp, List.any_eq_false, List.any_eq_false] at hex
  exact ⟨List.find?_eq_none.2 hex.1, fun e he => Bool.eq_false_iff.2 (hex.2 e he)⟩

theorem childrenOf_nil (p : Name) (h : ∀ e ∈ fs, isPrefix (p ++ [47]) e.1 = false) :
    childrenOf fs p = [] := by
  unfold childrenOf
  rw [List.filterMap_eq_nil_iff]
  intro e he
  rw [h e he]
  rfl

theorem infoOne_canon (hfs : CanonFs fs) (p : Name) (hp : CanonName p)
    (hex : present fs p = true) (rc : Bool) (hflat : rc = true → FlatDir fs p) :
    infoOne fs rc p = .ok (expandSpec fs p) := by
  cases hf : fs.find? (fun e => e.1 == p) with
  | some e => rw [infoOne_file fs rc p e hf, expandSpec, hf]
  | none =>
    rw [infoOne_nofile fs rc p hf, isDirOf_of_named fs p hf hex, if_pos rfl,
      keptListing_flat fs hfs p hp.noTrail rc hflat, expandSpec, hf]

theorem expandSpec_absent (p : Name) (hp : NoTrail p)
    (hex : present fs p = false) : expandSpec fs p = [] := by
  obtain ⟨h1, h2⟩ := absent fs p hp hex
  rw [expandSpec, h1]
  exact childrenOf_nil fs p h2

/-! ### the whole list -/

theorem convertToURIs_canon (hrx : LiteralRx rx) (hfs : CanonFs fs)
    (pieces : List Name) (hp : ∀ p ∈ pieces, CanonName p) :
    convertToURIs rx fs (joinSemi pieces) = pieces.filter (present fs) := by
  unfold convertToURIs
  rw [splitDelim_joinSemi pieces (fun p h => (canonFacts p (hp p h)).2.2.2)]
  induction pieces with
  | nil => rfl
  | cons p t ih =>
    rw [List.flatMap_cons, List.filter_cons, expandOne_canon rx fs hrx hfs p (hp p (List.mem_cons_self ..)),
      ih (fun x hx => hp x (List.mem_cons_of_mem _ hx))]
    split <;> rfl

theorem flatMap_filter_of_nil {α β : Type} (q : α → Bool) (g : α → List β) : ∀ (l : List α),
    (∀ x ∈ l, q x = false → g x = []) → (l.filter q).flatMap g = l.flatMap g := by
  intro l
  induction l with
  | nil => intro _; rfl
  | cons a t ih =>
    intro h
    have ih' := ih (fun x hx => h x (List.mem_cons_of_mem _ hx))
    rw [List.filter_cons, List.flatMap_cons]
    cases hq : q a with
    | true => rw [if_pos rfl, List.flatMap_cons, ih']
    | false => rw [if_neg (by decide), h a (List.mem_cons_self ..) hq, List.nil_append, ih']

theorem initInputFileInfo_canon_of (hrx : LiteralRx rx) 
    (hfs : CanonFs fs) (pieces : List Name) (hp : ∀ p ∈ pieces, CanonName p) (rc : Bool)
    (spec : Name → List Info)
    (hok : ∀ p ∈ pieces, present fs p = true → infoOne fs rc p = .ok (spec p))
    (habs : ∀ p ∈ pieces, present fs p = false → spec p = []) :
    initInputFileInfo rx fs (joinSemi pieces) rc =
      (if (pieces.flatMap spec).isEmpty then .error .check else .ok (pieces.flatMap spec)) := by
  apply initInputFileInfo_of_infoAll
  rw [convertToURIs_canon rx fs hrx hfs pieces hp, ← flatMap_filter_of_nil _ spec pieces habs]
  apply infoAll_eq_ok
  intro p h
  rw [List.mem_filter] at h
  exact hok p h.1 h.2

theorem initInputFileInfo_canon_flat (hrx : LiteralRx rx) 
    (hfs : CanonFs fs) (pieces : List Name) (hp : ∀ p ∈ pieces, CanonName p) (rc : Bool)
    (hflat : rc = true → ∀ p ∈ pieces, FlatDir fs p) :
    initInputFileInfo rx fs (joinSemi pieces) rc =
      (if (pieces.flatMap (expandSpec fs)).isEmpty then .error .check else .ok (pieces.flatMap (expandSpec fs))) :=
  initInputFileInfo_canon_of rx fs hrx hfs pieces hp rc (expandSpec fs)
    (fun p h hex => infoOne_canon fs hfs p (hp p h) hex rc (fun hr => hflat hr p h))
    (fun p h hex => expandSpec_absent fs p (hp p h).noTrail hex)

end DmlcModel.Split
