/-
The unfolding equations of the model functions that Lean cannot unfold by its own means; when Model.lean is edited, this is the
file to repair.  (The three cases of `read` at the start need no device.)

Why.  `u64` / `sub64` carry the literal `2^64`.  To decide a `match` / `if` whose discriminant contains such arithmetic on a FREE
variable (`readChunk F s (loadSize dw)`, `loadSize dw = (dw + 2^64 - 1) % 2^64 * 4 % 2^64`) the kernel takes its weak head normal
form, and `Nat.add dw 18446744073709551616` peels the literal successor by successor.  It gets there whenever the two sides of a
conversion are not syntactically the same `match`.  Symptoms: `rw` / `simp` / `unfold` with `loadLoop` fail with "maximum recursion
depth has been reached"; a `rfl` / `decide` that passes the elaborator ends with "(kernel) deep recursion detected" after minutes,
or does not return.  `[irreducible]` stops the elaborator only (the `attribute [local irreducible] …` lines keep its `rfl` / `rw`
from the same evaluation); the kernel ignores it.

The device.  For each such `f` a generic copy (`loopGen`, `loadGen`, `nextGen`, `drainGen`, `wrapProduceG`, `wrapLoopG`,
`wrapNextG`, `rpCore`) with the offending callees as variables, written with the very matchers of `f`, so that `delta f copy; rfl`
identifies the two (`loadLoop_eq_gen`, `load_eq_gen`, `nextLoop_eq_gen`, `drainGo_eq_gen`, `wrapLoop_eq_gen`, the `have this` in
`wrapProduce_unfold` / `wrapNext_unfold`, `resetPartition_eq_core`).  The equation is proved for the copy against a hand-written
step function (`loadStep`, `loadFin`, `nextStep`, `drainStep`, `wrapFin`, `wrapStep`, `wrapStart`) and instantiated.  Trap: never
close `loadStep x k₁ dw = loadStep x k₂ dw` by `rfl` (the kernel compares the continuations and unfolds the model functions in
them); `cases x` or `simp only [loadStep]`.  `rpCore` is `resetPartition` behind its arithmetic; its two inner blocks are written
again as `rpEndX`, `rpBeginX`, and `rpCore_eq` (a `rfl`) keeps the three texts in step.

To repair a copy after an edit of `f`: it must be the elaborated body of `f` with the callees abstracted, as shown by
`set_option pp.match false in #print f._f` (structural recursion: `loadLoop`, `nextLoop`, `drainGo`, `wrapLoop`) or `… #print f`
(`load`, `wrapProduce`, `wrapNext`, `resetPartition`).  Copy (i) the matcher names: numbered per function, and a matcher of an
earlier function is re-used where the shape is the same (`wrapLoop` uses `nextLoop.match_3`, `wrapProduce.match_1`; `wrapNext` uses
`wrapLoop.match_1`), so an edit of `nextLoop` can break `wrapLoop_eq_gen`; (ii) structure updates in expanded form
(`{ dataWords := dw, begin := c.begin, rest := c.rest }` for `{ c with dataWords := dw }`); (iii) order and binders of the
alternatives.  Then adapt the step function to the new branches.
-/
import DmlcModel.Split.Model

namespace DmlcModel.Split
open DmlcModel DmlcModel.Gen.Split

/-! ### `Read`: its three cases -/

theorem read_closed (F : Fmt) (s : Base) (size : Nat) (h : s.fpos = none) : read F s size = .ok ([], s) := by
  unfold read
  rw [h]

theorem read_empty (F : Fmt) (s : Base) (size : Nat) (h : s.offEnd ≤ s.offBegin) : read F s size = .ok ([], s) := by
  unfold read
  rw [show rdEmpty s.offBegin s.offEnd = true by simpa [rdEmpty] using h]
  cases s.fpos <;> rfl

theorem read_open (F : Fmt) (s : Base) (size : Nat) {pos : Nat} (hfp : s.fpos = some pos) (h : ¬ s.offEnd ≤ s.offBegin) :
    read F s size =
      if (if rdClip s.offCurr size s.offEnd then rdClipped s.offCurr s.offEnd else size) = 0 then .ok ([], s)
      else
        match readLoop F.isText s.files (s.files.length + 1)
            (if rdClip s.offCurr size s.offEnd then rdClipped s.offCurr s.offEnd else size) s.filePtr pos s.offCurr [] with
        | .error e => .error e
        | .ok (bytes, fp, pos, oc) => .ok (bytes, { s with filePtr := fp, fpos := some pos, offCurr := oc }) := by
  unfold read
  rw [hfp, show rdEmpty s.offBegin s.offEnd = false by simpa [rdEmpty] using h]
  rfl

/-! ### `ReadChunk` -/

theorem rcTooSmall_spec (m o : Nat) : rcTooSmall m o = decide (m ≤ o) := rfl

theorem rcShort_spec (n m : Nat) : (rcShort n m = true) ↔ n ≠ m := by
  unfold rcShort; simp

theorem rcNewline_byte : UInt8.ofNat rcNewline = 10 := by decide

/-- the buffer `FindLastRecordBegin` gets: carry-over, bytes read and (text, nothing read) a final `'\n'` -/
def rcBuf (F : Fmt) (ov bytes : Bytes) : Bytes :=
  if F.isText = true ∧ bytes = [] then ov ++ bytes ++ [10] else ov ++ bytes

/-- the generated comparisons resolved, except the size of the `Read`, which needs a bound on `m` -/
theorem readChunk_eq (F : Fmt) (s : Base) (m : Nat) :
    readChunk F s m =
      if m ≤ s.overflow.length then .ok (some [], s)
      else
        match read F { s with overflow := [] } (rcReadSize m s.overflow.length) with
        | .error e => .error e
        | .ok (bytes, s1) =>
          if s.overflow ++ bytes = [] then .ok (none, s1)
          else if F.isText = false ∧ (s.overflow ++ bytes).length ≠ m then .ok (some (s.overflow ++ bytes), s1)
          else
            match F.findLastRecordBegin (rcBuf F s.overflow bytes) with
            | .error e => .error e
            | .ok cut => .ok (some ((rcBuf F s.overflow bytes).take cut),
                              { s1 with overflow := (rcBuf F s.overflow bytes).drop cut }) := by
  unfold readChunk
  rw [rcTooSmall_spec]
  by_cases hsm : m ≤ s.overflow.length
  · rw [decide_eq_true hsm, if_pos rfl, if_pos hsm]
  · rw [decide_eq_false hsm, if_neg (by decide), if_neg hsm]
    simp only []
    cases read F { s with overflow := [] } (rcReadSize m s.overflow.length) with
    | error e => rfl
    | ok res =>
      obtain ⟨bytes, s1⟩ := res
      have hnd : (rcNoNewData (s.overflow ++ bytes).length s.overflow.length = true) ↔ bytes = [] := by
        unfold rcNoNewData; simp
      simp only [rcBuf, rcShort_spec, rcNewline_byte, hnd, List.length_eq_zero_iff]
      split
      · rfl
      · split
        · rfl
        · cases F.findLastRecordBegin _ <;> rfl

/-! ### the loop of `Chunk::Load` and `load` -/

def loopGen (rc : Base → Nat → Except Err (Option Bytes × Base)) (sz grow : Nat → Nat) :
    Nat → Base → Nat → Except Err (Option Bytes × Base × Nat)
  | 0, _, _ => .error .fuel
  | fuel + 1, s, dataWords =>
    loadLoop.match_1 (fun _ => Except Err (Option Bytes × Base × Nat)) (rc s (sz dataWords))
      (fun e => .error e) (fun s => .ok (none, s, dataWords))
      (fun s => loopGen rc sz grow fuel s (grow dataWords)) (fun c s => .ok (some c, s, dataWords))

def loadStep (d : Except Err (Option Bytes × Base)) (k : Base → Except Err (Option Bytes × Base × Nat))
    (dw : Nat) : Except Err (Option Bytes × Base × Nat) :=
  match d with
  | .error e => .error e
  | .ok (none, s) => .ok (none, s, dw)
  | .ok (some [], s) => k s
  | .ok (some c, s) => .ok (some c, s, dw)

theorem loopGen_succ (rc : Base → Nat → Except Err (Option Bytes × Base)) (sz grow : Nat → Nat)
    (fuel : Nat) (s : Base) (dw : Nat) :
    loopGen rc sz grow (fuel + 1) s dw =
      loadStep (rc s (sz dw)) (fun s1 => loopGen rc sz grow fuel s1 (grow dw)) dw := by
  rw [loopGen]; rfl

def loadGen (L : Nat → Base → Nat → Except Err (Option Bytes × Base × Nat)) (fu : Base → Nat)
    (rs : Nat → Nat) (s : Base) (c : Chunk) : Except Err (Bool × Base × Chunk) :=
  load.match_1 (fun _ => Except Err (Bool × Base × Chunk)) (L (fu s) s (rs s.bufWords))
    (fun e => .error e)
    (fun s dw => .ok (false, s, { dataWords := dw, begin := c.begin, rest := c.rest }))
    (fun bytes s dw => .ok (true, s, { dataWords := dw, rest := bytes }))

def loadFin (d : Except Err (Option Bytes × Base × Nat)) (c : Chunk) : Except Err (Bool × Base × Chunk) :=
  match d with
  | .error e => .error e
  | .ok (none, s, dw) => .ok (false, s, { c with dataWords := dw })
  | .ok (some bytes, s, dw) => .ok (true, s, { dataWords := dw, begin := 0, rest := bytes })

theorem loadGen_eq (L : Nat → Base → Nat → Except Err (Option Bytes × Base × Nat)) (fu : Base → Nat)
    (rs : Nat → Nat) (s : Base) (c : Chunk) :
    loadGen L fu rs s c = loadFin (L (fu s) s (rs s.bufWords)) c := rfl

attribute [local irreducible] readChunk loadSize loadGrow loadFuel loadResize

theorem loadLoop_eq_gen (F : Fmt) : loadLoop F = loopGen (readChunk F) loadSize loadGrow := by
  delta loadLoop loopGen
  rfl

theorem loadLoop_zero (F : Fmt) (s : Base) (dw : Nat) : loadLoop F 0 s dw = .error .fuel := rfl

theorem loadLoop_succ (F : Fmt) (fuel : Nat) (s : Base) (dw : Nat) :
    loadLoop F (fuel + 1) s dw =
      loadStep (readChunk F s (loadSize dw)) (fun s1 => loadLoop F fuel s1 (loadGrow dw)) dw := by
  rw [loadLoop_eq_gen]
  exact loopGen_succ (readChunk F) loadSize loadGrow fuel s dw

theorem load_eq_gen (F : Fmt) : load F = loadGen (loadLoop F) loadFuel loadResize := by
  delta load loadGen
  rfl

theorem load_unfold (F : Fmt) (s : Base) (c : Chunk) :
    load F s c = loadFin (loadLoop F (loadFuel s) s (loadResize s.bufWords)) c := by
  rw [load_eq_gen]
  exact loadGen_eq (loadLoop F) loadFuel loadResize s c

/-! ### `nextLoop`, `step` on a bare split, `drainGo` -/

def nextGen (ld : Base → Chunk → Except Err (Bool × Base × Chunk))
    (ext : Chunk → Except Err (Option (Bytes × Chunk))) : Nat → Base → Except Err (Option Bytes × Base)
  | 0, _ => .error .fuel
  | fuel + 1, s =>
    nextLoop.match_3 (fun _ => Except Err (Option Bytes × Base)) (ext s.chunk)
      (fun e => .error e)
      (fun b c => .ok (some b, { s with chunk := c }))
      (fun _ =>
        nextLoop.match_1 (fun _ => Except Err (Option Bytes × Base)) (ld s s.chunk)
          (fun e => .error e)
          (fun s c => .ok (none, { s with chunk := c }))
          (fun s c => nextGen ld ext fuel { s with chunk := c }))

def nextStep (s : Base) (x : Except Err (Option (Bytes × Chunk))) (l : Except Err (Bool × Base × Chunk))
    (k : Base → Except Err (Option Bytes × Base)) : Except Err (Option Bytes × Base) :=
  match x with
  | .error e => .error e
  | .ok (some (b, c)) => .ok (some b, { s with chunk := c })
  | .ok none =>
    match l with
    | .error e => .error e
    | .ok (false, s, c) => .ok (none, { s with chunk := c })
    | .ok (true, s, c) => k { s with chunk := c }

theorem nextGen_succ (ld : Base → Chunk → Except Err (Bool × Base × Chunk))
    (ext : Chunk → Except Err (Option (Bytes × Chunk))) (fuel : Nat) (s : Base) :
    nextGen ld ext (fuel + 1) s = nextStep s (ext s.chunk) (ld s s.chunk) (nextGen ld ext fuel) := by
  rw [nextGen]; rfl

attribute [local irreducible] load in
theorem nextLoop_eq_gen (F : Fmt) (ext : Chunk → Except Err (Option (Bytes × Chunk))) :
    nextLoop F ext = nextGen (load F) ext := by
  delta nextLoop nextGen
  rfl

theorem nextLoop_zero (F : Fmt) (ext : Chunk → Except Err (Option (Bytes × Chunk))) (s : Base) :
    nextLoop F ext 0 s = .error .fuel := rfl

theorem nextLoop_succ (F : Fmt) (ext : Chunk → Except Err (Option (Bytes × Chunk))) (fuel : Nat) (s : Base) :
    nextLoop F ext (fuel + 1) s = nextStep s (ext s.chunk) (load F s s.chunk) (nextLoop F ext fuel) := by
  rw [nextLoop_eq_gen]
  exact nextGen_succ (load F) ext fuel s

def bareOut (s : St) (x : Except Err (Option Bytes × Base)) : St × Out :=
  match x with
  | .error e => (s, .err e)
  | .ok (r, b) => ({ s with base := b }, outOf r)

attribute [local irreducible] nextRecord nextChunk in
theorem step_bare (F : Fmt) (s : St) (hw : s.wrap = none) (rec : Bool) :
    step F s (if rec then .nextRec else .nextChunk) =
      bareOut s (if rec then nextRecord F s.base else nextChunk F s.base) := by
  cases rec with
  | true =>
    simp only [if_true, step, hw]
    generalize nextRecord F s.base = x
    rcases x with e | ⟨r, b⟩ <;> simp only [bareOut, hw]
  | false =>
    simp only [Bool.false_eq_true, if_false, step, hw]
    generalize nextChunk F s.base = x
    rcases x with e | ⟨r, b⟩ <;> simp only [bareOut, hw]

def drainGen (st : St → Op → St × Out) (pick : Nat → Bool) :
    Nat → Nat → St → List Bytes → St × Except Err (List Bytes)
  | 0, _, s, _ => (s, .error .fuel)
  | fuel + 1, i, s, acc =>
    drainGo.match_1 (fun _ => St × Except Err (List Bytes)) (st s (if pick i then .nextRec else .nextChunk))
      (fun s b => drainGen st pick fuel (i + 1) s (acc ++ [b]))
      (fun s => (s, .ok acc))
      (fun s e => (s, .error e))
      (fun s => (s, .error .fuel))

def drainStep (x : St × Out) (k : St → Bytes → St × Except Err (List Bytes)) (acc : List Bytes) :
    St × Except Err (List Bytes) :=
  match x with
  | (s, .blob b) => k s b
  | (s, .eof) => (s, .ok acc)
  | (s, .err e) => (s, .error e)
  | (s, .done) => (s, .error .fuel)

theorem drainGen_succ (st : St → Op → St × Out) (pick : Nat → Bool) (fuel i : Nat) (s : St) (acc : List Bytes) :
    drainGen st pick (fuel + 1) i s acc =
      drainStep (st s (if pick i then .nextRec else .nextChunk))
        (fun s1 b => drainGen st pick fuel (i + 1) s1 (acc ++ [b])) acc := by
  rw [drainGen]; rfl

attribute [local irreducible] step in
theorem drainGo_eq_gen (F : Fmt) (pick : Nat → Bool) : drainGo F pick = drainGen (step F) pick := by
  delta drainGo drainGen
  rfl

theorem drainGo_zero (F : Fmt) (pick : Nat → Bool) (i : Nat) (s : St) (acc : List Bytes) :
    drainGo F pick 0 i s acc = (s, .error .fuel) := rfl

theorem drainGo_succ (F : Fmt) (pick : Nat → Bool) (fuel i : Nat) (s : St) (acc : List Bytes) :
    drainGo F pick (fuel + 1) i s acc =
      drainStep (step F s (if pick i then .nextRec else .nextChunk))
        (fun s1 b => drainGo F pick fuel (i + 1) s1 (acc ++ [b])) acc := by
  rw [drainGo_eq_gen]
  exact drainGen_succ (step F) pick fuel i s acc

/-! ### unfolding the wrapper functions -/

/-- what `NextProducer` makes of the result of `Chunk::Load` -/
def wrapFin (w : Wrap) (x : Except Err (Bool × Base × Chunk)) : Except Err (Bool × Base × Wrap) :=
  match x with
  | .error e => .error e
  | .ok (ok, b, c) => .ok (ok, b, { w with chunk := some c })

def wrapStep (b : Base) (w : Wrap) (x : Except Err (Option (Bytes × Chunk))) (p : Except Err (Bool × Base × Wrap))
    (k : Base → Wrap → Chunk → Except Err (Option Bytes × Base × Wrap)) : Except Err (Option Bytes × Base × Wrap) :=
  match x with
  | .error e => .error e
  | .ok (some (blob, c)) => .ok (some blob, b, { w with chunk := some c })
  | .ok none =>
    match p with
    | .error e => .error e
    | .ok (false, b, w) => .ok (none, b, w)
    | .ok (true, b, w) =>
      match w.chunk with
      | none => .error .uninit
      | some c => k b w c

def wrapStart (b : Base) (w : Wrap) (p : Except Err (Bool × Base × Wrap))
    (k : Base → Wrap → Chunk → Except Err (Option Bytes × Base × Wrap)) : Except Err (Option Bytes × Base × Wrap) :=
  match w.chunk with
  | some c => k b w c
  | none => wrapStep b w (.ok none) p k

-- `XAux` holds steps towards the results of one lemma file (`CleanAux`: CleanLemmas, `SnapAux`: SnapLemmas, `ResetAux`:
-- CoverReset, `CoverAux`: CoverText, `RecSnapAux`: RecSnap), in whatever file they stand; the full names are fixed
namespace CleanAux

/-- the chunk `NextProducer` loads into -/
def wpChunk (w : Wrap) : Chunk :=
  wrapProduce.match_1 (fun _ => Chunk) w.chunk (fun _ => ({ dataWords := chunkInitWords w.bufWords } : Chunk))
    (fun c => c)

def wrapProduceG (ld : Base → Chunk → Except Err (Bool × Base × Chunk)) (b : Base) (w : Wrap) :
    Except Err (Bool × Base × Wrap) :=
  let c := wrapProduce.match_1 (fun _ => Chunk) w.chunk
    (fun _ => ({ dataWords := chunkInitWords w.bufWords } : Chunk)) (fun c => c)
  wrapProduce.match_3 (fun _ => Except Err (Bool × Base × Wrap)) (ld b c) (fun e => .error e)
    (fun ok b c => .ok (ok, b, { w with chunk := some c }))

theorem wrapProduceG_eq (ld : Base → Chunk → Except Err (Bool × Base × Chunk)) (b : Base) (w : Wrap) :
    wrapProduceG ld b w = wrapFin w (ld b (wpChunk w)) := rfl

def wrapLoopG (wp : Base → Wrap → Except Err (Bool × Base × Wrap))
    (ext : Chunk → Except Err (Option (Bytes × Chunk))) :
    Nat → Base → Wrap → Chunk → Except Err (Option Bytes × Base × Wrap)
  | 0, _, _, _ => .error .fuel
  | fuel + 1, b, w, c =>
    nextLoop.match_3 (fun _ => Except Err (Option Bytes × Base × Wrap)) (ext c) (fun e => .error e)
      (fun blob c => .ok (some blob, b, { w with chunk := some c }))
      (fun _ => wrapLoop.match_1 (fun _ => Except Err (Option Bytes × Base × Wrap))
        (wp b { w with chunk := none }) (fun e => .error e)
        (fun b w => .ok (none, b, w))
        (fun b w => wrapProduce.match_1 (fun _ => Except Err (Option Bytes × Base × Wrap)) w.chunk
          (fun _ => .error .uninit) (fun c => wrapLoopG wp ext fuel b w c)))

theorem wrapLoopG_succ (wp : Base → Wrap → Except Err (Bool × Base × Wrap))
    (ext : Chunk → Except Err (Option (Bytes × Chunk))) (fuel : Nat) (b : Base) (w : Wrap) (c : Chunk) :
    wrapLoopG wp ext (fuel + 1) b w c =
      wrapStep b w (ext c) (wp b { w with chunk := none }) (wrapLoopG wp ext fuel) := by
  rw [wrapLoopG]; rfl

def wrapNextG (wp : Base → Wrap → Except Err (Bool × Base × Wrap))
    (wl : Nat → Base → Wrap → Chunk → Except Err (Option Bytes × Base × Wrap)) (b : Base) (w : Wrap) :
    Except Err (Option Bytes × Base × Wrap) :=
  wrapNext.match_1 (fun _ => Except Err (Option Bytes × Base × Wrap)) w.chunk (fun c => wl 3 b w c) fun _ =>
    wrapLoop.match_1 (fun _ => Except Err (Option Bytes × Base × Wrap)) (wp b w) (fun e => .error e)
      (fun b w => .ok (none, b, w)) fun b w =>
      wrapProduce.match_1 (fun _ => Except Err (Option Bytes × Base × Wrap)) w.chunk
        (fun _ => .error .uninit) fun c => wl 3 b w c

theorem wrapNextG_eq (wp : Base → Wrap → Except Err (Bool × Base × Wrap))
    (wl : Nat → Base → Wrap → Chunk → Except Err (Option Bytes × Base × Wrap)) (b : Base) (w : Wrap) :
    wrapNextG wp wl b w = wrapStart b w (wp b w) (wl 3) := by
  unfold wrapNextG; rfl

end CleanAux
open CleanAux

attribute [local irreducible] load in
theorem wrapProduce_unfold (F : Fmt) (b : Base) (w : Wrap) :
    wrapProduce F b w = wrapFin w (load F b (wpChunk w)) := by
  have : wrapProduce F = wrapProduceG (load F) := by delta wrapProduce wrapProduceG; rfl
  rw [this]
  exact wrapProduceG_eq (load F) b w

attribute [local irreducible] wrapProduce in
theorem wrapLoop_eq_gen (F : Fmt) (ext : Chunk → Except Err (Option (Bytes × Chunk))) :
    wrapLoop F ext = wrapLoopG (wrapProduce F) ext := by
  delta wrapLoop wrapLoopG
  rfl

theorem wrapLoop_succ (F : Fmt) (ext : Chunk → Except Err (Option (Bytes × Chunk))) (fuel : Nat) (b : Base) (w : Wrap)
    (c : Chunk) :
    wrapLoop F ext (fuel + 1) b w c =
      wrapStep b w (ext c) (wrapProduce F b { w with chunk := none }) (wrapLoop F ext fuel) := by
  rw [wrapLoop_eq_gen]
  exact wrapLoopG_succ (wrapProduce F) ext fuel b w c

attribute [local irreducible] wrapProduce wrapLoop in
theorem wrapNext_unfold (F : Fmt) (ext : Chunk → Except Err (Option (Bytes × Chunk))) (b : Base) (w : Wrap) :
    wrapNext F ext b w = wrapStart b w (wrapProduce F b w) (wrapLoop F ext 3) := by
  have : wrapNext F ext = wrapNextG (wrapProduce F) (wrapLoop F ext) := by delta wrapNext wrapNextG; rfl
  rw [this]
  exact wrapNextG_eq _ _ b w

/-! ### `resetPartition` -/

namespace SnapAux

/-- the "find the exact ending position" block -/
def rpEndX (F : Fmt) (files : List Bytes) (oe : Nat) : Except Err Nat :=
  if rpSnapEnd oe (fileOffset files (filePtrOf files oe)) then
    if ¬ (fileOffset files (filePtrOf files oe) < oe) ∨ ¬ (filePtrOf files oe < files.length) then
      .error .check
    else
      resetPartition.match_3 (fun _ => Except Err Nat) (files.drop (filePtrOf files oe))
        (fun _ => .error .oob) fun f _ =>
        resetPartition.match_1 (fun _ => Except Err Nat)
          (F.seekRecordBegin (f.drop (rpSeekEnd oe (fileOffset files (filePtrOf files oe)))))
          (fun e => .error e) fun n _ => .ok (oe + n)
  else .ok oe

/-- the "find the exact starting position" block, on the file `f` that was opened -/
def rpBeginX (F : Fmt) (files : List Bytes) (ob : Nat) (f : Bytes) : Except Err (Nat × Nat) :=
  if rpSnapBegin ob (fileOffset files (filePtrOf files ob)) then
    resetPartition.match_1 (fun _ => Except Err (Nat × Nat))
      (F.seekRecordBegin (f.drop (rpSeekBegin ob (fileOffset files (filePtrOf files ob)))))
      (fun e => .error e)
      fun n consumed => .ok (ob + n, rpSeekBegin ob (fileOffset files (filePtrOf files ob)) + consumed)
  else .ok (ob, 0)

/-- body of `resetPartition` after the arithmetic, with the two raw offsets as parameters (the arithmetic on `rank`, `nsplit` is
what the kernel must not meet: `resetPartition_eq_core`) -/
def rpCore (F : Fmt) (s : Base) (ob oe : Nat) : Except Err Base :=
    let s := { s with offBegin := ob, offEnd := oe, offCurr := ob }
    if rpEmpty ob oe then
      .ok (if rpEmptyClears then { s with chunk := s.chunk.clear, overflow := [] } else s)
    else
      let fp := filePtrOf s.files ob
      let fpe := filePtrOf s.files oe
      let oe' : Except Err Nat :=
        if rpSnapEnd oe (fileOffset s.files fpe) then
          if ¬ (fileOffset s.files fpe < oe) ∨ ¬ (fpe < s.files.length) then .error .check
          else
            resetPartition.match_3 (fun _ => Except Err Nat) (s.files.drop fpe) (fun _ => .error .oob)
              fun f _ =>
              resetPartition.match_1 (fun _ => Except Err Nat)
                (F.seekRecordBegin (f.drop (rpSeekEnd oe (fileOffset s.files fpe)))) (fun e => .error e)
                fun n _ => .ok (oe + n)
        else .ok oe
      resetPartition.match_5 (fun _ => Except Err Base) oe' (fun e => .error e) fun oe' =>
        resetPartition.match_3 (fun _ => Except Err Base) (s.files.drop fp) (fun _ => .error .oob)
          fun f _ =>
          let r : Except Err (Nat × Nat) :=
            if rpSnapBegin ob (fileOffset s.files fp) then
              let seekPos := rpSeekBegin ob (fileOffset s.files fp)
              resetPartition.match_1 (fun _ => Except Err (Nat × Nat)) (F.seekRecordBegin (f.drop seekPos))
                (fun e => .error e) fun n consumed => .ok (ob + n, seekPos + consumed)
            else .ok (ob, 0)
          resetPartition.match_1 (fun _ => Except Err Base) r (fun e => .error e) fun ob' pos =>
            beforeFirst { s with offBegin := ob', offEnd := oe', filePtr := fp, fpos := some pos }

theorem resetPartition_eq_core (F : Fmt) (s : Base) (rank nsplit : Nat) :
    resetPartition F s rank nsplit =
      if nsplit = 0 then .error .div
      else rpCore F s
        (rpBegin (rpStepAlign (rpStepRaw (totalSize s.files) nsplit) F.align) rank (totalSize s.files))
        (rpEnd (rpStepAlign (rpStepRaw (totalSize s.files) nsplit) F.align) rank (totalSize s.files)) := rfl

/-- the two blocks inlined in `rpCore` are `rpEndX` and `rpBeginX` (three texts kept in step by this `rfl`) -/
theorem rpCore_eq (F : Fmt) (s : Base) (ob oe : Nat) :
    rpCore F s ob oe =
      if rpEmpty ob oe then
        .ok (if rpEmptyClears then { s with offBegin := ob, offEnd := oe, offCurr := ob, chunk := s.chunk.clear, overflow := [] }
             else { s with offBegin := ob, offEnd := oe, offCurr := ob })
      else
        resetPartition.match_5 (fun _ => Except Err Base) (rpEndX F s.files oe) (fun e => .error e) fun oe' =>
          resetPartition.match_3 (fun _ => Except Err Base) (s.files.drop (filePtrOf s.files ob)) (fun _ => .error .oob)
            fun f _ =>
            resetPartition.match_1 (fun _ => Except Err Base) (rpBeginX F s.files ob f) (fun e => .error e) fun ob' pos =>
              beforeFirst { s with offBegin := ob', offEnd := oe', offCurr := ob, filePtr := filePtrOf s.files ob,
                                   fpos := some pos } := rfl

theorem match5_ok (X : Except Err Nat) (K : Nat → Except Err Base) (v : Nat) (h : X = .ok v) :
    resetPartition.match_5 (fun _ => Except Err Base) X (fun e => .error e) K = K v := by
  subst h; rfl

theorem match1_ok (X : Except Err (Nat × Nat)) (K : Nat → Nat → Except Err Base) (a b : Nat) (h : X = .ok (a, b)) :
    resetPartition.match_1 (fun _ => Except Err Base) X (fun e => .error e) K = K a b := by
  subst h; rfl

end SnapAux

end DmlcModel.Split
