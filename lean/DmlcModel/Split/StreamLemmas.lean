/-
`rangeStream`: the stream of a byte range of the concatenated files, with a newline injected in text mode after every file end
strictly inside the range.  Cutting it in two loses at most that newline (`rangeStream_split`), and at a cut point (`IsCut`) no line.
-/
import DmlcModel.Split.OffsetLemmas
import DmlcModel.Split.TextLemmas

namespace DmlcModel.Split
open DmlcModel
open SnapAux

private theorem fileOffset_succ (files : List Bytes) (i : Nat) (f : Bytes) (rest : List Bytes)
    (h : files.drop i = f :: rest) :
    fileOffset files (i + 1) = fileOffset files i + f.length :=
  fileOffset_succ_of_drop files i f rest h

private theorem fileOffset_mono (files : List Bytes) (i : Nat) : fileOffset files i ≤ fileOffset files (i + 1) :=
  fileOffset_le_of_le files i (i + 1) (Nat.le_succ i)

theorem pend_zero_budget (isText : Bool) (files : List Bytes) (fp pos : Nat) :
    pend isText files fp pos 0 = [] := by
  unfold pend
  split
  · rfl
  · exact pendFrom_of_le _ _ _ 0 (Nat.zero_le _)

theorem pend_cons_succ (isText : Bool) (f : Bytes) (fs : List Bytes) (fp pos budget : Nat) :
    pend isText (f :: fs) (fp + 1) pos budget = pend isText fs fp pos budget := by
  simp [pend]

theorem rangeStream_nil (isText : Bool) (b e : Nat) : rangeStream isText [] b e = [] := by
  simp [rangeStream, pend]

theorem rangeStream_self (isText : Bool) (files : List Bytes) (b : Nat) : rangeStream isText files b b = [] := by
  simp [rangeStream, pend_zero_budget]

/-! peeling the first file: the range lies inside it, beyond it, or straddles its end -/

private theorem rangeStream_cons_lt (isText : Bool) (f : Bytes) (fs : List Bytes) (b e : Nat)
    (hb : b < f.length) : rangeStream isText (f :: fs) b e = pendFrom isText fs (f.drop b) (e - b) := by
  simp [rangeStream, filePtrOf_cons_lt f fs b hb, fileOffset_zero, pend]

theorem rangeStream_cons_inside (isText : Bool) (f : Bytes) (fs : List Bytes) (b e : Nat) (hbe : b ≤ e)
    (he : e ≤ f.length) :
    rangeStream isText (f :: fs) b e = (f.drop b).take (e - b) := by
  by_cases hb : b < f.length
  · rw [rangeStream_cons_lt isText f fs b e hb, pendFrom_of_le _ _ _ _ (by simp; omega)]
  · obtain rfl : e = b := by omega
    rw [rangeStream_self]
    simp

theorem rangeStream_cons_shift (isText : Bool) (f : Bytes) (fs : List Bytes) (b e : Nat) (hB : f.length ≤ b) :
    rangeStream isText (f :: fs) b e = rangeStream isText fs (b - f.length) (e - f.length) := by
  simp only [rangeStream, filePtrOf_cons_ge f fs b hB, pend_cons_succ, fileOffset_cons_succ]
  rw [Nat.sub_add_eq, Nat.sub_sub_sub_cancel_right hB]

theorem rangeStream_cons_straddle (isText : Bool) (f : Bytes) (fs : List Bytes) (hne : ∀ g ∈ f :: fs, g ≠ [])
    (b e : Nat) (he : e ≤ totalSize (f :: fs)) (hA : ¬ e ≤ f.length) (hB : ¬ f.length ≤ b) :
    rangeStream isText (f :: fs) b e =
      f.drop b ++ (if isText then [10] else []) ++ rangeStream isText fs 0 (e - f.length) := by
  rw [rangeStream_cons_lt isText f fs b e (Nat.lt_of_not_le hB)]
  cases fs with
  | nil => simp [totalSize_cons, totalSize_nil] at he; omega
  | cons g gs =>
    rw [rangeStream_cons_lt isText g gs 0 _ (List.length_pos_iff.mpr (hne g (by simp)))]
    have hb := Nat.le_of_not_le hB
    rw [pendFrom_next isText g gs (f.drop b) (e - b) (by rw [List.length_drop]; exact Nat.sub_lt_sub_right hb (Nat.lt_of_not_le hA)),
      List.length_drop, Nat.sub_sub_sub_cancel_right hb, List.drop_zero, Nat.sub_zero]

private theorem take_drop_add (f : Bytes) (b m k : Nat) (h1 : b ≤ m) (h2 : m ≤ k) :
    (f.drop b).take (k - b) = (f.drop b).take (m - b) ++ (f.drop m).take (k - m) := by
  rw [show k - b = (m - b) + (k - m) by omega, List.take_add, List.drop_drop, show b + (m - b) = m by omega]

def nlAt (isText : Bool) (files : List Bytes) (m : Nat) : Bytes :=
  if isText = true ∧ m = fileOffset files (filePtrOf files m) then [10] else []

theorem nlAt_cons_lt (isText : Bool) (f : Bytes) (fs : List Bytes) (m : Nat) (h0 : 0 < m) (h : m < f.length) :
    nlAt isText (f :: fs) m = [] := by
  rw [nlAt, filePtrOf_cons_lt f fs m h, fileOffset_zero, if_neg (by omega)]

theorem nlAt_cons_ge (isText : Bool) (f : Bytes) (fs : List Bytes) (m : Nat) (h : f.length ≤ m) :
    nlAt isText (f :: fs) m = nlAt isText fs (m - f.length) := by
  rw [nlAt, nlAt, filePtrOf_cons_ge f fs m h, fileOffset_cons_succ]
  congr 1
  exact propext (and_congr_right fun _ => by omega)

theorem nlAt_zero (isText : Bool) (fs : List Bytes) : nlAt isText fs 0 = if isText then [10] else [] := by
  have := fileOffset_filePtrOf_le fs 0
  rw [nlAt]
  cases isText
  · rfl
  · rw [if_pos ⟨rfl, by omega⟩]; rfl

theorem rangeStream_split (isText : Bool) (files : List Bytes) (hne : ∀ f ∈ files, f ≠ []) (b m e : Nat)
    (h1 : b ≤ m) (h2 : m ≤ e) (he : e ≤ totalSize files) :
    rangeStream isText files b e =
      rangeStream isText files b m ++ (if b < m ∧ m < e then nlAt isText files m else []) ++
        rangeStream isText files m e := by
  induction files generalizing b m e with
  | nil => simp [rangeStream_nil, nlAt, fileOffset_nil]; omega
  | cons f fs ih =>
    have hne' : ∀ g ∈ fs, g ≠ [] := fun g hg => hne g (by simp [hg])
    by_cases hbm : b = m
    · subst hbm
      rw [rangeStream_self, if_neg (by omega)]; rfl
    by_cases hme : m = e
    · subst hme
      rw [rangeStream_self, if_neg (by omega), List.append_nil, List.append_nil]
    have hb : b < m := by omega
    have hm : m < e := by omega
    rw [if_pos ⟨hb, hm⟩]
    have hes : e - f.length ≤ totalSize fs := by rw [totalSize_cons] at he; omega
    by_cases hA : e ≤ f.length
    · rw [rangeStream_cons_inside isText f fs b e (by omega) hA,
        rangeStream_cons_inside isText f fs b m h1 (by omega),
        rangeStream_cons_inside isText f fs m e h2 hA, nlAt_cons_lt isText f fs m (by omega) (by omega),
        List.append_nil]
      exact take_drop_add f b m e h1 h2
    by_cases hB : f.length ≤ b
    · have := ih hne' (b - f.length) (m - f.length) (e - f.length) (by omega) (by omega) hes
      rw [if_pos (by omega)] at this
      rw [rangeStream_cons_shift isText f fs b e hB, rangeStream_cons_shift isText f fs b m hB,
        rangeStream_cons_shift isText f fs m e (by omega), nlAt_cons_ge isText f fs m (by omega), this]
    rw [rangeStream_cons_straddle isText f fs hne b e he hA hB]
    by_cases hC : m < f.length
    · rw [rangeStream_cons_inside isText f fs b m h1 (by omega),
        rangeStream_cons_straddle isText f fs hne m e he hA (by omega), nlAt_cons_lt isText f fs m (by omega) hC,
        List.append_nil]
      have := List.take_append_drop (m - b) (List.drop b f)
      rw [List.drop_drop, Nat.add_sub_cancel' h1] at this
      conv => lhs; rw [← this]
      simp only [List.append_assoc]
    · have hfm : f.length ≤ m := Nat.le_of_not_lt hC
      rw [rangeStream_cons_shift isText f fs m e hfm, nlAt_cons_ge isText f fs m hfm]
      by_cases hD : m = f.length
      · rw [rangeStream_cons_inside isText f fs b m h1 (by omega), hD, Nat.sub_self, nlAt_zero,
          List.take_of_length_le (by simp)]
      · have := ih hne' 0 (m - f.length) (e - f.length) (Nat.zero_le _) (by omega) hes
        rw [if_pos (by omega)] at this
        rw [rangeStream_cons_straddle isText f fs hne b m (Nat.le_trans h2 he) (by omega) hB, this]
        simp only [List.append_assoc]

theorem rangeStream_binary (files : List Bytes) (hne : ∀ f ∈ files, f ≠ []) (b e : Nat) (hbe : b ≤ e)
    (he : e ≤ totalSize files) :
    rangeStream false files b e = (files.flatten.drop b).take (e - b) := by
  induction files generalizing b e with
  | nil =>
    simp [rangeStream_nil]
  | cons f fs ih =>
    have hne' : ∀ g ∈ fs, g ≠ [] := fun g hg => hne g (by simp [hg])
    rw [List.flatten_cons]
    by_cases h1 : e ≤ f.length
    · rw [rangeStream_cons_inside false f fs b e hbe h1,
        List.drop_append_of_le_length (Nat.le_trans hbe h1),
        List.take_append_of_le_length (by rw [List.length_drop]; exact Nat.sub_le_sub_right h1 b)]
    · have hes : e - f.length ≤ totalSize fs := by rw [totalSize_cons] at he; omega
      by_cases h2 : f.length ≤ b
      · rw [rangeStream_cons_shift false f fs b e h2,
          ih hne' _ _ (Nat.sub_le_sub_right hbe _) hes, Nat.sub_sub_sub_cancel_right h2, List.drop_append,
          List.drop_eq_nil_of_le h2, List.nil_append]
      · rw [rangeStream_cons_straddle false f fs hne b e he h1 h2, ih hne' 0 _ (Nat.zero_le _) hes,
          List.drop_append_of_le_length (Nat.le_of_not_le h2), List.take_append, List.length_drop]
        have : List.take (e - b) (List.drop b f) = List.drop b f :=
          List.take_of_length_le (by rw [List.length_drop]; omega)
        simp [this, show e - b - (f.length - b) = e - f.length by omega]

theorem rangeStream_binary_append (files : List Bytes) (hne : ∀ f ∈ files, f ≠ []) (b m e : Nat)
    (h1 : b ≤ m) (h2 : m ≤ e) (he : e ≤ totalSize files) :
    rangeStream false files b e = rangeStream false files b m ++ rangeStream false files m e := by
  have : nlAt false files m = [] := if_neg fun h => Bool.false_ne_true h.1
  rw [rangeStream_split false files hne b m e h1 h2 he, this, ite_self, List.append_nil]

theorem rangeStream_append_boundary (isText : Bool) (files : List Bytes) (hne : ∀ f ∈ files, f ≠ [])
    (b e i : Nat) (hi : i ≤ files.length) (h1 : b < fileOffset files i) (h2 : fileOffset files i < e)
    (he : e ≤ totalSize files) :
    rangeStream isText files b e =
      rangeStream isText files b (fileOffset files i) ++ (if isText then [10] else []) ++
        rangeStream isText files (fileOffset files i) e := by
  rw [rangeStream_split isText files hne b _ e (Nat.le_of_lt h1) (Nat.le_of_lt h2) he, if_pos ⟨h1, h2⟩, nlAt,
    filePtrOf_fileOffset files hne i hi]
  cases isText <;> simp

theorem rangeStream_append_inside (isText : Bool) (files : List Bytes) (hne : ∀ f ∈ files, f ≠ [])
    (b m e : Nat) (h1 : b ≤ m) (h2 : m ≤ e) (he : e ≤ totalSize files)
    (hm : ∀ i, i ≤ files.length → m ≠ fileOffset files i) :
    rangeStream isText files b e = rangeStream isText files b m ++ rangeStream isText files m e := by
  have : nlAt isText files m = [] := if_neg fun h => hm _ (filePtrOf_le files m) h.2
  rw [rangeStream_split isText files hne b m e h1 h2 he, this, ite_self, List.append_nil]

private theorem isEol_ten : isEol 10 = true := by decide

private theorem take_drop_snoc (f : Bytes) (b m : Nat) (a : Byte) (c : Bytes) (hbm : b < m)
    (hd : f.drop (m - 1) = a :: c) : (f.drop b).take (m - b) = (f.drop b).take (m - 1 - b) ++ [a] := by
  have h1 : (f.drop b).drop (m - 1 - b) = a :: c := by
    rw [List.drop_drop, show b + (m - 1 - b) = m - 1 by omega, hd]
  rw [show m - b = (m - 1 - b) + 1 by omega, List.take_add, h1]
  rfl

theorem isCut_zero (files : List Bytes) : IsCut files 0 := by
  cases files <;> simp [IsCut]

theorem isCut_cons_add (f : Bytes) (fs : List Bytes) (x : Nat) (h : IsCut fs x) : IsCut (f :: fs) (f.length + x) := by
  unfold IsCut
  by_cases h0 : x = 0
  · exact Or.inr (Or.inl (by rw [h0]; rfl))
  · exact Or.inr (Or.inr (Or.inr ⟨Nat.lt_add_of_pos_right (Nat.pos_of_ne_zero h0), by rw [Nat.add_sub_cancel_left]; exact h⟩))

theorem isCut_inside (files : List Bytes) (i : Nat) (f : Bytes) (rest : List Bytes) (h : files.drop i = f :: rest)
    (p : Nat) (hp : p ≤ f.length)
    (hcut : p = 0 ∨ p = f.length ∨
      ((∃ a c, f.drop (p - 1) = a :: c ∧ isEol a = true ∧ 1 ≤ p) ∧ (∃ a c, f.drop p = a :: c ∧ isEol a = false))) :
    IsCut files (fileOffset files i + p) := by
  induction files generalizing i with
  | nil => simp at h
  | cons g gs ih =>
    cases i with
    | zero =>
      simp only [List.drop_zero, List.cons.injEq] at h
      obtain ⟨rfl, _⟩ := h
      rw [fileOffset_zero, Nat.zero_add]
      unfold IsCut
      rcases hcut with h0 | h1 | ⟨h2, h3⟩
      · exact Or.inl h0
      · exact Or.inr (Or.inl h1)
      · refine Or.inr (Or.inr (Or.inl ⟨Nat.lt_of_le_of_ne hp fun e => ?_, h2, h3⟩))
        obtain ⟨a, c, hd, _⟩ := h3
        rw [e, List.drop_length] at hd
        cases hd
    | succ i =>
      rw [fileOffset_cons_succ, Nat.add_assoc]
      exact isCut_cons_add g gs _ (ih i (by simpa using h))

theorem isCut_fileOffset (files : List Bytes) (i : Nat) (hi : i ≤ files.length) :
    IsCut files (fileOffset files i) := by
  cases i with
  | zero => rw [fileOffset_zero]; exact isCut_zero _
  | succ j =>
    have hd := List.drop_eq_getElem_cons (Nat.lt_of_succ_le hi)
    rw [fileOffset_succ_of_drop files j _ _ hd]
    exact isCut_inside files j _ _ hd _ (Nat.le_refl _) (Or.inr (Or.inl rfl))

theorem isCut_total (files : List Bytes) : IsCut files (totalSize files) :=
  isCut_fileOffset files files.length (Nat.le_refl _)

theorem endsEol_rangeStream (files : List Bytes) (hne : ∀ f ∈ files, f ≠ []) (b m : Nat) (hbm : b < m)
    (hmt : m ≤ totalSize files) (hm : IsCut files m) :
    (∃ i, i ≤ files.length ∧ m = fileOffset files i) ∨ EndsEol (rangeStream true files b m) := by
  induction files generalizing b m with
  | nil => exact absurd hm (by simp [IsCut]; omega)
  | cons f fs ih =>
    have hne' : ∀ g ∈ fs, g ≠ [] := fun g hg => hne g (by simp [hg])
    have hbm' := Nat.le_of_lt hbm
    unfold IsCut at hm
    rcases hm with h0 | hf | ⟨hlt, ⟨a, c, hd, ha, _⟩, _⟩ | ⟨hgt, hm'⟩
    · omega
    · exact Or.inl ⟨1, by simp, by rw [fileOffset_cons_succ, fileOffset_zero]; exact hf⟩
    · rw [rangeStream_cons_inside true f fs b m hbm' (Nat.le_of_lt hlt), take_drop_snoc f b m a c hbm hd]
      exact Or.inr (endsEol_snoc _ a ha)
    · have shift : (∃ i, i ≤ fs.length ∧ m - f.length = fileOffset fs i) →
          ∃ i, i ≤ (f :: fs).length ∧ m = fileOffset (f :: fs) i := fun ⟨i, hi, e⟩ =>
        ⟨i + 1, by simpa using hi, by rw [fileOffset_cons_succ]; omega⟩
      have hms : m - f.length ≤ totalSize fs := by rw [totalSize_cons] at hmt; omega
      by_cases hB : f.length ≤ b
      · rw [rangeStream_cons_shift true f fs b m hB]
        exact (ih hne' (b - f.length) (m - f.length) (by omega) hms hm').imp_left shift
      · rw [rangeStream_cons_straddle true f fs hne b m hmt (Nat.not_le.mpr hgt) hB]
        refine (ih hne' 0 (m - f.length) (Nat.sub_pos_of_lt hgt) hms hm').imp shift ?_
        rintro (h0 | ⟨a', e', h', he'⟩)
        · rw [h0, List.append_nil]; exact endsEol_snoc _ 10 isEol_ten
        · rw [h', ← List.append_assoc]; exact endsEol_snoc _ e' he'

theorem lines_rangeStream_split (files : List Bytes) (hne : ∀ f ∈ files, f ≠ []) (b m e : Nat)
    (h1 : b ≤ m) (h2 : m ≤ e) (he : e ≤ totalSize files) (hm : IsCut files m) :
    lines (rangeStream true files b e) =
      lines (rangeStream true files b m) ++ lines (rangeStream true files m e) := by
  rw [rangeStream_split true files hne b m e h1 h2 he]
  by_cases hc : b < m ∧ m < e
  · rw [if_pos hc, nlAt]
    by_cases hst : m = fileOffset files (filePtrOf files m)
    · rw [if_pos ⟨rfl, hst⟩, List.append_assoc]
      exact lines_append_eol _ 10 _ isEol_ten
    · rw [if_neg (fun h => hst h.2), List.append_nil]
      exact lines_append_of_endsEol _ _ ((endsEol_rangeStream files hne b m hc.1 (by omega) hm).resolve_left
        fun ⟨i, hi, h⟩ => hst (by rw [h, filePtrOf_fileOffset files hne i hi]))
  · rw [if_neg hc, List.append_nil]
    rcases (show b = m ∨ m = e by omega) with rfl | rfl
    · rw [rangeStream_self, lines_nil]; rfl
    · rw [rangeStream_self, lines_nil, List.append_nil, List.append_nil]

theorem lines_rangeStream_all (files : List Bytes) (hne : ∀ f ∈ files, f ≠ []) :
    lines (rangeStream true files 0 (totalSize files)) = files.flatMap lines := by
  induction files with
  | nil => simp [rangeStream_nil, lines_nil]
  | cons f fs ih =>
    have hne' : ∀ g ∈ fs, g ≠ [] := fun g hg => hne g (by simp [hg])
    have hfl : 0 < f.length := List.length_pos_iff.mpr (hne f (by simp))
    rw [List.flatMap_cons]
    cases fs with
    | nil =>
      rw [rangeStream_cons_inside true f [] 0 _ (Nat.zero_le _) (by simp [totalSize_cons, totalSize_nil])]
      simp [totalSize_cons, totalSize_nil]
    | cons g gs =>
      have hpos := totalSize_pos_of_ne_nil (g :: gs) hne' (by simp)
      rw [rangeStream_cons_straddle true f _ hne 0 _ (Nat.le_refl _) (by rw [totalSize_cons]; omega) (Nat.not_le.mpr hfl),
        totalSize_cons, Nat.add_sub_cancel_left, List.drop_zero, if_pos rfl, List.append_assoc,
        List.singleton_append, lines_append_eol _ 10 _ isEol_ten, ih hne']

theorem lines_rangeStream_telescope (files : List Bytes) (hne : ∀ f ∈ files, f ≠ []) (cs : List Nat) (c0 : Nat)
    (hchain : List.Pairwise (· ≤ ·) (c0 :: cs))
    (hcut : ∀ c ∈ cs, IsCut files c) (hlast : ∀ c ∈ (c0 :: cs), c ≤ totalSize files) :
    ((c0 :: cs).zip cs).flatMap (fun p => lines (rangeStream true files p.1 p.2))
      = lines (rangeStream true files c0 ((c0 :: cs).getLast (by simp))) :=
  flatMap_zip_telescope (fun b e => lines (rangeStream true files b e)) (IsCut files) (· ≤ totalSize files)
    (fun a _ => by rw [rangeStream_self, lines_nil])
    (fun a m c h1 h2 hm hc => (lines_rangeStream_split files hne a m c h1 h2 hc hm).symm) cs c0 hchain hcut hlast

end DmlcModel.Split
