/-
The three scanning functions of `RecordIOSplitter` (src/io/recordio_split.cc) on byte strings produced by `WriteRecord`.  The
word list of an image, cut anywhere, is a head-free `Tail` followed by the image of the later records (`words_drop`); hence
`SeekRecordBegin` lands on the next record start (R1) and the head pattern occurs exactly at record starts (`headAt_iff`), which
is what `FindLastRecordBegin` looks for (R2); `ExtractNextRecord` (R3) follows the parts of the image of one record.
-/
import DmlcModel.Split.Spec
import DmlcModel.RecordIO.Resync
namespace DmlcModel.Split
open DmlcModel DmlcModel.Gen.Split DmlcModel.RecordIO DmlcModel.Gen.RecordIO

theorem rsSeekAccept_iff (f : Nat) : rsSeekAccept f = true ↔ f = 0 ∨ f = 1 := by
  simp [rsSeekAccept]

theorem rsLastAccept_iff (f : Nat) : rsLastAccept f = true ↔ f = 0 ∨ f = 1 := by
  simp [rsLastAccept]

theorem rsSeekBack_spec (n : Nat) (h : n < 2 ^ 64) : rsSeekBack (n + 8) = n := by
  unfold rsSeekBack sub64 u64; omega

theorem rsLastStart_spec (p : Nat) (h2 : 2 ≤ p) (h : p < 2 ^ 64) : rsLastStart p = p - 2 := by
  unfold rsLastStart sub64; omega

theorem rsLastMinWords_spec : rsLastMinWords = 2 := rfl

theorem rsExtHeader_spec : rsExtHeader = 8 := by decide

theorem rsExtAdvance_spec (clen : Nat) (h : clen < 2 ^ 29) : rsExtAdvance clen = 8 + (clen + 3) / 4 * 4 := by
  unfold rsExtAdvance u64 u32
  rw [Nat.shiftRight_eq_div_pow, Nat.shiftLeft_eq]
  omega

theorem rsExtSingle_iff (f : Nat) : rsExtSingle f = true ↔ f = 0 := by simp [rsExtSingle]
theorem rsExtFirst_iff (f : Nat) : rsExtFirst f = true ↔ f = 1 := by simp [rsExtFirst]
theorem rsExtMore_iff (f : Nat) : rsExtMore f = true ↔ f ≠ 3 := by simp [rsExtMore]

/-- byte offsets at which a record image starts in `writeAll rs`, the total length included -/
def IsHead (rs : List Bytes) (x : Nat) : Prop := ∃ j, j ≤ rs.length ∧ x = (writeAll (rs.take j)).length

theorem writeAll_take_drop_head (rs : List Bytes) (j : Nat) :
    writeAll rs = writeAll (rs.take j) ++ writeAll (rs.drop j) := by
  rw [← writeAll_append, List.take_append_drop]

theorem isHead_mod4 (rs : List Bytes) (h : Short rs) (x : Nat) (hx : IsHead rs x) : x % 4 = 0 := by
  obtain ⟨j, _, rfl⟩ := hx
  exact writeAll_length_mod4 _ (fun r hr => h r (List.mem_of_mem_take hr))

theorem isHead_le (rs : List Bytes) (x : Nat) (hx : IsHead rs x) : x ≤ (writeAll rs).length := by
  obtain ⟨j, _, rfl⟩ := hx
  conv => rhs; rw [writeAll_take_drop_head rs j]
  simp

/-! ### R1: `SeekRecordBegin` -/

theorem recSeekGo_skip {w : Nat} (hw : w ≠ kMagic) (t : List Nat) (n : Nat) :
    recSeekGo (w :: t) n = recSeekGo t (n + 4) := by
  cases t with
  | nil => simp [recSeekGo, hw]
  | cons l ws => rw [recSeekGo, if_neg hw]

theorem recSeekGo_tail {t : List Nat} (ht : Tail t) (rest : List Nat) :
    ∀ n, recSeekGo (t ++ rest) n = recSeekGo rest (n + 4 * t.length) := by
  induction ht with
  | nil => intro n; simp
  | data hw _ ih =>
    intro n
    rw [List.cons_append, recSeekGo_skip hw, ih]
    simp only [List.length_cons]; congr 1; omega
  | @cont l ws hl _ ih =>
    intro n
    have hacc : rsSeekAccept (decodeFlag l) = false :=
      Bool.eq_false_iff.mpr fun hb => by have := (rsSeekAccept_iff _).mp hb; omega
    rw [List.cons_append, List.cons_append, recSeekGo, if_pos rfl, hacc, if_neg Bool.false_ne_true, ih]
    simp only [List.length_cons]; congr 1; omega

theorem seek_at_head (rs : List Bytes) (h : Short rs) (n : Nat) (hn : n < 2 ^ 64) :
    ∃ c, recSeekGo (toWords (writeAll rs)) n = .ok (n, c) := by
  cases rs with
  | nil => exact ⟨n, rfl⟩
  | cons r rs =>
    obtain ⟨l, t, e, _, hf, _⟩ := writeAll_words_cons r rs h.head
    exact ⟨n + 8, by rw [e, recSeekGo, if_pos rfl, if_pos ((rsSeekAccept_iff _).mpr hf), rsSeekBack_spec n hn]⟩

/-- R1: the least record start `≥ i`; the total length counts as a record start -/
theorem recSeek_spec (rs : List Bytes) (h : Short rs) (i : Nat) (hi4 : i % 4 = 0)
    (hi : i ≤ (writeAll rs).length) (hsz : (writeAll rs).length < 2 ^ 64) :
    ∃ c, recSeekGo (toWords ((writeAll rs).drop i)) 0 = .ok (nextStart rs 0 i - i, c) := by
  obtain ⟨k, rfl⟩ : ∃ k, i = 4 * k := ⟨i / 4, by omega⟩
  obtain ⟨t, rs', ht, hs', hd, hn⟩ := words_drop rs h 0 k hi
  have hl := congrArg List.length hd
  rw [List.length_drop, List.length_append, toWords_length] at hl
  obtain ⟨c, hc⟩ := seek_at_head rs' hs' (0 + 4 * t.length) (by omega)
  rw [Nat.zero_add] at hn
  exact ⟨c, by rw [(toWords_take_drop _ k).2, hd, recSeekGo_tail ht, hc, hn]; congr 2; omega⟩

/-! ### R2: `FindLastRecordBegin` -/

def HeadAt (ws : List Nat) (k : Nat) : Prop :=
  ∃ l tl, ws.drop k = kMagic :: l :: tl ∧ (decodeFlag l = 0 ∨ decodeFlag l = 1)

/-- self-synchronisation -/
theorem headAt_iff (rs : List Bytes) (h : Short rs) (k : Nat) :
    HeadAt (toWords (writeAll rs)) k ↔ IsHead rs (4 * k) ∧ 4 * k < (writeAll rs).length := by
  have hm4 := writeAll_length_mod4 rs h
  have hwl := toWords_length (writeAll rs)
  by_cases hk : 4 * k ≤ (writeAll rs).length
  · obtain ⟨t, rs', ht, hs', hd, hn⟩ := words_drop rs h 0 k hk
    rw [Nat.zero_add, Nat.zero_add] at hn
    have hl := congrArg List.length hd
    rw [List.length_drop, List.length_append] at hl
    constructor
    · rintro ⟨l, tl, hdrop, hacc⟩
      have ht0 : t = [] := Decidable.byContradiction fun hne => ht.not_head hne (hd ▸ hdrop) hacc
      have hl2 := congrArg List.length hdrop
      rw [List.length_drop, List.length_cons, List.length_cons] at hl2
      subst ht0
      obtain ⟨j, hj, e⟩ := nextStart_isStart rs 0 (4 * k)
      exact ⟨⟨j, hj, by rw [← Nat.zero_add (writeAll _).length, ← e, hn]; rfl⟩, by omega⟩
    · rintro ⟨⟨j, _, e⟩, hlt⟩
      have h1 := nextStart_le rs 0 (4 * k) j (by omega)
      have ht0 : t = [] := List.length_eq_zero_iff.mp (by omega)
      subst ht0
      cases rs' with
      | nil => simp only [writeAll, toWords, List.length_nil] at hl; omega
      | cons r rs' =>
        obtain ⟨l, t, e', _, hf, _⟩ := writeAll_words_cons r rs' hs'.head
        exact ⟨l, _, by rw [hd, e']; rfl, hf⟩
  · constructor
    · rintro ⟨l, tl, hdrop, _⟩
      rw [List.drop_of_length_le (by omega)] at hdrop
      cases hdrop
    · rintro ⟨_, hlt⟩; omega

theorem headAt_take (ws : List Nat) (M k : Nat) (hk : k + 2 ≤ M) : HeadAt (ws.take M) k ↔ HeadAt ws k := by
  obtain ⟨j, rfl⟩ : ∃ j, M = k + (j + 2) := ⟨M - k - 2, by omega⟩
  unfold HeadAt
  rw [List.drop_take]
  have : k + (j + 2) - k = j + 2 := by omega
  rw [this]
  constructor
  · rintro ⟨l, tl, e, hf⟩
    match hd : ws.drop k, e with
    | [], e => simp at e
    | [a], e => simp at e
    | a :: b :: tl', e =>
      simp only [List.take_succ_cons, List.cons.injEq] at e
      exact ⟨b, tl', by rw [e.1], by rw [e.2.1]; exact hf⟩
  · rintro ⟨l, tl, e, hf⟩
    exact ⟨l, tl.take j, by rw [e]; rfl, hf⟩

theorem recFindLastGo_succ (ws : List Nat) (p : Nat) :
    recFindLastGo ws (p + 1) = 4 * (p + 1) ∧ HeadAt ws (p + 1) ∨
    recFindLastGo ws (p + 1) = recFindLastGo ws p ∧ ¬ HeadAt ws (p + 1) := by
  rw [recFindLastGo]
  split
  · rename_i w0 w1 tl hd
    by_cases hc : w0 = kMagic ∧ rsLastAccept (decodeFlag w1) = true
    · left
      rw [if_pos hc]
      exact ⟨rfl, w1, tl, by rw [hd, hc.1], (rsLastAccept_iff _).mp hc.2⟩
    · right
      rw [if_neg hc]
      refine ⟨rfl, ?_⟩
      rintro ⟨l, tl', e, hf⟩
      rw [hd] at e
      simp only [List.cons.injEq] at e
      exact hc ⟨e.1, by rw [e.2.1]; exact (rsLastAccept_iff _).mpr hf⟩
  · rename_i hno
    right
    refine ⟨rfl, ?_⟩
    rintro ⟨l, tl', e, hf⟩
    exact hno _ _ _ e

theorem recFindLastGo_spec (ws : List Nat) (p : Nat) :
    (recFindLastGo ws p = 0 ∨ ∃ k, recFindLastGo ws p = 4 * k ∧ 1 ≤ k ∧ k ≤ p ∧ HeadAt ws k) ∧
    (∀ k, 1 ≤ k → k ≤ p → HeadAt ws k → 4 * k ≤ recFindLastGo ws p) := by
  induction p with
  | zero => exact ⟨Or.inl (by simp [recFindLastGo]), by intros; omega⟩
  | succ p ih =>
    rcases recFindLastGo_succ ws p with ⟨e, hh⟩ | ⟨e, hh⟩
    · rw [e]
      refine ⟨Or.inr ⟨p + 1, rfl, by omega, by omega, hh⟩, ?_⟩
      intro k _ hk _; omega
    · rw [e]
      constructor
      · rcases ih.1 with h0 | ⟨k, hk, h1, h2, h3⟩
        · exact Or.inl h0
        · exact Or.inr ⟨k, hk, h1, by omega, h3⟩
      · intro k h1 hk hk'
        by_cases hkp : k = p + 1
        · subst hkp; exact absurd hk' hh
        · exact ih.2 k h1 (by omega) hk'

/-- R2, on a 4-aligned prefix (≥ 8 bytes) of an image: 0, or the last record start that leaves ≥ 8 bytes after it -/
theorem recFindLast_spec (rs : List Bytes) (h : Short rs) (m : Nat) (hm4 : m % 4 = 0) (hm8 : 8 ≤ m)
    (hm : m ≤ (writeAll rs).length) (hsz : m < 2 ^ 64) :
    ∃ cut, recFindLast ((writeAll rs).take m) = .ok cut ∧ cut + 8 ≤ m ∧ (cut = 0 ∨ IsHead rs cut) ∧
      (∀ x, IsHead rs x → 0 < x → x + 8 ≤ m → x ≤ cut) := by
  obtain ⟨M, rfl⟩ : ∃ M, m = 4 * M := ⟨m / 4, by omega⟩
  have hlen : ((writeAll rs).take (4 * M)).length = 4 * M := by
    rw [List.length_take]; omega
  have hrun : recFindLast ((writeAll rs).take (4 * M))
      = .ok (recFindLastGo ((toWords (writeAll rs)).take M) (M - 2)) := by
    unfold recFindLast
    rw [hlen, if_neg (by omega), if_neg (by rw [rsLastMinWords_spec]; omega), (toWords_take_drop _ M).1,
      show 4 * M / 4 = M by omega, rsLastStart_spec M (by omega) (by omega)]
  obtain ⟨h1, h2⟩ := recFindLastGo_spec ((toWords (writeAll rs)).take M) (M - 2)
  refine ⟨_, hrun, ?_, ?_, ?_⟩
  · rcases h1 with h0 | ⟨k, hk, _, _, _⟩ <;> omega
  · rcases h1 with h0 | ⟨k, hk, hk1, hk2, hk3⟩
    · exact Or.inl h0
    · right
      rw [hk]
      exact (((headAt_iff rs h k).mp ((headAt_take _ M k (by omega)).mp hk3))).1
  · intro x hx h0 hxm
    have hx4 := isHead_mod4 rs h x hx
    obtain ⟨k, rfl⟩ : ∃ k, x = 4 * k := ⟨x / 4, by omega⟩
    apply h2 k (by omega) (by omega)
    rw [headAt_take _ M k (by omega)]
    exact (headAt_iff rs h k).mpr ⟨hx, by omega⟩

/-! ### R3: `ExtractNextRecord` -/

theorem recExtractMore_part (fuel : Nat) (out data more : Bytes) (c : Chunk) (cflag flag pad : Nat)
    (hf : flag < 8) (hn : data.length < 2 ^ 29) (hp : data.length + pad = (data.length + 3) / 4 * 4)
    (hc : c.rest = hdr flag data.length ++ (data ++ zeros pad ++ more)) (hm : cflag ≠ 3) :
    recExtractMore (fuel + 1) out c cflag =
      recExtractMore fuel (out ++ magicBytes ++ data)
        { c with begin := c.begin + (8 + data.length + pad), rest := more } flag := by
  obtain ⟨m0, m1, m2, m3, l0, l1, l2, l3, e, hmg, hF, hL⟩ := hdr_eq flag data.length hf hn
  rw [e] at hc
  rw [recExtractMore, if_pos ((rsExtMore_iff _).mpr hm)]
  simp only [hc, List.cons_append, List.nil_append, hmg, hF, hL, if_true, rsExtAdvance_spec _ hn, ← hp,
    List.length_cons, part_length, part_take]
  rw [if_neg (by omega), Nat.add_assoc, ← List.drop_drop]
  simp only [List.drop_succ_cons, List.drop_zero, part_drop]

theorem recExtract_part (data more : Bytes) (c : Chunk) (flag pad : Nat)
    (hf : flag = 0 ∨ flag = 1) (hn : data.length < 2 ^ 29) (hp : data.length + pad = (data.length + 3) / 4 * 4)
    (hc : c.rest = hdr flag data.length ++ (data ++ zeros pad ++ more))
    (hb : c.begin % 4 = 0) (hl4 : more.length % 4 = 0) :
    recExtract c =
      if flag = 0 then .ok (some (data, { c with begin := c.begin + (8 + data.length + pad), rest := more }))
      else recExtractMore (c.rest.length + 1) data
        { c with begin := c.begin + (8 + data.length + pad), rest := more } flag := by
  obtain ⟨m0, m1, m2, m3, l0, l1, l2, l3, e, -, hF, hL⟩ := hdr_eq flag data.length (by omega) hn
  rw [e] at hc
  unfold recExtract
  simp only [hc, List.cons_append, List.nil_append, hF, hL, rsExtAdvance_spec _ hn, ← hp, rsExtHeader_spec,
    List.length_cons, part_length, part_take, List.isEmpty_cons, Bool.false_eq_true, if_false]
  rw [if_neg (by omega), if_neg (by omega), if_neg (by omega), ← List.drop_drop]
  simp only [List.drop_succ_cons, List.drop_zero, part_drop, ← Nat.add_assoc]
  rcases hf with rfl | rfl <;> rfl

theorem recExtractMore_stop (fuel : Nat) (out : Bytes) (c : Chunk) :
    recExtractMore (fuel + 1) out c 3 = .ok (some (out, c)) := by
  rw [recExtractMore, if_neg (by simp [rsExtMore])]

theorem recExtract_spec (r : Bytes) (rs : List Bytes) (h : Short (r :: rs)) (c : Chunk)
    (hc : c.rest = writeAll (r :: rs)) (hb : c.begin % 4 = 0) :
    recExtract c = .ok (some (r, { c with begin := c.begin + (writeRecord r).1.length, rest := writeAll rs })) := by
  -- by induction over the parts: the reassembly loop over a continuation, `ExtractNextRecord` over a whole image
  rw [writeAll] at hc
  rw [writeRecord_eq_img r h.head] at hc ⊢
  refine (img_induct (P := fun first r I => ∀ (c : Chunk) (s : Bytes), c.rest = I ++ s →
    (first = false → ∀ (fuel : Nat) (out : Bytes) (cflag : Nat), cflag ≠ 3 → r.length + 1 < fuel →
      recExtractMore fuel out c cflag =
        .ok (some (out ++ magicBytes ++ r, { c with begin := c.begin + I.length, rest := s }))) ∧
    (first = true → c.begin % 4 = 0 → s.length % 4 = 0 →
      recExtract c = .ok (some (r, { c with begin := c.begin + I.length, rest := s })))) ?_ ?_ true [] r rfl
    (by simp [toWords]) (by simpa using h.head) c (writeAll rs) hc).2 rfl hb (writeAll_length_mod4 rs h.tail)
  · intro first d pad hn hp _ c s hc
    rw [List.append_assoc] at hc
    simp only [List.length_append, hdr_length, zeros, List.length_replicate, ← Nat.add_assoc 8]
    constructor
    · rintro rfl fuel out cflag hcf hfuel
      obtain ⟨fuel, rfl⟩ : ∃ k, fuel = k + 1 + 1 := ⟨fuel - 2, by omega⟩
      rw [recExtractMore_part (fuel + 1) out d s c cflag 3 pad (by omega) hn hp hc hcf, recExtractMore_stop]
    · rintro rfl hb hs
      rw [recExtract_part d s c 0 pad (Or.inl rfl) hn hp hc hb hs, if_pos rfl]
  · intro first d r I _ hn _ hI4 hI ih c s hc
    rw [List.append_assoc, List.append_assoc (d ++ zeros 0)] at hc
    simp only [List.length_append, magicBytes_length] at hn
    simp only [List.length_append, hdr_length, zeros, List.length_replicate, magicBytes_length]
    have hcl := congrArg List.length hc
    rw [List.length_append, hdr_length, part_length, List.length_append] at hcl
    have ihQ := fun c' hc' => (ih c' s hc').1 rfl
    constructor
    · rintro rfl fuel out cflag hcf hfuel
      obtain ⟨fuel, rfl⟩ : ∃ k, fuel = k + 1 := ⟨fuel - 1, by omega⟩
      rw [recExtractMore_part fuel out d _ c cflag 2 0 (by omega) (by omega) (by omega) hc hcf,
        ihQ _ rfl fuel _ 2 (by omega) (by omega)]
      simp [Nat.add_assoc]
    · rintro rfl hb hs
      rw [recExtract_part d _ c 1 0 (Or.inr rfl) (by omega) (by omega) hc hb (by rw [List.length_append]; omega),
        if_neg (by omega), ihQ _ rfl _ _ 1 (by omega) (by omega)]
      simp [Nat.add_assoc]

theorem recExtract_nil (c : Chunk) (hc : c.rest = []) : recExtract c = .ok none := by
  unfold recExtract; simp [hc]

end DmlcModel.Split
