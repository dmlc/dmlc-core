/-
`recurse_directories = true`, directories nested to any depth.  Over a sorted file system the queue order of
`ListDirectoryRecursive` is level order, and each level lists its files in file-system order because the entries below the
directories of a level, directory by directory, are the deeper entries in file-system order (`LevelInv`).
-/
import DmlcModel.Split.FilesCanon

namespace DmlcModel.Split
open DmlcModel DmlcModel.Gen.Split

section
variable (rx : Name → Name → Bool) (fs : FileSys)

attribute [local instance] lawfulBEqByte

/-! ### any file system: which files are listed, as a set -/

theorem below_iff (hfs : CanonFs fs) (d : Name) (hd : NoTrail d) (i : Info) :
    Below fs d i ↔ ∃ e ∈ fs, isPrefix (d ++ [47]) e.1 = true ∧ i = { name := e.1, size := e.2.length, kind := .file } := by
  constructor
  · intro h
    induction h with
    | here d i hf =>
      obtain ⟨e, he, hc⟩ := (mem_filesM fs d i).1 hf
      rw [dirPrefix_noTrail d hd] at hc
      obtain ⟨g1, t, g2, _⟩ := classify_file_inv _ e i hc
      exact ⟨e, he, (isPrefix_iff _ _).2 ⟨t, g2⟩, g1⟩
    | down d s i hs _ ih =>
      obtain ⟨g1, t1, g2, _⟩ := subdir_facts fs hfs d hd s hs
      obtain ⟨e, he, hp, hi⟩ := ih g1
      obtain ⟨t, ht⟩ := (isPrefix_iff _ _).1 hp
      exact ⟨e, he, (isPrefix_iff _ _).2 ⟨t1 ++ [47] ++ t, by rw [ht, g2]; simp⟩, hi⟩
  · rintro ⟨e, he, hp, rfl⟩
    obtain ⟨t, ht⟩ := (isPrefix_iff _ _).1 hp
    have hnt := (hfs e he).noTrail
    induction hn : t.length using Nat.strongRecOn generalizing d t with
    | _ n ih =>
      rcases classify_cases (d ++ [47]) e with ⟨_, h | h⟩ | ⟨_, _, _, _, h⟩ | ⟨t1, t2, g1, g2, h⟩
      · rw [hp] at h
        cases h
      · exact absurd h (hnt d)
      · exact Below.here d _ ((mem_filesM fs d _).2 ⟨e, he, by rw [dirPrefix_noTrail d hd]; exact h⟩)
      · have hs : d ++ [47] ++ t1 ∈ subdirsM fs d :=
          (mem_subdirsM fs d _).2 ⟨e, he, by rw [dirPrefix_noTrail d hd]; exact h⟩
        have ht2 : t = t1 ++ 47 :: t2 := List.append_cancel_left (ht.symm.trans g1)
        refine Below.down d _ _ hs (ih t2.length ?_ _ (subdir_facts fs hfs d hd _ hs).1 ?_ t2 ?_ rfl)
        · rw [← hn, ht2, List.length_append, List.length_cons]
          omega
        · rw [g1]
          simp [isPrefix_iff]
        · rw [g1]
          simp

theorem mem_descendantsOf (d : Name) (i : Info) : i ∈ descendantsOf fs d ↔
    ∃ e ∈ fs, isPrefix (d ++ [47]) e.1 = true ∧ e.2 ≠ [] ∧ i = { name := e.1, size := e.2.length, kind := .file } := by
  unfold descendantsOf
  rw [List.mem_filterMap]
  constructor
  · rintro ⟨e, he, h⟩
    split at h
    · rename_i hc
      simp only [Bool.and_eq_true, Bool.not_eq_true', List.isEmpty_eq_false_iff] at hc
      injection h with h
      exact ⟨e, he, hc.1, hc.2, h.symm⟩
    · cases h
  · rintro ⟨e, he, h1, h2, h3⟩
    refine ⟨e, he, ?_⟩
    rw [h1, List.isEmpty_eq_false_iff.2 h2, h3]
    rfl

theorem descendantsOf_nil (p : Name) (h : ∀ e ∈ fs, isPrefix (p ++ [47]) e.1 = false) :
    descendantsOf fs p = [] := by
  unfold descendantsOf
  rw [List.filterMap_eq_nil_iff]
  intro e he
  rw [h e he]
  rfl

theorem infoOne_canon_rec_mem (hfs : CanonFs fs) (p : Name) (hp : CanonName p)
    (res : List Info) (h : infoOne fs true p = .ok res) (i : Info) : i ∈ res ↔ i ∈ expandSpecRec fs p := by
  have hpt := hp.noTrail
  rw [expandSpecRec]
  cases hf : fs.find? (fun e => e.1 == p) with
  | some e =>
    rw [infoOne_file fs true p e hf] at h
    injection h with h
    rw [← h]
  | none =>
    rw [infoOne_nofile fs true p hf] at h
    split at h
    · unfold keptListing at h
      rw [if_pos rfl] at h
      cases hl : listDirectoryRecursive fs p with
      | error err => rw [hl] at h; cases h
      | ok l =>
        rw [hl] at h
        injection h with h
        rw [← h, List.mem_filter, listDirectoryRecursive_mem fs p l hl, below_iff fs hfs p hpt, mem_descendantsOf,
          keepListed_iff]
        constructor
        · rintro ⟨⟨e, he, g1, rfl⟩, h2, _⟩
          exact ⟨e, he, g1, fun hn => h2 (by rw [hn]; rfl), rfl⟩
        · rintro ⟨e, he, g1, g2, rfl⟩
          exact ⟨⟨e, he, g1, rfl⟩, fun hn => g2 (List.length_eq_zero_iff.1 hn), rfl⟩
    · cases h

theorem expandSpecRec_absent (p : Name) (hp : NoTrail p)
    (hex : present fs p = false) : expandSpecRec fs p = [] := by
  obtain ⟨h1, h2⟩ := absent fs p hp hex
  rw [expandSpecRec, h1]
  exact descendantsOf_nil fs p h2

theorem initInputFileInfo_canon_rec_mem (hrx : LiteralRx rx) 
    (hfs : CanonFs fs) (pieces : List Name) (hp : ∀ p ∈ pieces, CanonName p) (infos : List Info)
    (h : initInputFileInfo rx fs (joinSemi pieces) true = .ok infos) :
    ∀ i, i ∈ infos ↔ i ∈ pieces.flatMap (expandSpecRec fs) := by
  obtain ⟨h1, _⟩ := initInputFileInfo_ok rx fs _ true infos h
  rw [convertToURIs_canon rx fs hrx hfs pieces hp] at h1
  obtain ⟨g1, g2⟩ := infoAll_ok fs true _ infos h1
  intro i
  rw [g2, List.mem_flatMap, List.mem_flatMap]
  constructor
  · rintro ⟨p, hpm, hi⟩
    have hpp := (List.mem_filter.1 hpm).1
    exact ⟨p, hpp, (infoOne_canon_rec_mem fs hfs p (hp p hpp) _ (g1 p hpm) i).1 hi⟩
  · rintro ⟨p, hpp, hi⟩
    cases hex : (present fs p) with
    | false =>
      rw [expandSpecRec_absent fs p (hp p hpp).noTrail hex] at hi
      cases hi
    | true =>
      have hone := g1 p (List.mem_filter.2 ⟨hpp, hex⟩)
      exact ⟨p, List.mem_filter.2 ⟨hpp, hex⟩, (infoOne_canon_rec_mem fs hfs p (hp p hpp) _ hone i).2 hi⟩

/-! ### sorted file system: the breadth-first order -/

/-! #### queue order = level order -/

def levelsM (fs : FileSys) : Nat → List Name → List Info
  | 0, _ => []
  | n + 1, ds => ds.flatMap (filesM fs) ++ levelsM fs n (ds.flatMap (subdirsM fs))

/-- the fuel `listRecGo` uses on the first `n` levels -/
def costM (fs : FileSys) : Nat → List Name → Nat
  | 0, _ => 0
  | n + 1, ds => ds.length + costM fs n (ds.flatMap (subdirsM fs))

def iterM (fs : FileSys) : Nat → List Name → List Name
  | 0, ds => ds
  | n + 1, ds => iterM fs n (ds.flatMap (subdirsM fs))

theorem listRecGo_level : ∀ (cur : List Name) (fuel : Nat) (nxt : List Name) (out : List Info),
    listRecGo fs (fuel + cur.length) (cur ++ nxt) out =
      listRecGo fs fuel (nxt ++ cur.flatMap (subdirsM fs)) (out ++ cur.flatMap (filesM fs)) := by
  intro cur
  induction cur with
  | nil => intro fuel nxt out; simp
  | cons d cur ih =>
    intro fuel nxt out
    have e1 : fuel + (d :: cur).length = (fuel + cur.length) + 1 := by rw [List.length_cons]; omega
    rw [e1, List.cons_append, listRecGo]
    have e2 : cur ++ nxt ++ List.map (fun x => x.name) (List.filter (fun i => i.kind == Kind.dir) (listDirectory fs d))
        = cur ++ (nxt ++ subdirsM fs d) := by rw [List.append_assoc]; rfl
    have e3 : out ++ List.filter (fun i => i.kind != Kind.dir) (listDirectory fs d) = out ++ filesM fs d := rfl
    rw [e2, e3, ih, List.flatMap_cons, List.flatMap_cons]
    simp only [List.append_assoc]

theorem listRecGo_levels : ∀ (n : Nat) (ds : List Name) (fuel : Nat) (out : List Info),
    iterM fs n ds = [] → costM fs n ds < fuel → listRecGo fs fuel ds out = .ok (out ++ levelsM fs n ds) := by
  intro n
  induction n with
  | zero =>
    intro ds fuel out h1 h2
    rw [iterM] at h1
    subst h1
    cases fuel with
    | zero => rw [costM] at h2; omega
    | succ f => rw [listRecGo, levelsM, List.append_nil]
  | succ n ih =>
    intro ds fuel out h1 h2
    rw [iterM] at h1
    rw [costM] at h2
    obtain ⟨f, hf⟩ : ∃ f, fuel = f + ds.length := ⟨fuel - ds.length, by omega⟩
    subst hf
    have := listRecGo_level fs ds f [] out
    rw [List.append_nil, List.nil_append] at this
    rw [this, ih _ f _ h1 (by omega), levelsM, List.append_assoc]



/-! #### the sub-directories of one directory, and the entries below each -/

theorem subKey_prefix (dir : Bytes) (e : Name × Bytes) (s : Name) (h : subKey dir e = some s) :
    isPrefix (s ++ [47]) e.1 = true ∧ ∃ t1, s = dir ++ t1 ∧ (47 : UInt8) ∉ t1 := by
  unfold subKey at h
  cases hc : classify dir e with
  | skip => rw [hc] at h; cases h
  | file j => rw [hc] at h; cases h
  | sub s' =>
    rw [hc] at h
    injection h with h
    subst h
    obtain ⟨t1, t2, g1, g2, g3⟩ := classify_sub_inv _ e s' hc
    exact ⟨(isPrefix_iff _ _).2 ⟨t2, by rw [g1, g3]; simp⟩, t1, g3, g2⟩

theorem prefix_subKey (dir : Bytes) (e : Name × Bytes) (t1 : Bytes) (h47 : (47 : UInt8) ∉ t1)
    (h : isPrefix (dir ++ t1 ++ [47]) e.1 = true) : subKey dir e = some (dir ++ t1) := by
  obtain ⟨t2, he⟩ := (isPrefix_iff _ _).1 h
  rw [subKey, classify_sub dir e t1 t2 (by rw [he]; simp) h47]

theorem slashes_below (d t : Bytes) : slashes (d ++ [47] ++ t) = slashes d + 1 + slashes t := by
  unfold slashes
  rw [List.count_append, List.count_append]
  rfl

def belowOf (fs : FileSys) (d : Name) : FileSys := fs.filter (fun e => isPrefix (d ++ [47]) e.1)

theorem subKey_isSome (d : Bytes) (e : Name × Bytes) :
    (subKey (d ++ [47]) e).isSome = (decide (slashes d + 2 ≤ slashes e.1) && isPrefix (d ++ [47]) e.1) := by
  unfold subKey
  rcases classify_cases (d ++ [47]) e with ⟨h, h' | h'⟩ | ⟨t, g1, _, g3, h⟩ | ⟨t1, t2, g1, _, h⟩
  · rw [h, h', Bool.and_false]
    rfl
  · have := slashes_below d []
    rw [List.append_nil, ← h', show slashes [] = 0 from rfl] at this
    rw [h, decide_eq_false (by omega)]
    rfl
  · have := slashes_below d t
    rw [← g1, show slashes t = 0 from List.count_eq_zero.2 g3] at this
    rw [h, decide_eq_false (by omega)]
    rfl
  · have := slashes_below d (t1 ++ 47 :: t2)
    rw [← g1, show slashes (t1 ++ 47 :: t2) = slashes t1 + (slashes t2 + 1) by simp [slashes, List.count_append]] at this
    rw [h, g1, isPrefix_append, decide_eq_true (by rw [← g1]; omega)]
    rfl

/-! #### sorted file systems are prefix-contiguous -/

theorem prefix_between : ∀ (P x z y : Bytes), lexLt x z = true → lexLt z y = true →
    isPrefix P x = true → isPrefix P y = true → isPrefix P z = true := by
  intro P
  induction P with
  | nil => intro _ _ _ _ _ _ _; rfl
  | cons c P ih =>
    intro x z y h1 h2 h3 h4
    cases x with
    | nil => rw [isPrefix] at h3; cases h3
    | cons a x =>
    cases y with
    | nil => rw [isPrefix] at h4; cases h4
    | cons b y =>
    cases z with
    | nil => rw [lexLt] at h1; cases h1
    | cons m z =>
      rw [isPrefix] at h3 h4 ⊢
      rw [lexLt] at h1 h2
      simp only [Bool.and_eq_true, beq_iff_eq, Bool.or_eq_true, decide_eq_true_eq] at h1 h2 h3 h4 ⊢
      obtain ⟨ha, h3⟩ := h3
      obtain ⟨hb, h4⟩ := h4
      subst ha hb
      have hm : c = m ∧ lexLt x z = true ∧ lexLt z y = true := by
        rcases h1 with h1 | ⟨e1, h1⟩
        · rcases h2 with h2 | ⟨e2, h2⟩
          · rw [UInt8.lt_iff_toNat_lt] at h1 h2; omega
          · subst e2; rw [UInt8.lt_iff_toNat_lt] at h1; omega
        · rcases h2 with h2 | ⟨e2, h2⟩
          · subst e1; rw [UInt8.lt_iff_toNat_lt] at h2; omega
          · exact ⟨e1, h1, h2⟩
      exact ⟨hm.1, ih x z y hm.2.1 hm.2.2 h3 h4⟩

theorem contig_of_sorted (d : Bytes) : ∀ (fs : FileSys), FsSorted fs → Contig (subKey (d ++ [47])) fs := by
  intro fs
  induction fs with
  | nil => intro _; exact True.intro
  | cons x r ih =>
    intro hs
    unfold FsSorted at hs
    rw [List.pairwise_cons] at hs
    refine ⟨ih hs.2, ?_⟩
    intro s hx l1 y l2 hr hy z hz hkz
    obtain ⟨px, t1, hs1, h47⟩ := subKey_prefix _ x s hx
    obtain ⟨pz, _⟩ := subKey_prefix _ z s hkz
    have hyr : y ∈ r := by rw [hr]; simp
    have hxy := hs.1 y hyr
    have hp := hs.2
    rw [hr, List.pairwise_append] at hp
    have hyz := (List.pairwise_cons.1 hp.2.1).1 z hz
    have py := prefix_between _ _ _ _ hxy hyz px pz
    rw [hs1] at py
    exact hy (by rw [prefix_subKey _ y t1 h47 py, hs1])

theorem subdirs_groups (hs : FsSorted fs) (d : Name) (hd : NoTrail d) :
    (subdirsM fs d).flatMap (belowOf fs) = (belowOf fs d).filter (fun e => decide (slashes d + 2 ≤ slashes e.1)) := by
  rw [subdirsM_eq fs d, dirPrefix_noTrail d hd, belowOf, List.filter_filter, ← List.filter_congr (fun e _ => subKey_isSome d e),
    ← groups_flatMap (subKey (d ++ [47])) fs none (contig_of_sorted d fs hs) (fun _ h => nomatch h)]
  apply flatMap_congr_mem
  intro s hsm
  obtain ⟨x, _, hx⟩ := (mem_groupKeys_none _ s fs).1 hsm
  obtain ⟨_, t1, hs1, h47⟩ := subKey_prefix _ x s hx
  apply List.filter_congr
  intro e _
  rw [Bool.eq_iff_iff, decide_eq_true_eq]
  constructor
  · intro hp
    rw [hs1] at hp
    rw [prefix_subKey _ e t1 h47 hp, hs1]
  · intro hk
    exact (subKey_prefix _ e s hk).1




/-! #### the levels of the traversal -/

theorem slashes_of_prefix (d : Bytes) (e : Name × Bytes) (h : isPrefix (d ++ [47]) e.1 = true) :
    slashes e.1 = slashes d + 1 + slashes (e.1.drop (d.length + 1)) := by
  obtain ⟨t, ht⟩ := (isPrefix_iff _ _).1 h
  rw [ht, List.drop_left' (by simp), slashes_below]

def LevelInv (fs : FileSys) (p : Name) (k : Nat) (ds : List Name) : Prop :=
  ds.flatMap (belowOf fs) =
    fs.filter (fun e => isPrefix (p ++ [47]) e.1 && decide (slashes p + k + 1 ≤ slashes e.1)) ∧
  ∀ d ∈ ds, NoTrail d ∧ slashes d = slashes p + k ∧ ∃ e ∈ fs, isPrefix (d ++ [47]) e.1 = true

theorem levelInv_zero (p : Name) (hp : NoTrail p) (hdir : isDirOf fs p = true) : LevelInv fs p 0 [p] := by
  refine ⟨?_, ?_⟩
  · rw [List.flatMap_cons, List.flatMap_nil, List.append_nil]
    apply List.filter_congr
    intro e _
    cases hpe : isPrefix (p ++ [47]) e.1 with
    | false => rfl
    | true =>
      have := slashes_of_prefix p e hpe
      rw [decide_eq_true (by omega)]
      rfl
  · intro d hd
    rw [List.mem_singleton.1 hd]
    rw [isDirOf, dirPrefix_noTrail p hp] at hdir
    exact ⟨hp, rfl, List.any_eq_true.1 hdir⟩

theorem levelInv_succ (hfs : CanonFs fs) (hs : FsSorted fs) (p : Name) (k : Nat) (ds : List Name)
    (h : LevelInv fs p k ds) : LevelInv fs p (k + 1) (ds.flatMap (subdirsM fs)) := by
  obtain ⟨h1, h2⟩ := h
  refine ⟨?_, ?_⟩
  · rw [List.flatMap_assoc]
    have e1 : ds.flatMap (fun d => (subdirsM fs d).flatMap (belowOf fs)) =
        ds.flatMap (fun d => (belowOf fs d).filter (fun e => decide (slashes p + k + 2 ≤ slashes e.1))) :=
      flatMap_congr_mem fun d hd => by rw [subdirs_groups fs hs d (h2 d hd).1, (h2 d hd).2.1]
    rw [e1, ← List.filter_flatMap, h1, List.filter_filter]
    apply List.filter_congr
    intro e _
    cases isPrefix (p ++ [47]) e.1 with
    | false => simp
    | true =>
      rw [Bool.eq_iff_iff]
      simp only [Bool.true_and, Bool.and_eq_true, decide_eq_true_eq]
      omega
  · intro s hsm
    obtain ⟨d, hd, hsd⟩ := List.mem_flatMap.1 hsm
    obtain ⟨g1, g2, _⟩ := h2 d hd
    obtain ⟨g3, t1, g4, g5, e, he, t2, g6⟩ := subdir_facts fs hfs d g1 s hsd
    refine ⟨g3, ?_, e, he, (isPrefix_iff _ _).2 ⟨t2, by rw [g6]; simp⟩⟩
    rw [g4, slashes_below, show slashes t1 = 0 from List.count_eq_zero.2 g5]
    omega

theorem levelInv_iter (hfs : CanonFs fs) (hs : FsSorted fs) (p : Name) :
    ∀ (n k : Nat) (ds : List Name), LevelInv fs p k ds → LevelInv fs p (k + n) (iterM fs n ds) := by
  intro n
  induction n with
  | zero => intro k ds h; exact h
  | succ n ih =>
    intro k ds h
    rw [iterM, show k + (n + 1) = k + 1 + n by omega]
    exact ih (k + 1) _ (levelInv_succ fs hfs hs p k ds h)

def atDepth (n : Nat) (e : Name × Bytes) : Option Info :=
  if (slashes e.1 == n) && !e.2.isEmpty then some { name := e.1, size := e.2.length, kind := .file } else none

theorem childrenOf_depth (d : Name) : childrenOf fs d = (belowOf fs d).filterMap (atDepth (slashes d + 1)) := by
  unfold childrenOf belowOf atDepth
  rw [List.filterMap_filter]
  apply filterMap_congr_mem
  intro e _
  cases hpe : isPrefix (d ++ [47]) e.1 with
  | false => simp
  | true =>
    have hsl := slashes_of_prefix d e hpe
    have hcnt : (e.1.drop (d.length + 1)).contains 47 = decide (0 < slashes (e.1.drop (d.length + 1))) := by
      rw [Bool.eq_iff_iff, decide_eq_true_eq, List.contains_iff_mem, slashes, List.count_pos_iff]
    have : (!(e.1.drop (d.length + 1)).contains 47) = (slashes e.1 == slashes d + 1) := by
      rw [hcnt, Bool.eq_iff_iff]
      simp only [Bool.not_eq_true', decide_eq_false_iff_not, beq_iff_eq]
      omega
    rw [this]
    simp

theorem files_level (hfs : CanonFs fs) (p : Name) (k : Nat) (ds : List Name)
    (h : LevelInv fs p k ds) :
    (ds.flatMap (filesM fs)).filter kept = filesAt fs p k := by
  obtain ⟨h1, h2⟩ := h
  rw [List.filter_flatMap]
  have e1 : ds.flatMap (fun d => (filesM fs d).filter kept) =
      ds.flatMap (fun d => (belowOf fs d).filterMap (atDepth (slashes p + k + 1))) :=
    flatMap_congr_mem fun d hd => by
      rw [filesM_kept, listDirectory_kept fs hfs d (h2 d hd).1, childrenOf_depth, (h2 d hd).2.1]
  rw [e1, ← List.filterMap_flatMap, h1, List.filterMap_filter]
  unfold filesAt atDepth
  apply filterMap_congr_mem
  intro e _
  cases isPrefix (p ++ [47]) e.1 with
  | false => simp
  | true =>
    by_cases hsl : slashes e.1 = slashes p + k + 1
    · rw [decide_eq_true (by omega)]
      rfl
    · rw [show (slashes e.1 == slashes p + k + 1) = false by simpa using hsl]
      simp

theorem levels_filesAt (hfs : CanonFs fs) (hs : FsSorted fs) (p : Name) :
    ∀ (n k : Nat) (ds : List Name), LevelInv fs p k ds →
      (levelsM fs n ds).filter kept =
        (List.range n).flatMap (fun j => filesAt fs p (k + j)) := by
  intro n
  induction n with
  | zero => intro k ds _; rfl
  | succ n ih =>
    intro k ds h
    rw [levelsM, List.filter_append, files_level fs hfs p k ds h,
      ih (k + 1) _ (levelInv_succ fs hfs hs p k ds h), List.range_succ_eq_map, List.flatMap_cons,
      List.flatMap_map]
    congr 1
    apply flatMap_congr_mem
    intro j _
    rw [show k + 1 + j = k + j.succ by omega]

theorem length_le_flatMap {α β : Type} (g : α → List β) : ∀ (l : List α), (∀ x ∈ l, g x ≠ []) →
    l.length ≤ (l.flatMap g).length := by
  intro l
  induction l with
  | nil => intro _; exact Nat.le_refl _
  | cons x l ih =>
    intro h
    rw [List.flatMap_cons, List.length_append, List.length_cons]
    have h1 : 0 < (g x).length := List.length_pos_iff.2 (h x (List.mem_cons_self ..))
    have h2 := ih (fun y hy => h y (List.mem_cons_of_mem _ hy))
    omega

def deepCount (fs : FileSys) (k : Nat) : Nat := fs.countP (fun e => decide (k + 1 ≤ slashes e.1))

theorem level_length (p : Name) (k : Nat) (ds : List Name) (h : LevelInv fs p k ds) :
    ds.length ≤ deepCount fs k := by
  obtain ⟨h1, h2⟩ := h
  have hne : ∀ d ∈ ds, belowOf fs d ≠ [] := by
    intro d hd hn
    obtain ⟨_, _, e, he, hp⟩ := h2 d hd
    exact List.filter_eq_nil_iff.1 hn e he hp
  have := length_le_flatMap _ ds hne
  rw [h1, ← List.countP_eq_length_filter] at this
  refine Nat.le_trans this (List.countP_mono_left fun e _ he => ?_)
  simp only [Bool.and_eq_true, decide_eq_true_eq] at he ⊢
  omega

theorem deepCount_step : ∀ (fs : FileSys) (k : Nat),
    deepCount fs k + (fs.map (fun e => slashes e.1 - (k + 1))).sum ≤ (fs.map (fun e => slashes e.1 - k)).sum := by
  intro fs k
  induction fs with
  | nil => exact Nat.le_refl _
  | cons e r ih =>
    unfold deepCount at ih ⊢
    rw [List.countP_cons, List.map_cons, List.map_cons, List.sum_cons, List.sum_cons]
    by_cases hh : k + 1 ≤ slashes e.1
    · rw [if_pos (decide_eq_true hh)]
      omega
    · rw [if_neg (by rw [decide_eq_true_eq]; exact hh)]
      omega

theorem cost_le (hfs : CanonFs fs) (hs : FsSorted fs) (p : Name) :
    ∀ (n k : Nat) (ds : List Name), LevelInv fs p k ds →
      costM fs n ds ≤ (fs.map (fun e => slashes e.1 - k)).sum := by
  intro n
  induction n with
  | zero => intro k ds _; rw [costM]; exact Nat.zero_le _
  | succ n ih =>
    intro k ds h
    rw [costM]
    have h1 := level_length fs p k ds h
    have h2 := ih (k + 1) _ (levelInv_succ fs hfs hs p k ds h)
    have h3 := deepCount_step fs k
    omega

theorem sum_sub_le : (fs.map (fun e => slashes e.1 - 0)).sum ≤ (fs.map (fun e => e.1.length + 1)).sum := by
  induction fs with
  | nil => exact Nat.le_refl _
  | cons e r ih =>
    rw [List.map_cons, List.map_cons, List.sum_cons, List.sum_cons]
    have : slashes e.1 ≤ e.1.length := List.count_le_length
    omega

theorem slashes_le_depthBound : ∀ e ∈ fs, slashes e.1 ≤ depthBound fs := by
  unfold depthBound
  induction fs with
  | nil => intro e he; cases he
  | cons a r ih =>
    intro e he
    rw [List.map_cons, List.sum_cons]
    rcases List.mem_cons.1 he with he | he
    · rw [he]; omega
    · have := ih e he; omega

theorem listDirectoryRecursive_bfs (hfs : CanonFs fs) (hs : FsSorted fs) (p : Name)
    (hp : NoTrail p) (hdir : isDirOf fs p = true) :
    listDirectoryRecursive fs p = .ok (levelsM fs (depthBound fs) [p]) := by
  have h0 := levelInv_zero fs p hp hdir
  unfold listDirectoryRecursive
  have hN := levelInv_iter fs hfs hs p (depthBound fs) 0 [p] h0
  have hempty : iterM fs (depthBound fs) [p] = [] := by
    cases hi : iterM fs (depthBound fs) [p] with
    | nil => rfl
    | cons d t =>
      -- a directory of level `depthBound fs` would have an entry deeper than any entry is
      rw [hi] at hN
      obtain ⟨h1, h2⟩ := hN
      obtain ⟨_, _, e, he, hpe⟩ := h2 d (List.mem_cons_self ..)
      have hmem : e ∈ (d :: t).flatMap (belowOf fs) :=
        List.mem_flatMap.2 ⟨d, List.mem_cons_self .., List.mem_filter.2 ⟨he, hpe⟩⟩
      rw [h1] at hmem
      have := (List.mem_filter.1 hmem).2
      simp only [Bool.and_eq_true, decide_eq_true_eq] at this
      have := slashes_le_depthBound fs e he
      omega
  have hcost : costM fs (depthBound fs) [p] < listRecFuel fs := by
    have h1 := cost_le fs hfs hs p (depthBound fs) 0 [p] h0
    have h2 := sum_sub_le fs
    unfold listRecFuel
    omega
  rw [listRecGo_levels fs _ _ _ [] hempty hcost, List.nil_append]

/-! #### the file list with `recurse_directories = true` -/

theorem keptListing_bfs (hfs : CanonFs fs) (hs : FsSorted fs) (p : Name) (hp : NoTrail p)
    (hdir : isDirOf fs p = true) : keptListing fs true p = .ok (descendantsBfs fs p) := by
  unfold keptListing
  rw [if_pos rfl, listDirectoryRecursive_bfs fs hfs hs p hp hdir]
  simp only []
  rw [levels_filesAt fs hfs hs p _ 0 [p] (levelInv_zero fs p hp hdir)]
  simp only [Nat.zero_add]
  rfl

theorem infoOne_canon_rec (hfs : CanonFs fs) (hs : FsSorted fs) (p : Name) (hp : CanonName p)
    (hex : present fs p = true) : infoOne fs true p = .ok (expandSpecBfs fs p) := by
  cases hf : fs.find? (fun e => e.1 == p) with
  | some e => rw [infoOne_file fs true p e hf, expandSpecBfs, hf]
  | none =>
    have hd := isDirOf_of_named fs p hf hex
    rw [infoOne_nofile fs true p hf, hd, if_pos rfl, keptListing_bfs fs hfs hs p hp.noTrail hd,
      expandSpecBfs, hf]

theorem descendantsBfs_nil (p : Name) (h : ∀ e ∈ fs, isPrefix (p ++ [47]) e.1 = false) :
    descendantsBfs fs p = [] := by
  unfold descendantsBfs
  rw [List.flatMap_eq_nil_iff]
  intro k _
  unfold filesAt
  rw [List.filterMap_eq_nil_iff]
  intro e he
  rw [h e he]
  rfl

theorem expandSpecBfs_absent (p : Name) (hp : NoTrail p)
    (hex : present fs p = false) : expandSpecBfs fs p = [] := by
  obtain ⟨h1, h2⟩ := absent fs p hp hex
  rw [expandSpecBfs, h1]
  exact descendantsBfs_nil fs p h2

theorem initInputFileInfo_canon_rec (hrx : LiteralRx rx) 
    (hfs : CanonFs fs) (hs : FsSorted fs) (pieces : List Name) (hp : ∀ p ∈ pieces, CanonName p) :
    initInputFileInfo rx fs (joinSemi pieces) true =
      (if (pieces.flatMap (expandSpecBfs fs)).isEmpty then .error .check else .ok (pieces.flatMap (expandSpecBfs fs))) :=
  initInputFileInfo_canon_of rx fs hrx hfs pieces hp true (expandSpecBfs fs)
    (fun p h hex => infoOne_canon_rec fs hfs hs p (hp p h) hex)
    (fun p h hex => expandSpecBfs_absent fs p (hp p h).noTrail hex)


end

end DmlcModel.Split
