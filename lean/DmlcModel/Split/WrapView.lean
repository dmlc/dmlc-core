/-
`SingleThreadedInputSplit` seen through `InputSplitBase`: the wrapper's `NextRecord` / `NextChunk` is the base's own loop
(`nextLoop`) run on the wrapper's chunk instead of the base's (`wrapLoop_view`, no hypothesis; `wrapNext_view` when `Extract`
returns "no record" exactly on an exhausted chunk); every fact about `wrapNext` is read off `nextLoop` through these two.
-/
import DmlcModel.Split.Drain

namespace DmlcModel.Split
open DmlcModel DmlcModel.Gen.Split
open CleanAux

def withChunk3 {α β : Type} (c : Chunk) (p : α × Base × β) : α × Base × β :=
  (p.1, { p.2.1 with chunk := c }, p.2.2)

theorem foot_setChunk (c : Chunk) : Foot fun s t => t = { s with chunk := c } :=
  ⟨fun h => by cases h; exact ⟨rfl, rfl, rfl, rfl, Or.inr ⟨rfl, rfl, rfl⟩⟩, fun h _ _ _ => by cases h; rfl,
   fun h _ => by cases h; rfl⟩

theorem loadLoop_setChunk (F : Fmt) (c : Chunk) (fuel : Nat) (s : Base) (dw : Nat) :
    loadLoop F fuel { s with chunk := c } dw = (loadLoop F fuel s dw).map (withChunk3 c) := by
  have h := CleanAux.ERel_false_iff.1 (loadLoop_rel (foot_setChunk c) F fuel dw (s := s) rfl)
  generalize loadLoop F fuel s dw = x, loadLoop F fuel { s with chunk := c } dw = y at h
  rcases x with e | ⟨o, s1, n⟩ <;> rcases y with e' | ⟨o', t1, n'⟩ <;> simp only [] at h
  · rw [h]; rfl
  · obtain ⟨rfl, rfl, rfl, -⟩ := h; rfl

theorem loadFuel_setChunk (s : Base) (c : Chunk) : loadFuel { s with chunk := c } = loadFuel s := rfl

attribute [local irreducible] loadLoop loadFuel loadResize in
theorem load_setChunk (F : Fmt) (s : Base) (c k : Chunk) :
    load F { s with chunk := c } k = (load F s k).map (withChunk3 c) := by
  rw [load_unfold, load_unfold, loadFuel_setChunk, loadLoop_setChunk]
  generalize loadLoop F (loadFuel s) s (loadResize s.bufWords) = x
  rcases x with e | ⟨_ | _, s1, dw⟩ <;> rfl

/-! ### a loaded chunk is not empty, so two visits of the loop suffice -/

theorem nextLoop_fuel (F : Fmt) (ext : Chunk → Except Err (Option (Bytes × Chunk)))
    (hn : ∀ c, ext c = .ok none → c.rest = []) (f1 f2 : Nat) (s : Base) (hc : s.chunk.rest ≠ []) :
    nextLoop F ext (f1 + 1) s = nextLoop F ext (f2 + 1) s := by
  rw [nextLoop_succ, nextLoop_succ]
  cases hx : ext s.chunk with
  | error e => simp only [nextStep]
  | ok o =>
    cases o with
    | none => exact absurd (hn _ hx) hc
    | some p => simp only [nextStep]

attribute [local irreducible] load nextLoop in
theorem nextLoop_two (F : Fmt) (ext : Chunk → Except Err (Option (Bytes × Chunk)))
    (hn : ∀ c, ext c = .ok none → c.rest = []) (f : Nat) (s : Base) :
    nextLoop F ext (f + 2) s = nextLoop F ext 2 s := by
  rw [nextLoop_succ, nextLoop_succ F ext 1]
  generalize ext s.chunk = x
  generalize hl : load F s s.chunk = l
  rcases x with e | _ | p
  · simp only [nextStep]
  · rcases l with e | ⟨_ | _, s1, c1⟩
    · simp only [nextStep]
    · simp only [nextStep]
    · simp only [nextStep]
      exact nextLoop_fuel F ext hn f 0 { s1 with chunk := c1 } ((load_kept F _ _ _ _ _ hl).2 rfl)
  · simp only [nextStep]

/-- what the wrapper makes of the result of the base's loop run on the wrapper's chunk: the base keeps its own
chunk `b.chunk`, the wrapper gets the chunk back.  At the end of the part (`p.1 = none`) the two differ in the window: the base's
loop has called `Load` on the exhausted chunk, and a failing `Load` only sets `dataWords` (`loadFin`); the wrapper has set
`tmp_chunk_ = NULL` before `NextProducer`, so `wrapProduce` has loaded into a freshly allocated chunk, `begin = 0` and an empty
window, which gets the same `dataWords` -/
def toW (b : Base) (w : Wrap) (p : Option Bytes × Base) : Option Bytes × Base × Wrap :=
  (p.1, { p.2 with chunk := b.chunk },
    { w with chunk := some (if p.1 = none then { p.2.chunk with begin := 0, rest := [] } else p.2.chunk) })

attribute [local irreducible] load wrapProduce loadLoop loadFuel loadResize in
theorem wrapLoop_view (F : Fmt) (ext : Chunk → Except Err (Option (Bytes × Chunk))) :
    ∀ (fuel : Nat) (b : Base) (w : Wrap) (c : Chunk),
      wrapLoop F ext fuel b w c = (nextLoop F ext fuel { b with chunk := c }).map (toW b w) := by
  intro fuel
  induction fuel with
  | zero => intro b w c; rfl
  | succ fuel ih =>
    intro b w c
    rw [wrapLoop_succ, nextLoop_succ, wrapProduce_unfold, load_setChunk F b c, load_unfold, load_unfold]
    have hd := fun s' dw dw' r h => (loadLoop_kept F (loadFuel b) b dw r s' dw' h).1.chunk
    generalize hdd : loadLoop F (loadFuel b) b (loadResize b.bufWords) = d at hd
    generalize ext c = x
    rcases x with e | _ | ⟨blob, c'⟩
    · rfl
    · rcases d with e | ⟨_ | bytes, s1, dw⟩
      · rfl
      · -- end of the part: the base hands back the exhausted chunk, the wrapper a fresh one
        have := hd s1 _ dw none hdd
        simp only [loadFin, Except.map, withChunk3, nextStep, toW, wpChunk, wrapStep, wrapFin]
        rw [← this]
        rfl
      · have := hd s1 _ dw _ hdd
        simp only [loadFin, Except.map, withChunk3, nextStep, wrapStep, wrapFin]
        rw [ih]
        unfold toW
        rw [this]
        rfl
    · cases b; rfl

attribute [local irreducible] wrapProduce wrapLoop nextLoop load in
/-- the entry differs from the loop only when the wrapper holds no chunk: it then loads first, which the base's loop
does too once `Extract` has said "no record" on the empty chunk -/
theorem wrapNext_view (F : Fmt) (ext : Chunk → Except Err (Option (Bytes × Chunk)))
    (hN : ∀ c, ext c = .ok none ↔ c.rest = []) (b : Base) (w : Wrap) :
    wrapNext F ext b w = (nextLoop F ext 3 { b with chunk := wpChunk w }).map (toW b w) := by
  rw [wrapNext_unfold]
  unfold wrapStart wpChunk
  cases hw : w.chunk with
  | some c => exact wrapLoop_view F ext 3 b w c
  | none =>
    have e : ({ w with chunk := none } : Wrap) = w := by cases w; cases hw; rfl
    have := wrapLoop_succ F ext 3 b w { dataWords := chunkInitWords w.bufWords }
    rw [(hN _).2 rfl, e] at this
    rw [← this, wrapLoop_view, nextLoop_two F ext (fun c => (hN c).1) 2, nextLoop_two F ext (fun c => (hN c).1) 1]

def wrapOut (s : St) (x : Except Err (Option Bytes × Base × Wrap)) : St × Out :=
  match x with
  | .error e => (s, .err e)
  | .ok (r, b, w) => ({ base := b, wrap := some w }, outOf r)

attribute [local irreducible] nextLoop wrapNext in
theorem step_next (F : Fmt) (s : St) (rec : Bool) :
    step F s (if rec then .nextRec else .nextChunk) =
      match s.wrap with
      | none => bareOut s (nextLoop F (extOf F rec) 3 s.base)
      | some w => wrapOut s (wrapNext F (extOf F rec) s.base w) := by
  obtain ⟨sb, sw⟩ := s
  -- four cases (the call × bare / wrapped); in each, both sides are a `match` on the result of the same loop
  cases rec <;> cases sw <;>
    simp only [Bool.false_eq_true, if_false, if_true, step, extOf, nextRecord, nextChunk, bareOut, wrapOut] <;>
    split <;> simp only [*]

/-- the base state a `NextRecord` / `NextChunk` works on -/
def St.view (s : St) : Base :=
  match s.wrap with
  | none => s.base
  | some w => { s.base with chunk := wpChunk w }

def St.unview (s : St) (x : Except Err (Option Bytes × Base)) : St × Out :=
  match s.wrap with
  | none => bareOut s x
  | some w => wrapOut s (x.map (toW s.base w))

attribute [local irreducible] nextLoop wrapNext in
theorem step_next_view (F : Fmt) (s : St) (rec : Bool)
    (hN : s.wrap ≠ none → ∀ c, extOf F rec c = .ok none ↔ c.rest = []) :
    step F s (if rec then .nextRec else .nextChunk) = s.unview (nextLoop F (extOf F rec) 3 s.view) := by
  rw [step_next]
  unfold St.view St.unview
  cases hw : s.wrap with
  | none => rfl
  | some w =>
    simp only []
    rw [wrapNext_view F _ (hN (by rw [hw]; exact Option.some_ne_none w))]

end DmlcModel.Split
