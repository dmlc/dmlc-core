/-
The RECORDIO instance of Drain.lean on a bare split whose chunk window and look-ahead are images of record lists (`GInv`):
every `NextRecord` hands out the next record, every `NextChunk` the image of the next non-empty run of whole records.
`2 ≤ bufWords` is needed: with a one-word buffer `FindLastRecordBegin`'s `CHECK(p >= pbegin + 2)` fires.
-/
import DmlcModel.Split.RecLemmas
import DmlcModel.Split.Drain

namespace DmlcModel.Split
open DmlcModel DmlcModel.RecordIO

theorem cutOk_rec : CutOk Fmt.recordio := fun h => by cases h

theorem writeAll_nil : writeAll [] = [] := rfl

theorem pending_rec_length_le (s : Base) (hR : RInv s) :
    (pending Fmt.recordio s).length ≤ s.offEnd - s.offCurr := by
  by_cases hemp : s.fpos = none ∨ s.offEnd ≤ s.offBegin
  · rw [pending_eq_nil _ s hemp]; exact Nat.zero_le _
  · rw [pending_binary_length Fmt.recordio s hR rfl (by omega) (fun h => hemp (Or.inl h))]; omega

theorem GInv_of_clean (s : Base) (hR : RInv s) (hc : s.chunk.rest = []) (ho : s.overflow = [])
    (ah : List Bytes) (hah : Short ah) (hp : pending Fmt.recordio s = writeAll ah)
    (ht : totalSize s.files < 2^56) (hb2 : 2 ≤ s.bufWords) (hb : s.bufWords < 2^56) : GInv s [] ah := by
  have he : s.offEnd ≤ totalSize s.files := hR.offEnd_le
  refine ⟨hR, by rw [hc]; rfl, by rw [ho, hp]; rfl, short_nil, hah, fun h => absurd rfl h, ht, hb2, hb, ?_⟩
  rw [← hp]
  have := pending_rec_length_le s hR
  omega

theorem load_rec (s : Base) (ah : List Bytes) (hinv : GInv s [] ah) :
    ∃ ok s1 c, load Fmt.recordio s s.chunk = .ok (ok, s1, c) ∧
    (ok = false → ah = [] ∧ GInv { s1 with chunk := c } [] []) ∧
    (ok = true → ∃ cur' ah', cur' ≠ [] ∧ cur' ++ ah' = ah ∧ GInv { s1 with chunk := c } cur' ah') := by
  obtain ⟨hR, hcr, hah, _, hSa, _, hts, hb2, hbw, hal⟩ := hinv
  have hahd : ahead Fmt.recordio s = writeAll ah := hah
  obtain ⟨ok, s1, c, h, ⟨i2, -, -, -, i6⟩, i1, i9, i10⟩ :=
    load_run Fmt.recordio cutOk_rec (fun buf cut => cut + 8 ≤ buf.length ∧ (cut = 0 ∨ IsHead ah cut)) s s.chunk hR
      (by omega) hbw (by rw [hahd]; exact hal) fun buf _ hb => by
        -- `CHECK_EQ(end & 3, 0)` and `CHECK(p >= pbegin + 2)` of `FindLastRecordBegin` do not fire
        obtain ⟨w, hw, rfl, hl⟩ := hb rfl
        rw [hahd] at hl ⊢
        have hml : 4 * w ≤ (writeAll ah).length := by rw [List.length_take] at hl; omega
        obtain ⟨cut, h1, h2, h3, -⟩ := recFindLast_spec ah hSa (4 * w) (by omega) (by omega) hml (by omega)
        exact ⟨cut, h1, by rw [hl]; exact h2, h3⟩
  refine ⟨ok, s1, c, h, ?_⟩
  have mk : ∀ cur' ah', c.rest = writeAll cur' → s1.overflow ++ pending Fmt.recordio s1 = writeAll ah' →
      Short cur' → Short ah' → (cur' ≠ [] → c.begin % 4 = 0) → (writeAll ah').length ≤ (writeAll ah).length →
      GInv { s1 with chunk := c } cur' ah' :=
    fun _ _ h1 h2 h3 h4 h5 h6 =>
      ⟨i1, h1, h2, h3, h4, h5, by rw [i2]; exact hts, by rw [i6]; exact hb2, by rw [i6]; exact hbw, by omega⟩
  refine ⟨?_, ?_⟩
  · intro hk
    obtain ⟨j1, j2, j3, j4, j5⟩ := i9 hk
    rw [hahd] at j3
    exact ⟨writeAll_eq_nil ah hSa j3, mk [] [] (by rw [j1, hcr]) (by rw [j4, j5]; rfl) short_nil short_nil
      (fun hne => absurd rfl hne) (Nat.zero_le _)⟩
  · intro hk
    obtain ⟨j1, j2, j3, j4⟩ := i10 hk
    rcases j4 with ⟨buf, cut, ⟨hc8, hhead⟩, htake, hdrop, hcons⟩ | ⟨_, hall, ho, hp⟩
    · have hcat : buf ++ pending Fmt.recordio s1 = writeAll ah :=
        hahd ▸ Or.resolve_right hcons (fun h => by cases h.1)
      have hml : buf.length ≤ (writeAll ah).length := by rw [← hcat, List.length_append]; omega
      have hbuf : buf = (writeAll ah).take buf.length := by rw [← hcat]; simp
      have hcpos : cut ≠ 0 := by
        intro h0; rw [h0] at htake; rw [htake] at j2; simp at j2
      have hhd : IsHead ah cut := by
        rcases hhead with h0 | hh
        · exact absurd h0 hcpos
        · exact hh
      obtain ⟨j, hj, hjc⟩ := hhd
      have hsplit := writeAll_take_drop_head ah j
      have hrest : c.rest = writeAll (ah.take j) := by
        rw [htake, hbuf, List.take_take, Nat.min_eq_left (by omega), hsplit, hjc]; simp
      have hov : s1.overflow ++ pending Fmt.recordio s1 = writeAll (ah.drop j) := by
        rw [hdrop, ← List.drop_append_of_le_length (by omega), hcat, hsplit, hjc]; simp
      have hjne : ah.take j ≠ [] := by
        intro he; rw [he] at hrest; exact j2 hrest
      have := congrArg List.length hsplit
      rw [List.length_append] at this
      exact ⟨ah.take j, ah.drop j, hjne, List.take_append_drop j ah, mk _ _ hrest hov (short_take hSa j)
        (short_drop hSa j) (fun _ => by rw [j1]) (by omega)⟩
    · rw [hahd] at hall
      have hne' : ah ≠ [] := by
        intro he; rw [he] at hall; exact j2 hall
      exact ⟨ah, [], hne', List.append_nil ah, mk _ _ hall (by rw [ho, hp]; rfl) hSa short_nil
        (fun _ => by rw [j1]) (Nat.zero_le _)⟩

theorem extOf_rec (rec : Bool) (c : Chunk) (cur : List Bytes) (hc : c.rest = writeAll cur) (hS : Short cur)
    (hb : c.begin % 4 = 0) (hne : cur ≠ []) :
    ∃ run cur' b c', run ≠ [] ∧ run ++ cur' = cur ∧ extOf Fmt.recordio rec c = .ok (some (b, c')) ∧
      (if rec then run = [b] else b = writeAll run) ∧ c'.rest = writeAll cur' ∧ (cur' ≠ [] → c'.begin % 4 = 0) := by
  cases rec with
  | true =>
    cases cur with
    | nil => exact absurd rfl hne
    | cons r rs =>
      refine ⟨[r], rs, r, _, by simp, rfl, recExtract_spec r rs hS c hc hb, rfl, rfl, fun _ => ?_⟩
      show (c.begin + (writeRecord r).1.length) % 4 = 0
      have := (writeRecord_length r hS.head).2
      omega
  | false =>
    have hrn : c.rest ≠ [] := by rw [hc]; exact writeAll_ne_nil cur hS hne
    exact ⟨cur, [], c.rest, { c with begin := c.begin + c.rest.length, rest := [] }, hne, List.append_nil cur,
      extOf_chunk _ c hrn, hc, rfl, fun h => absurd rfl h⟩

def ROwes (s : Base) (l : List Bytes) : Prop := ∃ cur ah, GInv s cur ah ∧ cur ++ ah = l

def RBlob (rec : Bool) (b : Bytes) (run : List Bytes) : Prop :=
  run ≠ [] ∧ (if rec then run = [b] else b = writeAll run)

theorem drainM_rec {s : Base} {cur ah : List Bytes} (h : GInv s cur ah) :
    drainM Fmt.recordio s = (writeAll cur).length + (writeAll ah).length + min 1 (writeAll ah).length := by
  unfold drainM ahead; rw [h.cur, h.ahead]

theorem nextOk_rec : NextOk Fmt.recordio ROwes RBlob := by
  refine next_of _ _ _ recExtract_nil ?_ ?_
  · rintro rec s l ⟨cur, ah, hinv, rfl⟩ hne
    have hm := drainM_rec hinv
    obtain ⟨hR, hc, hah, hS, hSa, hb, hts, hb2, hbw, hal⟩ := hinv
    have hcur : cur ≠ [] := fun e => hne (by rw [hc, e]; rfl)
    obtain ⟨run, cur', b, c', h1, h2, h3, h4, h5, h6⟩ := extOf_rec rec s.chunk cur hc hS (hb hcur) hcur
    have hS' := short_append.1 (h2 ▸ hS)
    have hinv' : GInv { s with chunk := c' } cur' ah := ⟨hR, h5, hah, hS'.2, hSa, h6, hts, hb2, hbw, hal⟩
    have := List.length_pos_iff.2 (writeAll_ne_nil run hS'.1 h1)
    refine ⟨b, c', run, cur' ++ ah, h3, ⟨h1, h4⟩, by rw [← List.append_assoc, h2], ⟨cur', ah, hinv', rfl⟩, ?_⟩
    rw [hm, drainM_rec hinv', ← h2, writeAll_append, List.length_append]
    omega
  · rintro s l ⟨cur, ah, hinv, rfl⟩ hne
    obtain rfl : cur = [] := writeAll_eq_nil cur hinv.shortCur (hinv.cur ▸ hne)
    have hm := drainM_rec hinv
    obtain ⟨ok, s1, c, hl, k0, k1⟩ := load_rec s ah hinv
    refine ⟨ok, s1, c, hl, fun h => ⟨(k0 h).1, [], [], (k0 h).2, rfl⟩, fun h => ?_⟩
    obtain ⟨cur', ah', e1, e2, e3⟩ := k1 h
    refine ⟨e3.cur ▸ writeAll_ne_nil cur' e3.shortCur e1, ⟨cur', ah', e3, e2⟩, ?_⟩
    rw [hm, drainM_rec e3, ← e2, writeAll_append, List.length_append]
    show _ ≤ 0 + _ + _
    omega

theorem drain_rec_correct (s : St) (hw : s.wrap = none) (cur ah : List Bytes) (hinv : GInv s.base cur ah)
    (pick : Nat → Bool) :
    ∃ bs s', drain Fmt.recordio pick s = (s', .ok bs) ∧
      (∃ runs : List (List Bytes), runs.length = bs.length ∧ runs.flatten = cur ++ ah ∧
        (∀ i b run, bs[i]? = some b → runs[i]? = some run →
          run ≠ [] ∧ (if pick i then run = [b] else b = writeAll run))) ∧
      s'.wrap = none ∧ ROwes s'.base [] :=
  drain_of_next Fmt.recordio _ _ nextOk_rec pick s hw _ ⟨cur, ah, hinv, rfl⟩ hinv.rinv.offEnd_le

end DmlcModel.Split
