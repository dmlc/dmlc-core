/-
What `Read`, `ReadChunk` and the loop of `Chunk::Load` read and write, said once: on two states related by any relation `R` that
makes them agree on what these read and survives what these write (`Foot R`), they end alike: the same error, or the same value
and related states.  The instances are the state equivalence of C05, "equal but for `chunk`" and the frame `Kept`.
-/
import DmlcModel.Split.Unfold

namespace DmlcModel.Split
open DmlcModel DmlcModel.Gen.Split

/-- with `ign = true` a `fuel` error (iteration bound of the model) on either side is a wildcard.  This file uses `false` only;
`true` is for the state equivalence of C05, where the two sides may run `Chunk::Load` with different iteration bounds -/
def ERel (ign : Bool) {α β : Type} (R : α → β → Prop) : Except Err α → Except Err β → Prop
  | .ok a, .ok b => R a b
  | .error e1, .error e2 => e1 = e2 ∨ (ign = true ∧ (e1 = .fuel ∨ e2 = .fuel))
  | .error e, .ok _ => ign = true ∧ e = .fuel
  | .ok _, .error e => ign = true ∧ e = .fuel

namespace CleanAux

theorem ERel.cases {ign : Bool} {α β : Type} {R : α → β → Prop} {x : Except Err α} {y : Except Err β}
    (h : ERel ign R x y) :
    (∃ a b, x = .ok a ∧ y = .ok b ∧ R a b) ∨ (∃ e, x = .error e ∧ y = .error e) ∨
    (ign = true ∧ x = .error .fuel) ∨ (ign = true ∧ y = .error .fuel) := by
  cases x with
  | ok a =>
    cases y with
    | ok b => exact Or.inl ⟨a, b, rfl, rfl, h⟩
    | error e => obtain ⟨h1, h2⟩ := h; subst h2; exact Or.inr (Or.inr (Or.inr ⟨h1, rfl⟩))
  | error e =>
    cases y with
    | ok b => obtain ⟨h1, h2⟩ := h; subst h2; exact Or.inr (Or.inr (Or.inl ⟨h1, rfl⟩))
    | error e2 =>
      rcases h with h | ⟨h1, h2 | h2⟩
      · subst h; exact Or.inr (Or.inl ⟨e, rfl, rfl⟩)
      · subst h2; exact Or.inr (Or.inr (Or.inl ⟨h1, rfl⟩))
      · subst h2; exact Or.inr (Or.inr (Or.inr ⟨h1, rfl⟩))

theorem ERel.fuel_left {ign : Bool} {α β : Type} {R : α → β → Prop} (hi : ign = true)
    (y : Except Err β) : ERel ign R (.error .fuel : Except Err α) y := by
  cases y with
  | ok b => exact ⟨hi, rfl⟩
  | error e => exact Or.inr ⟨hi, Or.inl rfl⟩

theorem ERel.fuel_right {ign : Bool} {α β : Type} {R : α → β → Prop} (hi : ign = true)
    (x : Except Err α) : ERel ign R x (.error .fuel : Except Err β) := by
  cases x with
  | ok b => exact ⟨hi, rfl⟩
  | error e => exact Or.inr ⟨hi, Or.inr rfl⟩

theorem ERel.err {ign : Bool} {α β : Type} {R : α → β → Prop} (e : Err) :
    ERel ign R (.error e : Except Err α) (.error e : Except Err β) := Or.inl rfl

theorem ERel.mono {ign : Bool} {α β : Type} {R Q : α → β → Prop} {x : Except Err α} {y : Except Err β}
    (h : ERel ign R x y) (hq : ∀ a b, R a b → Q a b) : ERel ign Q x y :=
  match x, y, h with
  | .ok _, .ok _, h => hq _ _ h
  | .ok _, .error _, h => h
  | .error _, .ok _, h => h
  | .error _, .error _, h => h

theorem ERel.weaken {ign : Bool} {α β : Type} {R : α → β → Prop} {x : Except Err α} {y : Except Err β}
    (h : ERel false R x y) : ERel ign R x y := by
  cases x <;> cases y <;> simp [ERel] at h ⊢ <;> first | exact h | exact Or.inl h

theorem ERel_false_iff {α β : Type} {R : α → β → Prop} {x : Except Err α} {y : Except Err β} :
    ERel false R x y ↔
      (match x, y with
       | .ok a, .ok b => R a b
       | .error e1, .error e2 => e1 = e2
       | _, _ => False) := by
  cases x <;> cases y <;> simp [ERel]

theorem ERel.bind {ign : Bool} {α β γ δ : Type} {R : α → β → Prop} {Q : γ → δ → Prop}
    {x : Except Err α} {y : Except Err β} (h : ERel ign R x y)
    {f : Except Err α → Except Err γ} {g : Except Err β → Except Err δ}
    (hk : ∀ a b, R a b → ERel ign Q (f (.ok a)) (g (.ok b)))
    (hf : ∀ e, f (.error e) = .error e := by intros; rfl) (hg : ∀ e, g (.error e) = .error e := by intros; rfl) :
    ERel ign Q (f x) (g y) := by
  rcases ERel.cases h with ⟨a, b, rfl, rfl, hR⟩ | ⟨e, rfl, rfl⟩ | ⟨hi, rfl⟩ | ⟨hi, rfl⟩
  · exact hk a b hR
  · rw [hf, hg]; exact ERel.err e
  · rw [hf]; exact ERel.fuel_left hi _
  · rw [hg]; exact ERel.fuel_right hi _

end CleanAux
open CleanAux

/-- related states agree on what `Read` … `Chunk::Load` read, and stay related when both get the same read position or the same
carry-over, which is all these write -/
structure Foot (R : Base → Base → Prop) : Prop where
  reads : ∀ {s t}, R s t → s.files = t.files ∧ s.offBegin = t.offBegin ∧ s.offEnd = t.offEnd ∧ s.overflow = t.overflow ∧
    (s.offEnd ≤ s.offBegin ∨ (s.offCurr = t.offCurr ∧ s.filePtr = t.filePtr ∧ s.fpos = t.fpos))
  pos : ∀ {s t}, R s t → ∀ fp p oc,
    R { s with filePtr := fp, fpos := p, offCurr := oc } { t with filePtr := fp, fpos := p, offCurr := oc }
  ov : ∀ {s t}, R s t → ∀ o, R { s with overflow := o } { t with overflow := o }

def ResRel (R : Base → Base → Prop) {α : Type} (a b : α × Base) : Prop := a.1 = b.1 ∧ R a.2 b.2

theorem read_rel {R : Base → Base → Prop} (hR : Foot R) (F : Fmt) {s t : Base} (h : R s t) (size : Nat) :
    ERel false (ResRel R) (read F s size) (read F t size) := by
  obtain ⟨h1, h2, h3, -, h7⟩ := hR.reads h
  obtain ⟨sf, sb, se, sc, sp, sq, sk, so, sw⟩ := s
  obtain ⟨tf, tb, te, tc, tp, tq, tk, to, tw⟩ := t
  simp only [] at h1 h2 h3 h7
  subst h1 h2 h3
  by_cases hemp : se ≤ sb
  · rw [read_empty F _ size hemp, read_empty F _ size hemp]
    exact ⟨rfl, h⟩
  · obtain ⟨rfl, rfl, rfl⟩ := h7.resolve_left hemp
    cases sq with
    | none =>
      rw [read_closed F _ size rfl, read_closed F _ size rfl]
      exact ⟨rfl, h⟩
    | some pos =>
      rw [read_open F _ size rfl hemp, read_open F _ size rfl hemp]
      simp only []
      generalize (if rdClip sc size se = true then rdClipped sc se else size) = sz
      split
      · exact ⟨rfl, h⟩
      · split
        · exact ERel.err _
        · exact ⟨rfl, hR.pos h _ _ _⟩

theorem readChunk_rel {R : Base → Base → Prop} (hR : Foot R) (F : Fmt) {s t : Base} (h : R s t) (m : Nat) :
    ERel false (ResRel R) (readChunk F s m) (readChunk F t m) := by
  rw [readChunk_eq, readChunk_eq, ← show s.overflow = t.overflow from (hR.reads h).2.2.2.1]
  split
  · exact ⟨rfl, h⟩
  · have hx := read_rel hR F (hR.ov h []) (rcReadSize m s.overflow.length)
    generalize read F { s with overflow := [] } (rcReadSize m s.overflow.length) = x,
      read F { t with overflow := [] } (rcReadSize m s.overflow.length) = y at hx ⊢
    apply ERel.bind hx
    rintro ⟨bytes, s1⟩ ⟨_, t1⟩ ⟨hb, hst⟩
    cases hb
    simp only []
    split
    · exact ⟨rfl, hst⟩
    · split
      · exact ⟨rfl, hst⟩
      · cases F.findLastRecordBegin (rcBuf F s.overflow bytes) with
        | error e => exact ERel.err _
        | ok cut => exact ⟨rfl, hR.ov hst _⟩

/-- `a.1 ≠ some []`: a chunk that is handed out is not empty -/
def LoopRel (R : Base → Base → Prop) (a b : Option Bytes × Base × Nat) : Prop :=
  a.1 = b.1 ∧ R a.2.1 b.2.1 ∧ a.2.2 = b.2.2 ∧ a.1 ≠ some []

attribute [local irreducible] readChunk in
theorem loadLoop_rel {R : Base → Base → Prop} (hR : Foot R) (F : Fmt) : ∀ (fuel : Nat) {s t : Base} (dw : Nat), R s t →
    ERel false (LoopRel R) (loadLoop F fuel s dw) (loadLoop F fuel t dw) := by
  intro fuel
  induction fuel with
  | zero => intro s t dw _; exact ERel.err _
  | succ fuel ih =>
    intro s t dw h
    rw [loadLoop_succ, loadLoop_succ]
    have hx := readChunk_rel hR F h (loadSize dw)
    generalize readChunk F s (loadSize dw) = x, readChunk F t (loadSize dw) = y at hx ⊢
    apply ERel.bind hx
    rintro ⟨o, s1⟩ ⟨_, t1⟩ ⟨ho, hst⟩
    cases ho
    rcases o with _ | _ | _
    · exact ⟨rfl, hst, rfl, nofun⟩
    · exact ih _ hst
    · exact ⟨rfl, hst, rfl, nofun⟩

/-- what `Read`, `ReadChunk` and `Chunk::Load` never touch -/
structure Kept (s s' : Base) : Prop where
  files : s'.files = s.files
  offBegin : s'.offBegin = s.offBegin
  offEnd : s'.offEnd = s.offEnd
  chunk : s'.chunk = s.chunk
  bufWords : s'.bufWords = s.bufWords

theorem Kept.refl (s : Base) : Kept s s := ⟨rfl, rfl, rfl, rfl, rfl⟩

theorem Kept.trans {s t u : Base} (h : Kept s t) (g : Kept t u) : Kept s u :=
  ⟨g.files.trans h.files, g.offBegin.trans h.offBegin, g.offEnd.trans h.offEnd, g.chunk.trans h.chunk,
    g.bufWords.trans h.bufWords⟩

theorem foot_kept (s0 : Base) : Foot fun s t => s = t ∧ Kept s0 s :=
  ⟨fun h => by cases h.1; exact ⟨rfl, rfl, rfl, rfl, Or.inr ⟨rfl, rfl, rfl⟩⟩,
   fun ⟨e, k⟩ _ _ _ => by cases e; exact ⟨rfl, k.files, k.offBegin, k.offEnd, k.chunk, k.bufWords⟩,
   fun ⟨e, k⟩ _ => by cases e; exact ⟨rfl, k.files, k.offBegin, k.offEnd, k.chunk, k.bufWords⟩⟩

theorem readChunk_kept (F : Fmt) (s : Base) (m : Nat) (r : Option Bytes) (s' : Base)
    (h : readChunk F s m = .ok (r, s')) : Kept s s' := by
  have := readChunk_rel (foot_kept s) F ⟨rfl, Kept.refl s⟩ m
  rw [h] at this
  exact this.2.2

theorem loadLoop_kept (F : Fmt) (fuel : Nat) (s : Base) (dw : Nat) (r : Option Bytes) (s' : Base) (dw' : Nat)
    (h : loadLoop F fuel s dw = .ok (r, s', dw')) : Kept s s' ∧ r ≠ some [] := by
  have := loadLoop_rel (foot_kept s) F fuel dw ⟨rfl, Kept.refl s⟩
  rw [h] at this
  exact ⟨this.2.1.2, this.2.2.2⟩

attribute [local irreducible] loadLoop in
theorem load_kept (F : Fmt) (s : Base) (c : Chunk) (ok : Bool) (s' : Base) (c' : Chunk)
    (h : load F s c = .ok (ok, s', c')) : Kept s s' ∧ (ok = true → c'.rest ≠ []) := by
  rw [load_unfold] at h
  generalize hx : loadLoop F (loadFuel s) s (loadResize s.bufWords) = x at h
  rcases x with _ | ⟨_ | bytes, s1, dw⟩ <;> cases h <;> have := loadLoop_kept F _ _ _ _ _ _ hx
  · exact ⟨this.1, nofun⟩
  · exact ⟨this.1, fun _ e => this.2 (congrArg some e)⟩

end DmlcModel.Split
