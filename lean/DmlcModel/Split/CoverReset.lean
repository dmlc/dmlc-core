/-
Assembly layer of C05: what `resetPartition` does to ANY state (`resetPartition_facts`: no hypothesis), two states after
`ResetPartition` / `BeforeFirst` against a clean state, the constructor path, the frame (only `ResetPartition` changes the byte
range), the exhaustion of an empty part.  The wrapper is read off the base's loop through `wrapLoop_view` / `wrapNext_view`.
-/
import DmlcModel.Split.CleanLemmas
import DmlcModel.Split.FixLemmas
import DmlcModel.Split.CoverText

namespace DmlcModel.Split
open DmlcModel DmlcModel.Gen.Split

namespace ResetAux
open CleanAux SnapAux CoverAux

/-! ### 1. what `resetPartition` does to any state -/

theorem mem_length_le_totalSize (files : List Bytes) : ∀ f ∈ files, f.length ≤ totalSize files := by
  induction files with
  | nil => intro f hf; cases hf
  | cons g gs ih =>
    intro f hf
    rw [totalSize_cons]
    rcases List.mem_cons.1 hf with rfl | hf
    · omega
    · have := ih f hf; omega

theorem resetPartition_facts (F : Fmt) (s s' : Base) (k n : Nat) (h : resetPartition F s k n = .ok s') :
    s'.files = s.files ∧ s'.bufWords = s.bufWords ∧
    s'.chunk.rest = [] ∧ s'.overflow = [] ∧ beforeFirst s' = .ok s' ∧
    (s'.offBegin ≤ totalSize s.files ∨
      ∃ f q m c, f ∈ s.files ∧ F.seekRecordBegin (f.drop q) = .ok (m, c) ∧
        s'.offBegin ≤ totalSize s.files + m) := by
  have hid := resetPartition_idem F s s' k n h
  obtain ⟨ob, hob, rfl | ⟨ob', oe', fp, pos, hob', hbf⟩⟩ := resetPartition_inv F s s' k n h
  · exact ⟨rfl, rfl, rfl, rfl, hid, Or.inl hob⟩
  · obtain ⟨f1, f2, _, f4, f6, f7⟩ := beforeFirst_frame _ _ hbf
    refine ⟨f1, f4, f6, f7, hid, ?_⟩
    rw [f2]
    rcases hob' with rfl | ⟨f, q, m, c, hf, hq, rfl⟩
    · exact Or.inl hob
    · exact Or.inr ⟨f, q, m, c, hf, hq, by show ob + m ≤ _; omega⟩

/-- `2^63`: the raw offset is at most `totalSize`, and `SeekRecordBegin` advances it by at most the length of one file -/
theorem resetPartition_offBegin_lt (F : Fmt) (hS : SeekOk F) (s s' : Base) (k n : Nat)
    (ht : totalSize s.files < 2^63) (h : resetPartition F s k n = .ok s') : s'.offBegin < 2^64 := by
  obtain ⟨_, _, _, _, _, hb⟩ := resetPartition_facts F s s' k n h
  rcases hb with hb | ⟨f, q, m, c, hf, hq, hb⟩
  · omega
  · have h1 := (hS.1 _ _ _ hq).1
    have h2 := mem_length_le_totalSize s.files f hf
    rw [List.length_drop] at h1
    omega

/-! ### 2. `resetPartition` never reads the buffer size -/

theorem beforeFirst_setBuf (s : Base) (w : Nat) :
    beforeFirst { s with bufWords := w } = mkBaseK w (beforeFirst s) := by
  rw [beforeFirst_eq, beforeFirst_eq]
  simp only []
  split
  · rw [bfEmptyClears_true, if_pos rfl, if_pos rfl]
    rfl
  · cases s.fpos with
    | none => rfl
    | some p =>
      simp only []
      split <;> rfl

theorem resetPartition_setBuf (F : Fmt) (s : Base) (w k n : Nat) :
    resetPartition F { s with bufWords := w } k n = mkBaseK w (resetPartition F s k n) := by
  obtain ⟨ob, _, h⟩ := resetPartition_rel F s { s with bufWords := w } k n rfl
  generalize resetPartition F s k n = x, resetPartition F { s with bufWords := w } k n = y at h ⊢
  cases h with
  | err e => rfl
  | early => rfl
  | seek ob' oe' fp pos _ => exact beforeFirst_setBuf { s with offBegin := ob', offEnd := oe', offCurr := ob, filePtr := fp, fpos := some pos } w

/-! ### 3. `step` on the two operations -/

theorem clearWrap_chunk (x : Option Wrap) (w : Wrap) (h : clearWrap x = some w) : w.chunk = none := by
  cases x with
  | none => cases h
  | some v => injection h with h; subst h; rfl

theorem wrapEquiv_refl (x : Option Wrap) : WrapEquiv x x := by
  cases x with
  | none => trivial
  | some v =>
    refine ⟨rfl, ?_⟩
    cases v.chunk with
    | none => trivial
    | some c => exact chunkEquiv_refl c

theorem step_beforeFirst_inv (F : Fmt) (s s' : St) (h : step F s .beforeFirst = (s', .done)) :
    ∃ b, beforeFirst s.base = .ok b ∧ s' = { base := b, wrap := clearWrap s.wrap } :=
  resetOut_done (step_beforeFirst F s ▸ h)

theorem step_reset_inv (F : Fmt) (s s' : St) (k n : Nat) (h : step F s (.reset k n) = (s', .done)) :
    ∃ b, resetPartition F s.base k n = .ok b ∧ s' = { base := b, wrap := clearWrap s.wrap } :=
  resetOut_done (step_reset F s k n ▸ h)

theorem step_reset_ok (F : Fmt) (s : St) (k n : Nat) (b : Base) (hb : resetPartition F s.base k n = .ok b) :
    step F s (.reset k n) = ({ base := b, wrap := clearWrap s.wrap }, .done) := by
  rw [step_reset, hb]; rfl

end ResetAux
open ResetAux CleanAux CoverAux

/-! ### 4. two states after `ResetPartition`; `BeforeFirst` against a clean state -/

theorem reset_two (F : Fmt) (s t b : Base) (k n : Nat) (hfiles : t.files = s.files)
    (hbw : t.bufWords = s.bufWords) (hb : resetPartition F s k n = .ok b) :
    ∃ f, resetPartition F t k n = .ok f ∧ EquivG false b f := by
  have h := resetPartition_core F s t k n hfiles.symm hbw.symm
  rw [hb] at h
  cases hf : resetPartition F t k n with
  | error e => rw [hf] at h; exact absurd h.1 (by decide)
  | ok f => rw [hf] at h; exact ⟨f, rfl, h⟩

theorem beforeFirst_vs_clean (s s' t : Base) (h : beforeFirst s = .ok s')
    (hlt : s.offBegin < s.offEnd → s.offBegin < 2^64) (ht : Clean t) (hfiles : t.files = s.files)
    (hb : t.offBegin = s.offBegin) (he : t.offEnd = s.offEnd) (hw : t.bufWords = s.bufWords) :
    Equiv s' t ∧ (s.offBegin < s.offEnd → s'.offCurr = t.offCurr) := by
  obtain ⟨c2, c3, c4, c5, _⟩ := beforeFirst_frame s s' h
  refine ⟨clean_equiv s' t (beforeFirst_clean s s' h hlt) ht (c2.trans hfiles.symm) (c3.trans hb.symm)
    (c4.trans he.symm) (c5.trans hw.symm), fun hne => ?_⟩
  -- `s'.offCurr` is `s.offCurr` or `s.offBegin`, `t.offCurr` is `t.offBegin` unless `t`'s part is empty: three of the four
  -- combinations contradict `hne` (with `hb`, `he`), the last is `hb`
  rcases beforeFirst_inv s s' h with ⟨_, rfl⟩ | ⟨_, rfl⟩ <;> rcases ht.2.2 with h3 | ⟨h3, _⟩
  · omega
  · omega
  · omega
  · exact (h3.trans hb).symm

theorem beforeFirst_eq_clean (F : Fmt) (hF : ExtractNoneIff F) (s s' : St)
    (h : step F s .beforeFirst = (s', .done)) (hne : s.base.offBegin < s.base.offEnd)
    (hlt : s.base.offBegin < 2^64)
    (t : St) (ht : Clean t.base) (hfiles : t.base.files = s.base.files)
    (hb : t.base.offBegin = s.base.offBegin) (he : t.base.offEnd = s.base.offEnd)
    (hw : t.base.bufWords = s.base.bufWords) (hwrap : WrapEquiv s'.wrap t.wrap)
    (pick : Nat → Bool) : (drain F pick s').2 = (drain F pick t).2 := by
  obtain ⟨b, hbf, rfl⟩ := step_beforeFirst_inv F s s' h
  obtain ⟨hE, h1⟩ := beforeFirst_vs_clean s.base b t.base hbf (fun _ => hlt) ht hfiles hb he hw
  exact drain_equiv_strict F hF _ t ⟨hE, hwrap⟩ (h1 hne) pick

/-- without the side condition on the read position of an empty part: equal outcomes unless one side reports `fuel` -/
theorem beforeFirst_eq_clean_any (F : Fmt) (hF : ExtractNoneIff F) (s s' : St)
    (h : step F s .beforeFirst = (s', .done))
    (hlt : s.base.offBegin < s.base.offEnd → s.base.offBegin < 2^64)
    (t : St) (ht : Clean t.base) (hfiles : t.base.files = s.base.files)
    (hb : t.base.offBegin = s.base.offBegin) (he : t.base.offEnd = s.base.offEnd)
    (hw : t.base.bufWords = s.base.bufWords) (hwrap : WrapEquiv s'.wrap t.wrap)
    (pick : Nat → Bool) :
    (drain F pick s').2 = .error .fuel ∨ (drain F pick t).2 = .error .fuel ∨
      (drain F pick s').2 = (drain F pick t).2 := by
  obtain ⟨b, hbf, rfl⟩ := step_beforeFirst_inv F s s' h
  exact drain_equiv F hF _ t ⟨(beforeFirst_vs_clean s.base b t.base hbf hlt ht hfiles hb he hw).1, hwrap⟩ pick

theorem mkSt_inv (F : Fmt) (files : List Bytes) (k n w dw : Nat) (wrapped : Bool) (fresh : St)
    (h : mkSt F files k n w wrapped dw = .ok fresh) :
    ∃ b, resetPartition F (blank (files.filter (fun f => !f.isEmpty)) dw) k n = .ok b ∧
      fresh.base = { b with bufWords := w } ∧
      fresh.wrap = if wrapped then some { bufWords := dw } else none := by
  rw [mkSt_unfold] at h
  split at h
  · cases h
  · split at h
    · cases h
    · cases hr : resetPartition F (blank (files.filter (fun f => !f.isEmpty)) dw) k n with
      | error e => rw [hr] at h; cases h
      | ok b =>
        rw [hr] at h
        injection h with h
        subst h
        exact ⟨b, rfl, rfl, rfl⟩

theorem reset_text_inv (files : List Bytes) (hne : ∀ f ∈ files, f ≠ [] ∧ NulFree f)
    (ht : totalSize files < 2^55) (s s' : St) (hs : s.base.files = files) (hbare : s.wrap = none)
    (hbw : s.base.bufWords < 2^56) (k n : Nat) (hk : k < n) (hn : n < 2^32)
    (h : step Fmt.text s (.reset k n) = (s', .done)) :
    s'.wrap = none ∧ TInv s'.base ∧
      tailT s'.base = rangeStream true files (bndT files n k) (bndT files n (k + 1)) := by
  subst hs
  have hne1 : ∀ f ∈ s.base.files, f ≠ [] := fun f hf => (hne f hf).1
  obtain ⟨b, hb, rfl⟩ := step_reset_inv Fmt.text s s' k n h
  obtain ⟨b', hb', hC, hR, hF, hB, _, hrg⟩ :=
    resetPartition_bnd Fmt.text (Or.inl rfl) s.base k n hne1 (clearsOk_fixed _) (by omega) hk hn _ _
      (bnd_text_eq s.base.files n k) (bnd_text_eq s.base.files n (k + 1)) (bndT_le s.base.files n (k + 1))
  obtain rfl : b = b' := Except.ok.inj (hb.symm.trans hb')
  obtain ⟨hT, htl⟩ := TInv_of_clean_files b hR hC (hF ▸ hne) (hF ▸ ht) (hB ▸ hbw)
  exact ⟨by show clearWrap s.wrap = none; rw [hbare]; rfl, hT,
    htl.trans ((pending_of_clean_fmt Fmt.text b hC _ _ hrg).trans (by rw [hF]; rfl))⟩

theorem reset_text_lines (files : List Bytes) (hne : ∀ f ∈ files, f ≠ [] ∧ NulFree f)
    (ht : totalSize files < 2^55) (s s' : St) (hs : s.base.files = files) (hbare : s.wrap = none)
    (hbw : s.base.bufWords < 2^56) (k n : Nat) (hk : k < n) (hn : n < 2^32)
    (h : step Fmt.text s (.reset k n) = (s', .done)) (pick : Nat → Bool) :
    ∃ bs s'', drain Fmt.text pick s' = (s'', .ok bs) ∧
      bs.flatMap canon = lines (rangeStream true files (bndT files n k) (bndT files n (k + 1))) ∧
      (∀ i b, bs[i]? = some b → b ≠ [] ∧ (pick i = false → EndsEol b)) := by
  obtain ⟨hw, hT, htl⟩ := reset_text_inv files hne ht s s' hs hbare hbw k n hk hn h
  obtain ⟨bs, s'', hd, h1, h2, _⟩ := drain_text_correct s' hw hT pick
  exact ⟨bs, s'', hd, by rw [h1, htl], fun i b hb => ⟨(h2 i b hb).1, fun hp => ((h2 i b hb).2.2 hp).1⟩⟩

/-! ### 5. no operation other than `ResetPartition` changes the byte range -/

/-- the conclusion of `C05_range_stable` (Props/C05.lean), hence an `∧`-chain -/
def SameRange (s s' : Base) : Prop :=
  s'.files = s.files ∧ s'.offBegin = s.offBegin ∧ s'.offEnd = s.offEnd

namespace ResetAux

theorem SameRange.refl (s : Base) : SameRange s s := ⟨rfl, rfl, rfl⟩

theorem SameRange.trans {s t u : Base} (h : SameRange s t) (g : SameRange t u) : SameRange s u :=
  ⟨g.1.trans h.1, g.2.1.trans h.2.1, g.2.2.trans h.2.2⟩

theorem Kept.range {s s' : Base} (h : Kept s s') : SameRange s s' := ⟨h.files, h.offBegin, h.offEnd⟩

attribute [local irreducible] load in
theorem nextLoop_range (F : Fmt) (ext : Chunk → Except Err (Option (Bytes × Chunk))) :
    ∀ (fuel : Nat) (s : Base) (r : Option Bytes) (s' : Base), nextLoop F ext fuel s = .ok (r, s') →
      SameRange s s' := by
  intro fuel
  induction fuel with
  | zero => intro s r s' h; rw [nextLoop_zero] at h; cases h
  | succ fuel ih =>
    intro s r s' h
    rw [nextLoop_succ] at h
    generalize ext s.chunk = x at h
    generalize hl : load F s s.chunk = l at h
    rcases x with _ | _ | ⟨b, c⟩
    · cases h
    · rcases l with _ | ⟨_ | _, s1, c1⟩
      · cases h
      · have h1 := Kept.range (load_kept F _ _ _ _ _ hl).1
        cases h
        exact h1
      · have h1 := Kept.range (load_kept F _ _ _ _ _ hl).1
        exact SameRange.trans h1 (ih { s1 with chunk := c1 } _ _ h)
    · cases h; exact SameRange.refl _

theorem map_toW_range {F : Fmt} {ext : Chunk → Except Err (Option (Bytes × Chunk))} {fuel : Nat} {b b' : Base}
    {w w' : Wrap} {c : Chunk} {r : Option Bytes}
    (h : (nextLoop F ext fuel { b with chunk := c }).map (toW b w) = .ok (r, b', w')) : SameRange b b' := by
  generalize hx : nextLoop F ext fuel { b with chunk := c } = x at h
  rcases x with e | ⟨r1, s1⟩
  · cases h
  · cases h
    exact (nextLoop_range F ext fuel _ _ _ hx : SameRange { b with chunk := c } s1)

attribute [local irreducible] load wrapLoop nextLoop in
theorem wrapNext_range (F : Fmt) (ext : Chunk → Except Err (Option (Bytes × Chunk)))
    (b : Base) (w : Wrap) (r : Option Bytes) (b' : Base) (w' : Wrap)
    (h : wrapNext F ext b w = .ok (r, b', w')) : SameRange b b' := by
  rw [wrapNext_unfold] at h
  unfold wrapStart at h
  split at h
  · rw [wrapLoop_view] at h
    exact map_toW_range h
  · rw [wrapProduce_unfold] at h
    generalize hl : load F b (wpChunk w) = l at h
    rcases l with e | ⟨_ | _, b1, c1⟩
    · cases h
    · cases h
      exact Kept.range (load_kept F _ _ _ _ _ hl).1
    · simp only [wrapStep, wrapFin] at h
      rw [wrapLoop_view] at h
      exact SameRange.trans (Kept.range (load_kept F _ _ _ _ _ hl).1) (map_toW_range h)

attribute [local irreducible] nextLoop wrapNext beforeFirst resetPartition in
theorem step_range (F : Fmt) (s : St) (op : Op) (hop : ∀ k n, op ≠ .reset k n) :
    SameRange s.base (step F s op).1.base := by
  have next : ∀ rec : Bool, SameRange s.base (step F s (if rec then .nextRec else .nextChunk)).1.base := by
    intro rec
    rw [step_next]
    cases s.wrap with
    | none =>
      simp only []
      cases hx : nextLoop F (extOf F rec) 3 s.base with
      | error e => exact SameRange.refl _
      | ok v => exact nextLoop_range F _ 3 _ _ _ hx
    | some w =>
      simp only []
      cases hx : wrapNext F (extOf F rec) s.base w with
      | error e => exact SameRange.refl _
      | ok v => exact wrapNext_range F _ _ _ _ _ _ hx
  cases op with
  | nextRec => exact next true
  | nextChunk => exact next false
  | hint m =>
    rw [step_hint]
    cases s.wrap <;> exact SameRange.refl _
  | beforeFirst =>
    rw [step_beforeFirst]
    unfold resetOut
    cases hx : beforeFirst s.base with
    | error e => exact SameRange.refl _
    | ok b =>
      obtain ⟨h1, h2, h3, _⟩ := beforeFirst_frame _ _ hx
      exact ⟨h1, h2, h3⟩
  | reset k n => exact absurd rfl (hop k n)

/-! ### 6. an empty part with nothing buffered is exhausted at once -/

/-- a doubled buffer has room: twice a size is even, so one less is not a multiple of `2^62` -/
theorem loadSize_grow (dw : Nat) : rcTooSmall (loadSize (loadGrow dw)) 0 = false := by
  simp only [rcTooSmall, decide_eq_false_iff_not]
  unfold loadSize loadGrow u64 sub64
  omega

def Exhausted (s : Base) : Prop := s.offEnd ≤ s.offBegin ∧ s.overflow = []

theorem readChunk_empty (F : Fmt) (s : Base) (m : Nat) (h : Exhausted s) :
    readChunk F s m = if rcTooSmall m 0 then .ok (some [], s) else .ok (none, s) := by
  obtain ⟨files, ob, oe, oc, fp, fpos, chunk, ov, bw⟩ := s
  obtain ⟨he, rfl⟩ := h
  rw [readChunk_eq, rcTooSmall_spec]
  simp only [List.length_nil, decide_eq_true_eq]
  split
  · rfl
  · rw [read_empty F _ _ he]
    rfl

attribute [local irreducible] loadLoop readChunk in
theorem load_empty (F : Fmt) (s : Base) (c : Chunk) (h : Exhausted s) :
    ∃ dw', load F s c = .ok (false, s, { c with dataWords := dw' }) := by
  have e : loadFuel s = (s.overflow.length + (s.offEnd - s.offCurr) + s.files.length + 2) + 1 + 1 := rfl
  rw [load_unfold, e, loadLoop_succ, readChunk_empty F s _ h]
  by_cases h1 : rcTooSmall (loadSize (loadResize s.bufWords)) 0 = true
  · rw [if_pos h1, loadStep, loadLoop_succ, readChunk_empty F s _ h, loadSize_grow]
    exact ⟨_, rfl⟩
  · rw [if_neg h1]
    exact ⟨_, rfl⟩

attribute [local irreducible] load in
theorem nextLoop_empty (F : Fmt) (ext : Chunk → Except Err (Option (Bytes × Chunk))) (s : Base) (fuel : Nat)
    (hext : ext s.chunk = .ok none) (h : Exhausted s) :
    ∃ dw', nextLoop F ext (fuel + 1) s = .ok (none, { s with chunk := { s.chunk with dataWords := dw' } }) := by
  obtain ⟨dw', hl⟩ := load_empty F s s.chunk h
  exact ⟨dw', by rw [nextLoop_succ, hext, hl]; rfl⟩

def ExhaustedSt (s : St) : Prop :=
  Exhausted s.base ∧ s.base.chunk.rest = [] ∧ ∀ w c, s.wrap = some w → w.chunk = some c → c.rest = []

attribute [local irreducible] nextLoop in
theorem step_eof (F : Fmt) (hF : ExtractNoneIff F) (s : St) (h : ExhaustedSt s) (rec : Bool) :
    ∃ s', step F s (if rec then .nextRec else .nextChunk) = (s', .eof) := by
  have hN : ∀ c, extOf F rec c = .ok none ↔ c.rest = [] := by
    cases rec
    · exact extractChunk_none_iff
    · exact hF
  obtain ⟨h1, h2, h3⟩ := h
  have hv : s.view.chunk.rest = [] := by
    unfold St.view
    cases hw : s.wrap with
    | none => exact h2
    | some w =>
      show (wpChunk w).rest = []
      unfold wpChunk
      cases hc : w.chunk with
      | none => rfl
      | some c => exact h3 w c hw hc
  have he : Exhausted s.view := by
    unfold St.view
    cases s.wrap <;> exact h1
  obtain ⟨dw', hl⟩ := nextLoop_empty F _ s.view 2 ((hN _).2 hv) he
  rw [step_next_view F s rec (fun _ => hN), hl]
  unfold St.unview
  cases s.wrap <;> exact ⟨_, rfl⟩

end ResetAux

attribute [local irreducible] drainGo step in
theorem drain_exhausted (F : Fmt) (hF : ExtractNoneIff F) (s : St) (h : ExhaustedSt s) (pick : Nat → Bool) :
    (drain F pick s).2 = .ok [] := by
  have hpos : drainFuel s ≠ 0 := by unfold drainFuel; omega
  obtain ⟨f, hf⟩ := Nat.exists_eq_succ_of_ne_zero hpos
  unfold drain
  obtain ⟨s', hs⟩ := step_eof F hF s h (pick 0)
  rw [hf, drainGo_succ, hs]
  rfl

theorem wrapEquiv_clear_rest (x y : Option Wrap) (h : WrapEquiv (clearWrap x) y) :
    ∀ w c, y = some w → w.chunk = some c → c.rest = [] := by
  intro w c hy hc
  subst hy
  cases x with
  | none => exact False.elim h
  | some v =>
    obtain ⟨wc, wb⟩ := w
    simp only [] at hc
    subst hc
    exact h.2

end DmlcModel.Split
