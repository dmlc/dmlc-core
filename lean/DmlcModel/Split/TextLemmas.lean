/-
The TEXT record format (`LineSplitter`).  The record at the start of a byte string is `RecShape`: a line, the EOL run after it,
the rest; `ExtractNextRecord` consumes it and `SeekRecordBegin` skips it, so cutting behind a record cuts no line.  What an
`Extract` function did to a chunk is `Took`.
-/
import DmlcModel.Split.Defs
namespace DmlcModel.Split
open DmlcModel DmlcModel.Gen.Split

theorem byte_toNat_beq (b : Byte) (n : Nat) (hn : n < 256) : (b.toNat == n) = (b == UInt8.ofNat n) := by
  rw [Bool.eq_iff_iff]
  simp only [beq_iff_eq]
  constructor
  · intro h; apply UInt8.toNat_inj.mp; simp [h]; omega
  · intro h; subst h; simp; omega

theorem lsLastIsEol_iff (b : Byte) : lsLastIsEol b.toNat = isEol b := by
  simp only [lsLastIsEol, isEol, byte_toNat_beq b 10 (by decide), byte_toNat_beq b 13 (by decide)]
  rfl
theorem lsExtIsEol_iff (b : Byte) : lsExtIsEol b.toNat = isEol b := lsLastIsEol_iff b
theorem lsExtNotEol_iff (b : Byte) : lsExtNotEol b.toNat = !isEol b := by
  simp only [lsExtNotEol, isEol, bne, byte_toNat_beq b 10 (by decide), byte_toNat_beq b 13 (by decide), Bool.not_or]
  rfl
theorem lsSeekIsEol_iff (b : Byte) : lsSeekIsEol b.toNat = isEol b := lsLastIsEol_iff b
theorem lsSeekNotEol_iff (b : Byte) : lsSeekNotEol b.toNat = !isEol b := lsExtNotEol_iff b

/-! ### algebra of `fields` / `lines` / `canon` -/

theorem fields_nil (sep : Byte → Bool) : fields sep [] = [] := rfl

theorem fieldsGo_append_sep (sep : Byte → Bool) (x : Bytes) (a : Byte) (y cur : Bytes) (ha : sep a = true) :
    fieldsGo sep (x ++ a :: y) cur = fieldsGo sep x cur ++ fieldsGo sep y [] := by
  induction x generalizing cur with
  | nil =>
    simp only [List.nil_append, fieldsGo, ha, if_true]
    by_cases hc : cur.isEmpty <;> simp [hc]
  | cons c x ih =>
    simp only [List.cons_append, fieldsGo]
    by_cases hs : sep c
    · simp only [hs, if_true]
      by_cases hc : cur.isEmpty <;> simp [hc, ih]
    · simp only [hs]
      simp [ih]

theorem fields_append_sep (sep : Byte → Bool) (x : Bytes) (a : Byte) (y : Bytes) (ha : sep a = true) :
    fields sep (x ++ a :: y) = fields sep x ++ fields sep y := fieldsGo_append_sep sep x a y [] ha

theorem fields_snoc_sep (sep : Byte → Bool) (a : Bytes) (e : Byte) (he : sep e = true) :
    fields sep (a ++ [e]) = fields sep a := by
  rw [fields_append_sep sep a e [] he, fields_nil, List.append_nil]

theorem fieldsGo_congr (sep1 sep2 : Byte → Bool) (s : Bytes) (h : ∀ b ∈ s, sep1 b = sep2 b) (cur : Bytes) :
    fieldsGo sep1 s cur = fieldsGo sep2 s cur := by
  induction s generalizing cur with
  | nil => rfl
  | cons x s ih =>
    rw [List.forall_mem_cons] at h
    simp only [fieldsGo, h.1, ih h.2]

theorem fieldsGo_append (sep : Byte → Bool) (a b : Bytes) (h : ∀ x ∈ a, sep x = false) (cur : Bytes) :
    fieldsGo sep (a ++ b) cur = fieldsGo sep b (cur ++ a) := by
  induction a generalizing cur with
  | nil => simp
  | cons x a ih =>
    rw [List.forall_mem_cons] at h
    simp [fieldsGo, h.1, ih h.2]

theorem fieldsGo_all_sep (sep : Byte → Bool) (s : Bytes) (h : ∀ b ∈ s, sep b = true) (cur : Bytes) :
    fieldsGo sep s cur = if cur.isEmpty then [] else [cur] := by
  induction s generalizing cur with
  | nil => rfl
  | cons x s ih =>
    rw [List.forall_mem_cons] at h
    simp [fieldsGo, h.1, ih h.2 []]

theorem fields_run_seps (sep : Byte → Bool) (a b : Bytes) (ha : ∀ x ∈ a, sep x = false) (hb : ∀ x ∈ b, sep x = true) :
    fields sep (a ++ b) = if a.isEmpty then [] else [a] := by
  simp only [fields]
  rw [fieldsGo_append sep a b ha, fieldsGo_all_sep sep b hb]
  simp

theorem endsEol_snoc (a : Bytes) (e : Byte) (he : isEol e = true) : EndsEol (a ++ [e]) :=
  Or.inr ⟨a, e, rfl, he⟩

theorem lines_nil : lines [] = [] := rfl

theorem lines_append_eol (x : Bytes) (a : Byte) (y : Bytes) (ha : isEol a = true) :
    lines (x ++ a :: y) = lines x ++ lines y := fields_append_sep isEol x a y ha

theorem lines_snoc_eol (a : Bytes) (e : Byte) (he : isEol e = true) : lines (a ++ [e]) = lines a :=
  fields_snoc_sep isEol a e he
theorem lines_cons_eol (e : Byte) (a : Bytes) (he : isEol e = true) : lines (e :: a) = lines a :=
  lines_append_eol [] e a he

theorem lines_append_of_endsEol (a b : Bytes) (h : EndsEol a) : lines (a ++ b) = lines a ++ lines b := by
  rcases h with rfl | ⟨a', e, rfl, he⟩
  · rfl
  · rw [List.append_assoc, List.singleton_append, lines_append_eol a' e b he, lines_snoc_eol a' e he]

theorem canon_eq_lines (s : Bytes) (h : NulFree s) : canon s = lines s :=
  fieldsGo_congr isSep isEol s (fun b hb => by simp [isSep, h b hb]) []

theorem lines_of_no_eol (s : Bytes) (h : ∀ b ∈ s, isEol b = false) (hne : s ≠ []) : lines s = [s] := by
  show fields isEol s = [s]
  simpa [hne] using fields_run_seps isEol s [] h nofun

theorem lines_line_eols (line eols : Bytes) (hline : ∀ b ∈ line, isEol b = false) (heols : ∀ b ∈ eols, isEol b = true) :
    lines (line ++ eols) = if line.isEmpty then [] else [line] :=
  fields_run_seps isEol line eols hline heols

theorem nulFree_append {a b : Bytes} : NulFree (a ++ b) ↔ NulFree a ∧ NulFree b := List.forall_mem_append

/-! ### records: a line and the EOL run after it -/

theorem exists_first (p : Byte → Bool) (s : Bytes) :
    ∃ a t, s = a ++ t ∧ (∀ b ∈ a, p b = false) ∧ (t = [] ∨ ∃ x c, t = x :: c ∧ p x = true) := by
  induction s with
  | nil => exact ⟨[], [], rfl, nofun, Or.inl rfl⟩
  | cons x s ih =>
    by_cases hx : p x = true
    · exact ⟨[], x :: s, rfl, nofun, Or.inr ⟨x, s, rfl, hx⟩⟩
    · obtain ⟨a, t, rfl, ha, ht⟩ := ih
      exact ⟨x :: a, t, rfl, by simpa [hx] using ha, ht⟩

/-- `s` read as the record `LineSplitter` sees at its start: an EOL-free `line` (possibly empty), the whole
run `eols` of EOL bytes after it (non-empty unless `s` ends with the line), and a `tail` that is empty or
starts with a non-EOL byte -/
structure RecShape (s line eols tail : Bytes) : Prop where
  eq : s = line ++ eols ++ tail
  hline : ∀ b ∈ line, isEol b = false
  heols : ∀ b ∈ eols, isEol b = true
  htail : tail = [] ∨ ∃ a c, tail = a :: c ∧ isEol a = false
  run : eols = [] → tail = []

namespace RecShape
variable {s line eols tail : Bytes} (h : RecShape s line eols tail)
include h

theorem length : s.length = line.length + eols.length + tail.length := by
  rw [h.eq, List.length_append, List.length_append]

theorem take : s.take (line.length + eols.length) = line ++ eols := by
  rw [h.eq]; exact List.take_left' List.length_append

theorem drop : s.drop (line.length + eols.length) = tail := by
  rw [h.eq]; exact List.drop_left' List.length_append

theorem pos (hs : s ≠ []) : 0 < line.length + eols.length := by
  apply Nat.pos_of_ne_zero
  intro h0
  have hl : line = [] := List.eq_nil_of_length_eq_zero (Nat.eq_zero_of_add_eq_zero_right h0)
  have he : eols = [] := List.eq_nil_of_length_eq_zero (Nat.eq_zero_of_add_eq_zero_left h0)
  exact hs (by rw [h.eq, hl, he, h.run he]; rfl)

theorem endsEol (ht : tail ≠ []) : ∃ eols' e, eols = eols' ++ [e] ∧ isEol e = true := by
  rcases List.eq_nil_or_concat eols with he | ⟨eols', e, he⟩
  · exact absurd (h.run he) ht
  · rw [List.concat_eq_append] at he
    exact ⟨eols', e, he, h.heols e (by simp [he])⟩

/-- cutting behind the record cuts no line -/
theorem lines : lines s = lines (line ++ eols) ++ lines tail := by
  rw [h.eq]
  by_cases ht : tail = []
  · rw [ht, List.append_nil, lines_nil, List.append_nil]
  · obtain ⟨eols', e, he, hee⟩ := h.endsEol ht
    apply lines_append_of_endsEol
    rw [he, ← List.append_assoc]
    exact endsEol_snoc _ e hee

end RecShape

theorem exists_recShape (s : Bytes) : ∃ line eols tail, RecShape s line eols tail := by
  obtain ⟨line, t, rfl, hline, ht⟩ := exists_first isEol s
  obtain ⟨eols, tail, rfl, heols, htail⟩ := exists_first (fun b => !isEol b) t
  refine ⟨line, eols, tail, (List.append_assoc ..).symm, hline, by simpa using heols, by simpa using htail, ?_⟩
  rintro rfl
  rcases htail with rfl | ⟨a, c, rfl, ha⟩
  · rfl
  · rcases ht with ht | ⟨x, c', ht, hx⟩
    · cases ht
    · cases ht
      simp [hx] at ha

theorem textLineLen_append (line t : Bytes) (h : ∀ b ∈ line, isEol b = false) :
    textLineLen (line ++ t) = line.length + textLineLen t := by
  induction line with
  | nil => simp
  | cons x l ih =>
    rw [List.forall_mem_cons] at h
    simp [textLineLen, lsExtIsEol_iff, h.1, ih h.2]
    omega

theorem textEolLen_append (eols t : Bytes) (h : ∀ b ∈ eols, isEol b = true) :
    textEolLen (eols ++ t) = eols.length + textEolLen t := by
  induction eols with
  | nil => simp
  | cons x l ih =>
    rw [List.forall_mem_cons] at h
    simp [textEolLen, lsExtNotEol_iff, h.1, ih h.2]
    omega

/-- number of bytes the two loops of `LineSplitter::ExtractNextRecord` consume -/
def recLen (s : Bytes) : Nat := textLineLen s + textEolLen (s.drop (textLineLen s))

theorem RecShape.recLen {s line eols tail : Bytes} (h : RecShape s line eols tail) :
    recLen s = line.length + eols.length := by
  have h1 : textLineLen (eols ++ tail) = 0 := by
    cases eols with
    | nil => rw [h.run rfl]; rfl
    | cons e r => simp [textLineLen, lsExtIsEol_iff, h.heols e List.mem_cons_self]
  have h2 : textEolLen tail = 0 := by
    rcases h.htail with rfl | ⟨a, c, rfl, ha⟩
    · rfl
    · simp [textEolLen, lsExtNotEol_iff, ha]
  have h3 : textLineLen s = line.length := by
    rw [h.eq, List.append_assoc, textLineLen_append line _ h.hline, h1]; rfl
  rw [Split.recLen, h3, h.eq, List.append_assoc, List.drop_left, textEolLen_append eols _ h.heols, h2]
  rfl

/-! ### FindLastRecordBegin -/

theorem textFindLastGo_append (pre t : Bytes) (p : Nat) (hpre : ∀ b ∈ pre, isEol b = false) :
    textFindLastGo (pre ++ t) p = textFindLastGo t (p - pre.length) := by
  induction pre generalizing p with
  | nil => rfl
  | cons x pre ih =>
    rw [List.forall_mem_cons] at hpre
    simp only [List.cons_append, textFindLastGo, lsLastIsEol_iff, hpre.1, Bool.false_eq_true, if_false,
      ih _ hpre.2, List.length_cons]
    congr 1
    omega

theorem textFindLast_eq (hd : Byte) (x y : Bytes) (e : Byte) (he : isEol e = true)
    (hy : ∀ b ∈ y, isEol b = false) : textFindLast (hd :: (x ++ e :: y)) = .ok (x.length + 2) := by
  simp only [textFindLast]
  have hr : (x ++ e :: y).reverse = y.reverse ++ e :: x.reverse := by simp
  rw [hr, textFindLastGo_append _ _ _ (fun b hb => hy b (by simpa using hb))]
  simp only [textFindLastGo, lsLastIsEol_iff, he, if_true, List.length_append, List.length_cons,
    List.length_reverse]
  congr 1
  omega

theorem textFindLast_no_eol (hd : Byte) (tl : Bytes) (h : ∀ b ∈ tl, isEol b = false) :
    textFindLast (hd :: tl) = .ok 0 := by
  have := textFindLastGo_append tl.reverse [] tl.length (fun b hb => h b (by simpa using hb))
  rw [List.append_nil] at this
  rw [textFindLast, this]
  rfl

theorem textFindLast_cases (hd : Byte) (tl : Bytes) :
    (textFindLast (hd :: tl) = .ok 0 ∧ ∀ b ∈ tl, isEol b = false) ∨
    (∃ x e y, tl = x ++ e :: y ∧ isEol e = true ∧ (∀ b ∈ y, isEol b = false) ∧
      textFindLast (hd :: tl) = .ok (x.length + 2)) := by
  obtain ⟨a, t, hr, ha, ht⟩ := exists_first isEol tl.reverse
  have htl : tl = t.reverse ++ a.reverse := by simpa using congrArg List.reverse hr
  have ha' : ∀ b ∈ a.reverse, isEol b = false := fun b hb => ha b (by simpa using hb)
  rcases ht with rfl | ⟨e, c, rfl, he⟩
  · rw [htl]
    exact Or.inl ⟨textFindLast_no_eol hd _ (by simpa using ha'), by simpa using ha'⟩
  · rw [List.reverse_cons, List.append_assoc, List.singleton_append] at htl
    rw [htl]
    exact Or.inr ⟨c.reverse, e, a.reverse, rfl, he, ha', textFindLast_eq hd _ _ e he ha'⟩

theorem textFindLast_ok (buf : Bytes) (h : buf ≠ []) : ∃ cut, textFindLast buf = .ok cut := by
  cases buf with
  | nil => exact absurd rfl h
  | cons hd tl => exact ⟨_, rfl⟩

theorem textFindLast_spec (buf : Bytes) (cut : Nat) (h : textFindLast buf = .ok cut) :
    cut ≤ buf.length ∧ (cut = 0 ∨ (2 ≤ cut ∧ ∃ a e, buf.take cut = a ++ [e] ∧ isEol e = true)) := by
  cases buf with
  | nil => simp [textFindLast] at h
  | cons hd tl =>
    rcases textFindLast_cases hd tl with ⟨h0, _⟩ | ⟨x, e, y, rfl, he, _, hres⟩
    · rw [h0] at h; cases h; simp
    · rw [hres] at h; cases h
      refine ⟨by simp, Or.inr ⟨by omega, hd :: x, e, ?_, he⟩⟩
      rw [List.take_succ_cons, List.take_length_add_append 1]; rfl

theorem textFindLast_tail_no_eol (buf : Bytes) (cut : Nat) (h : textFindLast buf = .ok cut) :
    ∀ b ∈ buf.drop (max cut 1), isEol b = false := by
  cases buf with
  | nil => simp [textFindLast] at h
  | cons hd tl =>
    rcases textFindLast_cases hd tl with ⟨h0, hall⟩ | ⟨x, e, y, rfl, he, hy, hres⟩
    · rw [h0] at h; cases h
      simpa using hall
    · rw [hres] at h; cases h
      rw [show max (x.length + 2) 1 = (x.length + 1) + 1 by omega, List.drop_succ_cons,
        List.drop_length_add_append 1]
      exact hy

/-! ### ExtractNextRecord -/

theorem textExtract_none (c : Chunk) : textExtract c = .ok none ↔ c.rest = [] := by
  unfold textExtract
  by_cases h : c.rest = []
  · simp [h]
  · simp only [List.isEmpty_iff, h, if_false, iff_false]
    intro hc
    split at hc
    · split at hc <;> cases hc
    · cases hc

theorem textExtract_unfold (c : Chunk) (hne : c.rest ≠ []) (p : Nat) (hp : recLen c.rest = p) :
    textExtract c =
      if p = c.rest.length then
        (if c.begin + p < 4 * c.dataWords then
          .ok (some (c.rest, { c with begin := c.begin + p, rest := c.rest.drop p })) else .error .oob)
      else .ok (some (c.rest.take (p - 1) ++ [0], { c with begin := c.begin + p, rest := c.rest.drop p })) := by
  unfold recLen at hp
  subst hp
  simp [textExtract, hne]

theorem isSep_zero : isSep 0 = true := by decide

/-- an `Extract` function has taken the first `p` bytes off the window of `c`, a non-empty prefix that is the whole window or
ends at an end of line: `c'` is what is left, the blob `b` has the length and the lines of the prefix -/
structure Took (c c' : Chunk) (b : Bytes) (p : Nat) : Prop where
  pos : 0 < p
  le : p ≤ c.rest.length
  rest : c'.rest = c.rest.drop p
  begin : c'.begin = c.begin + p
  dataWords : c'.dataWords = c.dataWords
  length : b.length = p
  blobLines : canon b = lines (c.rest.take p)
  ends : p = c.rest.length ∨ EndsEol (c.rest.take p)

/-- on a non-empty NUL-free window with room for the `'\0'` behind it, `ExtractNextRecord` consumes the first record
`pre` of the window (a line and the EOL run after it: no line is cut); the blob is `pre` with its last EOL byte
overwritten by `'\0'`, or `pre` itself when it ends the window (the `'\0'` is then stored behind it) -/
theorem textExtract_run (c : Chunk) (hne : c.rest ≠ []) (hn : NulFree c.rest)
    (hcap : c.begin + c.rest.length < 4 * c.dataWords) :
    ∃ p blob c', textExtract c = .ok (some (blob, c')) ∧ Took c c' blob p := by
  obtain ⟨line, eols, tail, hs⟩ := exists_recShape c.rest
  have hlen := hs.length
  refine ⟨line.length + eols.length, ?_⟩
  rw [textExtract_unfold c hne _ hs.recLen]
  split
  · rename_i hp
    rw [if_pos (hp ▸ hcap)]
    have hr : c.rest = line ++ eols := by rw [← hs.take, List.take_of_length_le (by omega)]
    exact ⟨_, _, rfl, hs.pos hne, by omega, rfl, rfl, rfl, by omega, by rw [hs.take, canon_eq_lines _ hn, hr], Or.inl hp⟩
  · have ht : tail ≠ [] := by
      rintro rfl
      simp at hlen; omega
    obtain ⟨eols', e, rfl, hee⟩ := hs.endsEol ht
    have htk : c.rest.take (line.length + (eols' ++ [e]).length - 1) = line ++ eols' := by
      rw [hs.eq, ← List.append_assoc, List.append_assoc]
      exact List.take_left' (by simp)
    rw [htk]
    refine ⟨_, _, rfl, hs.pos hne, by omega, rfl, rfl, rfl, by simp, ?_, Or.inr ?_⟩ <;> rw [hs.take]
    · rw [← List.append_assoc line, lines_snoc_eol _ e hee]
      show fields isSep _ = _
      rw [fields_snoc_sep isSep _ 0 isSep_zero]
      apply canon_eq_lines
      rw [hs.eq] at hn
      have h1 := nulFree_append.mp (nulFree_append.mp hn).1
      exact nulFree_append.mpr ⟨h1.1, (nulFree_append.mp h1.2).1⟩
    · rw [← List.append_assoc]; exact endsEol_snoc _ e hee

/-- the only failure is the store of the `'\0'` one past a record that reaches the end of a full buffer -/
theorem textExtract_error (c : Chunk) (e : Err) (h : textExtract c = .error e) :
    e = .oob ∧ c.rest ≠ [] ∧ 4 * c.dataWords ≤ c.begin + c.rest.length := by
  have hne : c.rest ≠ [] := by
    intro h0; rw [(textExtract_none c).mpr h0] at h; cases h
  rw [textExtract_unfold c hne _ rfl] at h
  split at h
  · rename_i hp
    split at h
    · cases h
    · cases h; exact ⟨rfl, hne, by omega⟩
  · cases h

theorem chunkEquiv_refl (c : Chunk) : ChunkEquiv c c := ⟨rfl, fun _ => ⟨rfl, rfl⟩⟩

theorem CleanAux.chunk_eq_of_equiv {c d : Chunk} (h : ChunkEquiv c d) (hne : c.rest ≠ []) : c = d := by
  obtain ⟨h1, h2⟩ := h
  obtain ⟨h3, h4⟩ := h2 hne
  cases c; cases d
  simp only [] at h1 h3 h4
  subst h1 h3 h4
  rfl

theorem textExtract_equiv (c d : Chunk) (h : ChunkEquiv c d) :
    match textExtract c, textExtract d with
    | .ok none, .ok none => True
    | .ok (some (b1, c1)), .ok (some (b2, d1)) => b1 = b2 ∧ ChunkEquiv c1 d1
    | .error e1, .error e2 => e1 = e2
    | _, _ => False := by
  by_cases hne : c.rest = []
  · have hd : d.rest = [] := by rw [← h.1]; exact hne
    rw [(textExtract_none c).mpr hne, (textExtract_none d).mpr hd]
    trivial
  · cases CleanAux.chunk_eq_of_equiv h hne
    cases hr : textExtract c with
    | error e => simp
    | ok r =>
      cases r with
      | none => simp
      | some bc => simp [chunkEquiv_refl]

/-! ### SeekRecordBegin -/

/-- second loop of `SeekRecordBegin`: skips the EOL run, consumes one more byte when there is one -/
theorem textSeekEol_eq (s : Bytes) :
    textSeekEol s = (textEolLen s, textEolLen s + min 1 (s.length - textEolLen s)) := by
  induction s with
  | nil => rfl
  | cons x s ih =>
    by_cases hx : isEol x = true <;> simp [textSeekEol, textEolLen, lsSeekNotEol_iff, lsExtNotEol_iff, hx, ih]
    omega

/-- `SeekRecordBegin` skips what `ExtractNextRecord` would consume — the rest of the current line and the
whole EOL run after it; `nstep` counts these bytes; one more byte (the first of the next line) is consumed
from the stream when there is one -/
theorem textSeekLine_eq (s : Bytes) :
    textSeekLine s = (recLen s, recLen s + min 1 (s.length - recLen s)) := by
  induction s with
  | nil => rfl
  | cons x s ih =>
    by_cases hx : isEol x = true <;>
      simp [textSeekLine, recLen, textLineLen, textEolLen, lsSeekIsEol_iff, lsExtIsEol_iff, lsExtNotEol_iff, hx,
        textSeekEol_eq, ih]
    all_goals omega

theorem textSeekLine_spec (s : Bytes) :
    (textSeekLine s).1 ≤ s.length ∧ (textSeekLine s).2 ≤ s.length ∧ (s ≠ [] → 0 < (textSeekLine s).1) ∧
    ((textSeekLine s).1 = s.length ∨
     (∃ a c, s.drop ((textSeekLine s).1 - 1) = a :: c ∧ isEol a = true) ∧
     (∃ a c, s.drop (textSeekLine s).1 = a :: c ∧ isEol a = false)) := by
  obtain ⟨line, eols, tail, hs⟩ := exists_recShape s
  have hlen := hs.length
  rw [textSeekLine_eq, hs.recLen, hs.drop]
  refine ⟨by omega, by omega, hs.pos, ?_⟩
  by_cases ht : tail = []
  · left; rw [ht] at hlen; simpa using hlen.symm
  · right
    obtain ⟨eols', e, rfl, hee⟩ := hs.endsEol ht
    refine ⟨⟨e, tail, ?_, hee⟩, by simpa [ht] using hs.htail⟩
    rw [hs.eq, ← List.append_assoc, List.append_assoc]
    exact List.drop_left' (by simp)

theorem textSeekLine_lines (s : Bytes) :
    lines s = lines (s.take (textSeekLine s).1) ++ lines (s.drop (textSeekLine s).1) := by
  obtain ⟨line, eols, tail, hs⟩ := exists_recShape s
  rw [textSeekLine_eq, hs.recLen, hs.take, hs.drop]
  exact hs.lines

end DmlcModel.Split
