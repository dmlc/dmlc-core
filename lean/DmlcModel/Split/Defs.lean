/-
The notions the property theorems C03 / C04 / C05 are stated in that belong neither to the executable model (Model.lean) nor to
its specification side (Spec.lean); at the end, names for the parts of the invariants that proofs take singly.
-/
import DmlcModel.Split.Spec
import DmlcModel.RecordIO.Image

namespace DmlcModel.Split
open DmlcModel

def EndsEol (s : Bytes) : Prop := s = [] ∨ ∃ a e, s = a ++ [e] ∧ isEol e = true

/-- carry-over followed by everything the remaining `Read` calls deliver -/
def ahead (F : Fmt) (s : Base) : Bytes := s.overflow ++ pending F s

/-- everything still to be delivered -/
def tailT (s : Base) : Bytes := s.chunk.rest ++ s.overflow ++ pending Fmt.text s

/-- invariant of a bare text split between public calls; the bounds: header of ChunkLemmas.lean, `2^55` at `TInv_of_clean` -/
def TInv (s : Base) : Prop :=
  RInv s ∧ EndsEol s.chunk.rest ∧ NulFree (tailT s) ∧ totalSize s.files < 2^56 ∧ s.bufWords < 2^56 ∧
  (ahead Fmt.text s).length < 2^56 ∧
  (s.chunk.rest ≠ [] → s.chunk.begin + s.chunk.rest.length < 4 * s.chunk.dataWords)

/-- the format-specific facts about `SeekRecordBegin` the generic layer needs: it stays inside the bytes it is given, and the
record start it reaches (`i + n`, from offset `i`) is monotone in the offset it starts from -/
def SeekOk (F : Fmt) : Prop :=
  (∀ (s : Bytes) (n c : Nat), F.seekRecordBegin s = .ok (n, c) → n ≤ s.length ∧ c ≤ s.length) ∧
  (∀ (s : Bytes) (i j n m c d : Nat), i ≤ j → j ≤ s.length → F.seekRecordBegin (s.drop i) = .ok (n, c) →
      F.seekRecordBegin (s.drop j) = .ok (m, d) → i + n ≤ j + m)

/-- `extractNext` returns "no record" exactly on an exhausted chunk (needed for the wrapper, where an
allocated-but-exhausted chunk is identified with no chunk) -/
def ExtractNoneIff (F : Fmt) : Prop := ∀ c, F.extractNext c = .ok none ↔ c.rest = []

def okVal : Except Err Nat → Nat
  | .ok y => y
  | .error _ => 0

/-- boundary `j` of an `n`-way split of text files, as a number (`bnd` never fails in text mode: `bnd_text_eq`).
Stated through `okVal` rather than an inline `match`: reducing a `match` on `bnd Fmt.text …` evaluates the `2^64` arithmetic
of `rawBnd` (header of Unfold.lean). -/
def bndT (files : List Bytes) (n j : Nat) : Nat := okVal (bnd Fmt.text files n j)

section
open DmlcModel.RecordIO

def recFiles (rss : List (List Bytes)) : List Bytes := rss.map writeAll

/-- global offsets (in the concatenation of all files) at which a record image starts, plus the total size -/
def GHead (rss : List (List Bytes)) (x : Nat) : Prop :=
  ∃ j, j ≤ rss.flatten.length ∧ x = (writeAll (rss.flatten.take j)).length

abbrev RssOk (rss : List (List Bytes)) : Prop := ∀ rs ∈ rss, rs ≠ [] ∧ Short rs

/-- boundary `j` of the `n`-way split of the files (`0` stands for "error", which does not occur: `bnd_rec_eq`); through `okVal`
for the reason given at `bndT` -/
def bndR (rss : List (List Bytes)) (n j : Nat) : Nat := okVal (bnd Fmt.recordio (recFiles rss) n j)

/-- the records whose image starts in `[b, e)`; arguments: records, running offset, `b`, `e` -/
def recsIn : List Bytes → Nat → Nat → Nat → List Bytes
  | [], _, _, _ => []
  | r :: rs, off, b, e =>
    (if b ≤ off ∧ off < e then [r] else []) ++ recsIn rs (off + (writeRecord r).1.length) b e

def partRecs (rss : List (List Bytes)) (n k : Nat) : List Bytes :=
  recsIn rss.flatten 0 (bndR rss n k) (bndR rss n (k + 1))

/-- invariant of a bare recordio split between public calls: the current chunk window and the look-ahead
are images of record lists -/
def GInv (s : Base) (cur ahead_ : List Bytes) : Prop :=
  RInv s ∧ s.chunk.rest = writeAll cur ∧ s.overflow ++ pending Fmt.recordio s = writeAll ahead_ ∧
  Short cur ∧ Short ahead_ ∧
  (cur ≠ [] → s.chunk.begin % 4 = 0) ∧ totalSize s.files < 2^56 ∧ 2 ≤ s.bufWords ∧ s.bufWords < 2^56 ∧
  (writeAll ahead_).length < 2^56

/-- the records a consumer extracts from one delivered blob: a `NextRecord` blob is one record, a `NextChunk`
blob is parsed with `RecordIOReader` (`readAll`; nothing if the reader rejects it) -/
def blobRecords (isRec : Bool) (b : Bytes) : List Bytes :=
  if isRec then [b]
  else match RecordIO.readAll b with
    | some rs => rs
    | none => []

def recordsGo (pick : Nat → Bool) : Nat → List Bytes → List Bytes
  | _, [] => []
  | i, b :: bs => blobRecords (pick i) b ++ recordsGo pick (i + 1) bs

/-- the records a consumer extracts from the blobs of a part (`[]` for an abnormal outcome) -/
def recordsOf (pick : Nat → Bool) : Except Err (List Bytes) → List Bytes
  | .ok bs => recordsGo pick 0 bs
  | .error _ => []

/-! ### the parts of `RInv`, `Clean` (Spec.lean), `TInv`, `GInv` that proofs take singly, by name -/

theorem RInv.nonempty {s : Base} (h : RInv s) : ∀ f ∈ s.files, f ≠ [] := h.1
theorem RInv.offEnd_le {s : Base} (h : RInv s) : s.offEnd ≤ totalSize s.files := h.2.1
theorem Clean.rest {s : Base} (h : Clean s) : s.chunk.rest = [] := h.1
theorem Clean.overflow {s : Base} (h : Clean s) : s.overflow = [] := h.2.1
theorem Clean.pos {s : Base} (h : Clean s) :
    s.offEnd ≤ s.offBegin ∨ (s.offCurr = s.offBegin ∧ s.filePtr = filePtrOf s.files s.offBegin ∧
      s.fpos = some (s.offBegin - fileOffset s.files (filePtrOf s.files s.offBegin))) := h.2.2
theorem TInv.rinv {s : Base} (h : TInv s) : RInv s := h.1
theorem GInv.rinv {s : Base} {cur ah : List Bytes} (h : GInv s cur ah) : RInv s := h.1
theorem GInv.cur {s : Base} {cur ah : List Bytes} (h : GInv s cur ah) : s.chunk.rest = writeAll cur := h.2.1
theorem GInv.ahead {s : Base} {cur ah : List Bytes} (h : GInv s cur ah) :
    s.overflow ++ pending Fmt.recordio s = writeAll ah := h.2.2.1
theorem GInv.shortCur {s : Base} {cur ah : List Bytes} (h : GInv s cur ah) : Short cur := h.2.2.2.1

end

end DmlcModel.Split
