/-
Partition boundaries of the TEXT format: the text `SeekRecordBegin` satisfies `SeekOk`, a snapped boundary is a cut point
(`IsCut`), so the boundaries `bndT` are monotone cut points from `0` to `totalSize` and the lines of the parts telescope.
-/
import DmlcModel.Split.TextLemmas
import DmlcModel.Split.StreamLemmas
import DmlcModel.Split.SnapLemmas

namespace DmlcModel.Split
open DmlcModel

namespace SnapTextAux

theorem textSeekEol_le_line (s : Bytes) : (textSeekEol s).1 ≤ (textSeekLine s).1 := by
  cases s with
  | nil => simp [textSeekEol, textSeekLine]
  | cons c r =>
    simp only [textSeekEol, textSeekLine, lsSeekNotEol_iff, lsSeekIsEol_iff]
    by_cases hc : isEol c = true
    · simp [hc]
    · have hc' : isEol c = false := by simpa using hc
      simp [hc']

theorem textSeekLine_step (s : Bytes) : (textSeekLine s).1 ≤ 1 + (textSeekLine (s.drop 1)).1 := by
  cases s with
  | nil => simp [textSeekLine]
  | cons b rest =>
    simp only [List.drop_succ_cons, List.drop_zero, textSeekLine, lsSeekIsEol_iff]
    by_cases hb : isEol b = true
    · have := textSeekEol_le_line rest
      simp [hb]; omega
    · have hb' : isEol b = false := by simpa using hb
      simp [hb']; omega

theorem textSeekLine_mono (s : Bytes) (i : Nat) : ∀ (d : Nat),
    i + (textSeekLine (s.drop i)).1 ≤ (i + d) + (textSeekLine (s.drop (i + d))).1 := by
  intro d
  induction d with
  | zero => exact Nat.le_refl _
  | succ d ih =>
    have h := textSeekLine_step (s.drop (i + d))
    rw [List.drop_drop] at h
    rw [← Nat.add_assoc]
    omega

end SnapTextAux
open SnapTextAux SnapAux

theorem seekOk_text : SeekOk Fmt.text := by
  constructor
  · intro s n c h
    simp only [Fmt.text] at h
    injection h with h
    have := textSeekLine_spec s
    rw [h] at this
    exact ⟨this.1, this.2.1⟩
  · intro s i j n m c d hij hj h h'
    simp only [Fmt.text] at h h'
    injection h with h
    injection h' with h'
    have := textSeekLine_mono s i (j - i)
    rw [Nat.add_sub_cancel' hij, h, h'] at this
    exact this

/-- `x ≤ totalSize files` is necessary: `snap Fmt.text [[1]] 5 = .error .oob` -/
theorem snap_text_ok (files : List Bytes) (x : Nat) (hx : x ≤ totalSize files) :
    ∃ y, snap Fmt.text files x = .ok y := by
  by_cases hb : x = fileOffset files (filePtrOf files x)
  · exact ⟨_, snap_start _ files x hb⟩
  · obtain ⟨f, hd, _, _⟩ := drop_filePtrOf files x (interior_lt_total files x hx hb)
    rw [snap_inside _ files x f _ hb hd]
    exact ⟨_, rfl⟩

theorem snap_text_isCut (files : List Bytes) (x y : Nat) (hx : x ≤ totalSize files)
    (h : snap Fmt.text files x = .ok y) : IsCut files y := by
  rcases snap_cases Fmt.text files x y hx h with ⟨hb, rfl⟩ | ⟨f, n, c, hd, h1, h2, h3, hs, rfl⟩
  · rw [hb]; exact isCut_fileOffset files _ (filePtrOf_le files _)
  · simp only [Fmt.text] at hs
    injection hs with hs
    have hq := Nat.sub_lt_left_of_lt_add (Nat.le_of_lt h1) h2
    rw [← Nat.add_sub_of_le (Nat.le_of_lt h1), Nat.add_assoc]
    -- `x` is at position `q < f.length` of file `f`
    generalize x - fileOffset files (filePtrOf files x) = q at hs hq ⊢
    obtain ⟨s1, _, s3, s4⟩ := textSeekLine_spec (f.drop q)
    rw [hs] at s1 s3 s4
    simp only [List.length_drop] at s1 s4
    have hn0 : 0 < n := s3 fun he => Nat.not_le.mpr hq (List.drop_eq_nil_iff.mp he)
    apply isCut_inside files _ f _ hd _ (Nat.add_le_of_le_sub' (Nat.le_of_lt hq) s1)
    rcases s4 with s4 | ⟨⟨a, c', hd1, ha⟩, ⟨a2, c2, hd2, ha2⟩⟩
    · exact Or.inr (Or.inl (by rw [s4, Nat.add_sub_of_le (Nat.le_of_lt hq)]))
    · rw [List.drop_drop] at hd1 hd2
      rw [← Nat.add_sub_assoc hn0] at hd1
      exact Or.inr (Or.inr ⟨⟨a, c', hd1, ha, Nat.le_trans hn0 (Nat.le_add_left _ _)⟩, ⟨a2, c2, hd2, ha2⟩⟩)

theorem bnd_text_eq (files : List Bytes) (n j : Nat) : bnd Fmt.text files n j = .ok (bndT files n j) := by
  obtain ⟨y, hy⟩ := snap_text_ok files (rawBnd Fmt.text files n j) (rawBnd_le _ _ _ _)
  have hy' : bnd Fmt.text files n j = .ok y := hy
  unfold bndT
  rw [hy', okVal_ok]

theorem bndT_match (files : List Bytes) (n j : Nat) :
    bndT files n j = (match bnd Fmt.text files n j with | .ok y => y | .error _ => 0) := by
  rw [bnd_text_eq]

theorem bndT_zero (files : List Bytes) (n : Nat) : bndT files n 0 = 0 := by
  unfold bndT bnd
  rw [rawBnd_zero, snap_zero, okVal_ok]

theorem text_align : Fmt.text.align = 1 := rfl

theorem bndT_last (files : List Bytes) (n : Nat) (ht : totalSize files < 2^62)
    (hn0 : 0 < n) (hn : n < 2^32) : bndT files n n = totalSize files := by
  unfold bndT bnd
  rw [rawBnd_last Fmt.text files n (Or.inl text_align) ht hn0 hn, snap_total Fmt.text files, okVal_ok]

theorem bndT_mono (files : List Bytes) (n i j : Nat) (h : i ≤ j) :
    bndT files n i ≤ bndT files n j :=
  snap_mono Fmt.text files seekOk_text _ _ _ _ (rawBnd_mono Fmt.text files n i j h)
    (rawBnd_le _ _ _ _) (bnd_text_eq files n i) (bnd_text_eq files n j)

theorem bndT_le (files : List Bytes) (n j : Nat) : bndT files n j ≤ totalSize files :=
  (snap_bounds Fmt.text files seekOk_text _ _ (rawBnd_le _ _ _ _) (bnd_text_eq files n j)).2

set_option linter.unusedVariables false in
theorem rawBnd_le_bndT (files : List Bytes) (n j : Nat) (hne : ∀ f ∈ files, f ≠ []) :
    rawBnd Fmt.text files n j ≤ bndT files n j :=
  (snap_bounds Fmt.text files seekOk_text _ _ (rawBnd_le _ _ _ _) (bnd_text_eq files n j)).1

theorem bndT_isCut (files : List Bytes) (n j : Nat) : IsCut files (bndT files n j) :=
  snap_text_isCut files _ _ (rawBnd_le _ _ _ _) (bnd_text_eq files n j)

theorem lines_parts_telescope (files : List Bytes) (hne : ∀ f ∈ files, f ≠ []) (n : Nat) (ht : totalSize files < 2^62)
    (hn0 : 0 < n) (hn : n < 2^32) :
    (List.range n).flatMap (fun k => lines (rangeStream true files (bndT files n k) (bndT files n (k + 1))))
      = files.flatMap lines := by
  rw [flatMap_range_telescope (fun b e => lines (rangeStream true files b e)) (bndT files n) n
      (by rw [rangeStream_self, lines_nil])
      (fun k _ => (lines_rangeStream_split files hne _ _ _ (bndT_mono files n 0 k (Nat.zero_le k))
        (bndT_mono files n k (k + 1) (Nat.le_succ k)) (bndT_le files n (k + 1)) (bndT_isCut files n k)).symm),
    bndT_zero, bndT_last files n ht hn0 hn]
  exact lines_rangeStream_all files hne

end DmlcModel.Split
