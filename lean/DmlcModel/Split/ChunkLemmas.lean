/-
`ReadChunk` and `Chunk::Load` (src/io/input_split_base.cc) for any format, in terms of the look-ahead `ahead` = carry-over ++
pending stream: every chunk handed out is cut off its front.  The outcomes of `ReadChunk`, errors included, are the rules of `RC`;
the doubling loop of `Chunk::Load` is one `ReadChunk` at the final buffer size on a state with the same look-ahead (`loadLoop_eq`).

The size bounds, each forced by the next: `ReadChunk` is analysed for `totalSize < 2^62` and a request `m < 2^62`, so that
`offset_curr_ + size ≤ totalSize + m` does not wrap in `Read` (the range hypothesis of `ReadSpec`); `m = loadSize dw` is
`4 * (dw - 1) < 2^62`, computed without wrap, for `dw ≤ 2^60` (`loadSize_spec`); the doubling loop keeps `dw ≤ 8 * K` (`DwOk`),
hence `K ≤ 2^57` (`DwOk.size`); `load_eq` takes `K = 2^56`, which bounds the first buffer size `bufWords + 1` and half the
look-ahead: that is the `< 2^56` of `TInv`, `GInv` and the property theorems, and the final buffer has `dw0 ≤ 2^59` words.
-/
import DmlcModel.Split.ReadLemmas
import DmlcModel.Split.Footprint
import DmlcModel.Split.Defs

namespace DmlcModel.Split
open DmlcModel DmlcModel.Gen.Split

/-- what this layer needs of a format's `FindLastRecordBegin` -/
def CutOk (F : Fmt) : Prop :=
  F.isText = true → ∀ buf, F.findLastRecordBegin buf = .ok 0 → ∀ b ∈ buf.drop 1, b ≠ 10

def TakenOff (F : Fmt) (A : Bytes) (s' : Base) (buf : Bytes) : Prop :=
  buf ++ pending F s' = A ∨ F.isText = true ∧ buf = A ++ [10] ∧ A ≠ [] ∧ pending F s' = []

theorem rcReadSize_spec (m o : Nat) (h : o ≤ m) (hm : m < 2^64) : rcReadSize m o = m - o :=
  sub64_of_le hm h

theorem loadSize_spec (dw : Nat) (h1 : 1 ≤ dw) (h2 : dw ≤ 2^60) : loadSize dw = 4 * (dw - 1) := by
  unfold loadSize
  rw [sub64_of_le (by omega) h1, u64_of_lt (by omega), Nat.mul_comm]

theorem loadGrow_spec (dw : Nat) (h2 : dw ≤ 2^60) : loadGrow dw = 2 * dw := by
  unfold loadGrow
  rw [u64_of_lt (by omega), Nat.mul_comm]

theorem loadResize_spec (bw : Nat) (h : bw < 2^60) : loadResize bw = bw + 1 :=
  u64_of_lt (by omega)

theorem loadFuel_spec (s : Base) :
    loadFuel s = s.overflow.length + (s.offEnd - s.offCurr) + s.files.length + 4 := rfl

theorem pending_overflow (F : Fmt) (s : Base) (ov : Bytes) :
    pending F { s with overflow := ov } = pending F s := rfl

theorem read_cleared {F : Fmt} {s s1 : Base} {size : Nat} {bytes : Bytes}
    (hrd : read F { s with overflow := [] } size = .ok (bytes, s1)) (hinv : RInv s)
    (ht : totalSize s.files < 2^62) (hs : size < 2^62) :
    RInv s1 ∧ bytes ++ pending F s1 = pending F s ∧ bytes.length ≤ size ∧
    (bytes = [] → size = 0 ∨ pending F s = []) ∧ s1.overflow = [] :=
  have h := (read_post F _ _ _ _ hrd hinv (by show totalSize s.files + size < 2^64; omega)).1
  ⟨h.rinv, h.app, h.len, h.nil, h.overflow⟩

theorem mem_drop_one_append {α} {b : α} (ov bytes : List α) (h : b ∈ bytes.drop 1) : b ∈ (ov ++ bytes).drop 1 := by
  cases ov with
  | nil => exact h
  | cons a o => exact List.mem_append_right o (List.mem_of_mem_drop h)

/-- the outcomes of one `ReadChunk(buf, max_size = m)` in terms of the look-ahead: `small`, the early return on a buffer not
beyond the carry-over; `eof`, `false` at the end of the part; `whole` (binary), a short `Read`, which hands out all that is left;
`cut` / `err`, a buffer taken off the front of the look-ahead and given to `FindLastRecordBegin`.  That buffer is full unless
(text) the `Read` was short, and then at most two bytes stay pending if no `'\n'` stands behind its first byte. -/
inductive RC (F : Fmt) (s : Base) (m : Nat) : Except Err (Option Bytes × Base) → Prop
  | small : m ≤ s.overflow.length → RC F s m (.ok (some [], s))
  | eof {s'} : RInv s' → ahead F s = [] → s'.overflow = [] → pending F s' = [] → RC F s m (.ok (none, s'))
  | whole {s'} (c : Bytes) : RInv s' → F.isText = false → c ≠ [] → c.length < m → c = ahead F s → s'.overflow = [] →
      pending F s' = [] → RC F s m (.ok (some c, s'))
  | cut {s'} (buf : Bytes) (cut : Nat) : RInv s' → F.findLastRecordBegin buf = .ok cut → s'.overflow = buf.drop cut →
      s.overflow.length < buf.length → buf.length ≤ m →
      (F.isText = false → buf = (ahead F s).take m ∧ buf.length = m) →
      TakenOff F (ahead F s) s' buf →
      (buf.length < m → (∀ b ∈ buf.drop 1, b ≠ 10) → (pending F s').length ≤ 2) →
      RC F s m (.ok (some (buf.take cut), s'))
  | err (buf : Bytes) (e : Err) : F.findLastRecordBegin buf = .error e → buf ≠ [] →
      (F.isText = false → buf = (ahead F s).take m ∧ buf.length = m) → RC F s m (.error e)

theorem readChunk_rc (F : Fmt) (s : Base) (m : Nat) (hinv : RInv s) (ht : totalSize s.files < 2^62) (hm : m < 2^62) :
    RC F s m (readChunk F s m) := by
  rw [readChunk_eq]
  split
  · rename_i hsm
    exact .small hsm
  · rename_i hsm
    rw [rcReadSize_spec _ _ (by omega) (by omega)]
    have hrange : totalSize s.files + (m - s.overflow.length) < 2^64 := by omega
    obtain ⟨bytes, s1, hrd, -⟩ := read_ok F { s with overflow := [] } (m - s.overflow.length) hinv hrange
    obtain ⟨hinv1, hpend, hlen, hemp, hov⟩ := read_cleared hrd hinv ht (by omega)
    rw [hrd]
    simp only []
    have hah : s.overflow ++ bytes ++ pending F s1 = ahead F s := by rw [List.append_assoc, hpend]; rfl
    have hend : bytes = [] → pending F s1 = [] ∧ s.overflow = ahead F s := fun hb => by
      have hp := (hemp hb).resolve_left (by omega)
      rw [hb, hp] at hpend
      exact ⟨hpend, by unfold ahead; rw [hp, List.append_nil]⟩
    split
    · rename_i hz
      obtain ⟨ho, hb⟩ := List.append_eq_nil_iff.mp hz
      exact .eof hinv1 ((hend hb).2 ▸ ho) hov (hend hb).1
    · rename_i hne
      split
      · rename_i hsh
        have hlt : (s.overflow ++ bytes).length < m := by
          have := hsh.2; rw [List.length_append] at this ⊢; omega
        have hp1 : pending F s1 = [] := read_short_binary F _ _ _ _ hrd hinv hrange hsh.1
          (by rw [List.length_append] at hlt; omega)
        rw [hp1, List.append_nil] at hah
        exact .whole _ hinv1 hsh.1 hne hlt hah hov hp1
      · rename_i hfull
        have hfl : F.isText = false → (s.overflow ++ bytes).length = m :=
          fun hb => Decidable.byContradiction fun e => hfull ⟨hb, e⟩
        have hbuf : rcBuf F s.overflow bytes ≠ [] ∧
            (F.isText = false → rcBuf F s.overflow bytes = (ahead F s).take m ∧ (rcBuf F s.overflow bytes).length = m) := by
          refine ⟨by unfold rcBuf; split <;> simp [hne], fun hb => ?_⟩
          rw [rcBuf, hb, if_neg (by simp), ← hah, List.take_left' (hfl hb)]
          exact ⟨rfl, hfl hb⟩
        split
        · rename_i e hcut
          exact .err _ e hcut hbuf.1 hbuf.2
        · rename_i cut hcut
          by_cases hcond : F.isText = true ∧ bytes = []
          · obtain ⟨hp1, ho⟩ := hend hcond.2
            rw [hcond.2, List.append_nil, ho] at hne
            rw [rcBuf, if_pos hcond, hcond.2, List.append_nil, ho] at hcut ⊢
            exact .cut _ cut hinv1 hcut rfl (by rw [ho]; simp) (by rw [← ho]; simp; omega)
              (fun hb => by rw [hcond.1] at hb; cases hb) (Or.inr ⟨hcond.1, rfl, hne, hp1⟩)
              (fun _ _ => Nat.le_trans (Nat.le_of_eq (congrArg List.length hp1)) (Nat.zero_le 2))
          · have hbl : 0 < bytes.length := List.length_pos_iff.2 fun e => by
              cases htx : F.isText with
              | true => exact hcond ⟨htx, e⟩
              | false => have := hfl htx; rw [e, List.append_nil] at this; omega
            rw [rcBuf, if_neg hcond] at hcut hbuf ⊢
            refine .cut _ cut hinv1 hcut rfl (by rw [List.length_append]; omega) (by rw [List.length_append]; omega)
              hbuf.2 (Or.inl hah) fun hlt hno => ?_
            rw [List.length_append] at hlt
            exact read_short F _ _ bytes s1 hrd hinv hrange (by omega)
              fun b hb => hno b (mem_drop_one_append _ _ hb)

attribute [local irreducible] readChunk loadSize loadGrow loadFuel loadResize

/-- size invariant of the doubling loop: `dw` is at most `K` (a bound on the initial size and on half the
data still there), except that up to three more doublings may happen once at most `P ≤ 2` bytes are
pending (text: short `Read`s near the end of the part).  Three, because from then on a round that doubles without a full
buffer moves at least one pending byte into the carry-over: `P` goes `≤ 2`, `≤ 1`, `0`, one disjunct each. -/
def DwOk (K P dw : Nat) : Prop :=
  1 ≤ dw ∧ (dw ≤ K ∨ (P ≤ 2 ∧ dw ≤ 2 * K) ∨ (P ≤ 1 ∧ dw ≤ 4 * K) ∨ (P = 0 ∧ dw ≤ 8 * K))

theorem DwOk_of_le (K P dw : Nat) (h1 : 1 ≤ dw) (h2 : dw ≤ K) : DwOk K P dw := ⟨h1, Or.inl h2⟩

theorem DwOk.size {K P dw : Nat} (h : DwOk K P dw) (hK : K ≤ 2^57) :
    1 ≤ dw ∧ dw ≤ 8 * K ∧ loadSize dw = 4 * (dw - 1) ∧ loadSize dw < 2^62 ∧ loadGrow dw = 2 * dw := by
  have h8 : 1 ≤ dw ∧ dw ≤ 8 * K := by unfold DwOk at h; omega
  have hls := loadSize_spec dw h8.1 (by omega)
  exact ⟨h8.1, h8.2, hls, by omega, loadGrow_spec dw (by omega)⟩

theorem DwOk.grow {K P P' dw ov' : Nat} (hdw : DwOk K P dw) (hT : ov' + P' + 4 ≤ 2 * K)
    (h : 4 * (dw - 1) ≤ ov' ∨ (P' < P ∧ P' ≤ 2)) : DwOk K P' (2 * dw) := by
  unfold DwOk at hdw ⊢
  -- full buffer: `4 * (dw - 1) ≤ ov' ≤ 2 * K - 4` gives `2 * dw ≤ K`, the first disjunct again, whatever `P'`;
  -- otherwise `P' < P` moves one disjunct to the right, where the bound on `dw` is twice as large
  omega

/-- the measure of the doubling loop: bytes still pending, plus how far the buffer is from exceeding the carry-over -/
def loadM (F : Fmt) (s : Base) (dw : Nat) : Nat :=
  (pending F s).length + ((s.overflow.length + 1) - 4 * (dw - 1))

theorem loadMeasure_lt {P P' dw ov ov' : Nat} (hdw : 1 ≤ dw)
    (h : (P' = P ∧ ov' = ov ∧ 4 * (dw - 1) ≤ ov) ∨ (ov' ≤ 4 * (dw - 1) ∧ P' < P)) :
    P' + ((ov' + 1) - 4 * (2 * dw - 1)) < P + ((ov + 1) - 4 * (dw - 1)) := by
  -- first case: the second summand is positive before (`4 * (dw - 1) ≤ ov`) and smaller after the doubling;
  -- second case: it is `0` after the doubling (`ov' + 1 ≤ 4 * (dw - 1) + 1 ≤ 4 * (2 * dw - 1)`), and `P' < P`
  omega

/-- a round that returns size 0 keeps the look-ahead and `DwOk` (`2 * K` bounds the bytes still to come, + 4) and decreases
`loadM`: the early return doubles a buffer that was not beyond the carry-over; otherwise the whole buffer became the carry-over
after a `Read` of at least one byte, and the buffer was full or at most two bytes stay pending -/
theorem readChunk_zero_round (F : Fmt) (hC : CutOk F) (K : Nat) (hK : K ≤ 2^57) (s s1 : Base) (dw : Nat)
    (h : readChunk F s (loadSize dw) = .ok (some [], s1)) (hinv : RInv s) (ht : totalSize s.files < 2^62)
    (hT : (ahead F s).length + 4 ≤ 2 * K) (hdw : DwOk K (pending F s).length dw) :
    RInv s1 ∧ ahead F s1 = ahead F s ∧ loadGrow dw = 2 * dw ∧
    DwOk K (pending F s1).length (2 * dw) ∧ loadM F s1 (2 * dw) < loadM F s dw := by
  obtain ⟨hdw1, -, hls, hlt, hg⟩ := hdw.size hK
  have hrc := readChunk_rc F s _ hinv ht hlt
  rw [h, hls] at hrc
  rw [ahead, List.length_append] at hT
  generalize hr : some ([] : Bytes) = r at hrc
  cases hrc with
  | small hsm => exact ⟨hinv, rfl, hg, hdw.grow hT (Or.inl hsm), loadMeasure_lt hdw1 (Or.inl ⟨rfl, rfl, hsm⟩)⟩
  | eof => cases hr
  | whole c _ _ hc => cases hr; exact absurd rfl hc
  | cut buf cut hinv1 hcut hov hlo hle hfl hcons hshort =>
    have hc0 : cut = 0 := by
      cases cut with
      | zero => rfl
      | succ n =>
        cases buf with
        | nil => simp at hlo
        | cons a l => simp at hr
    subst hc0
    rw [List.drop_zero] at hov
    have hno : F.isText = true → ∀ b ∈ buf.drop 1, b ≠ 10 := fun htx => hC htx buf hcut
    rcases hcons with hcons | ⟨htx, hbuf, hane, _⟩
    · have hl := congrArg List.length hcons
      rw [ahead, List.length_append, List.length_append] at hl
      refine ⟨hinv1, by rw [ahead, hov]; exact hcons, hg, hdw.grow (ov' := buf.length) (by omega) ?_,
        by rw [loadM, hov]; exact loadMeasure_lt hdw1 (Or.inr ⟨hle, by omega⟩)⟩
      by_cases hlt : buf.length < 4 * (dw - 1)
      · cases htx : F.isText with
        | true => exact Or.inr ⟨by omega, hshort hlt (hno htx)⟩
        | false => exact absurd (hfl htx).2 (Nat.ne_of_lt hlt)
      · exact Or.inl (by omega)
    · cases hA : ahead F s with
      | nil => exact absurd hA hane
      | cons a t => exact absurd rfl (hno htx 10 (by rw [hbuf, hA]; simp))

theorem loadStep_congr (d : Except Err (Option Bytes × Base)) (k k' : Base → Except Err (Option Bytes × Base × Nat))
    (dw : Nat) (h : ∀ s1, d ≠ .ok (some [], s1)) : loadStep d k dw = loadStep d k' dw := by
  rcases d with e | ⟨_ | _ | _, s1⟩
  · rfl
  · rfl
  · exact absurd rfl (h s1)
  · rfl

theorem loadStep_zero (s1 : Base) (k : Base → Except Err (Option Bytes × Base × Nat)) (dw : Nat) :
    loadStep (.ok (some [], s1)) k dw = k s1 := rfl

/-- closed form: one `ReadChunk` with the final buffer size `dw0`, in a state `s0` that differs from `s` only by bytes moved
from the pending stream into the carry-over.  The continuation `fun _ => .error .fuel` is what the loop does if that `ReadChunk`
still returns size 0 (its iteration bound is used up); the last clause says that it does not when the bound exceeds the measure -/
theorem loadLoop_eq (F : Fmt) (hC : CutOk F) (K : Nat) (hK : K ≤ 2^57) :
    ∀ (fuel : Nat) (s : Base) (dw : Nat), RInv s → totalSize s.files < 2^62 →
    (ahead F s).length + 4 ≤ 2 * K → DwOk K (pending F s).length dw →
    ∃ s0 dw0, RInv s0 ∧ Kept s s0 ∧ ahead F s0 = ahead F s ∧ dw ≤ dw0 ∧ dw0 ≤ 8 * K ∧
      loadLoop F (fuel + 1) s dw = loadStep (readChunk F s0 (loadSize dw0)) (fun _ => .error .fuel) dw0 ∧
      (loadM F s dw ≤ fuel → ∀ s1, readChunk F s0 (loadSize dw0) ≠ .ok (some [], s1)) := by
  intro fuel
  induction fuel with
  | zero =>
    intro s dw hinv ht hT hdw
    refine ⟨s, dw, hinv, Kept.refl s, rfl, Nat.le_refl _, (hdw.size hK).2.1, ?_, fun hf s1 h => ?_⟩
    · rw [loadLoop_succ]
      by_cases hz : ∃ s1, readChunk F s (loadSize dw) = .ok (some [], s1)
      · obtain ⟨s1, hrc⟩ := hz
        rw [hrc, loadStep_zero, loadStep_zero]
        exact loadLoop_zero F s1 _
      · exact loadStep_congr _ _ _ _ fun s1 h => hz ⟨s1, h⟩
    · obtain ⟨-, -, -, -, this⟩ := readChunk_zero_round F hC K hK s s1 dw h hinv ht hT hdw
      omega
  | succ fuel ih =>
    intro s dw hinv ht hT hdw
    rw [loadLoop_succ]
    by_cases hz : ∃ s1, readChunk F s (loadSize dw) = .ok (some [], s1)
    · obtain ⟨s1, hrc⟩ := hz
      obtain ⟨hinv1, htl, hg, hdw2, hlt⟩ := readChunk_zero_round F hC K hK s s1 dw hrc hinv ht hT hdw
      have hk := readChunk_kept F _ _ _ _ hrc
      obtain ⟨s0, dw0, i1, i2, i3, i4, i5, i6, i7⟩ := ih s1 (2 * dw) hinv1 (hk.files ▸ ht) (htl ▸ hT) hdw2
      refine ⟨s0, dw0, i1, hk.trans i2, i3.trans htl, by omega, i5, ?_, fun hf => i7 (by omega)⟩
      rw [hrc, loadStep_zero, hg, i6]
    · exact ⟨s, dw, hinv, Kept.refl s, rfl, Nat.le_refl _, (hdw.size hK).2.1,
        loadStep_congr _ _ _ _ fun s1 h => hz ⟨s1, h⟩, fun _ s1 h => hz ⟨s1, h⟩⟩

theorem load_eq (F : Fmt) (hC : CutOk F) (s : Base) (c0 : Chunk) (hinv : RInv s)
    (ht : totalSize s.files < 2^62) (hbuf : s.bufWords < 2^56) (hT : (ahead F s).length < 2^56) :
    ∃ s0 dw0, RInv s0 ∧ Kept s s0 ∧ ahead F s0 = ahead F s ∧ s.bufWords + 1 ≤ dw0 ∧ dw0 ≤ 2^59 ∧
      load F s c0 = loadFin (loadStep (readChunk F s0 (loadSize dw0)) (fun _ => .error .fuel) dw0) c0 ∧
      ∀ s1, readChunk F s0 (loadSize dw0) ≠ .ok (some [], s1) := by
  have hp := pending_length_le F s
  obtain ⟨s0, dw0, i1, i2, i3, i4, i5, i6, i7⟩ :=
    loadLoop_eq F hC (2^56) (by omega) (s.overflow.length + (s.offEnd - s.offCurr) + s.files.length + 3) s
      (s.bufWords + 1) hinv ht (by omega) (DwOk_of_le _ _ _ (by omega) (by omega))
  refine ⟨s0, dw0, i1, i2, i3, i4, by omega, ?_, i7 (by unfold loadM; omega)⟩
  rw [load_unfold, loadResize_spec _ (by omega), loadFuel_spec, i6]

/-- `hcut`: `FindLastRecordBegin` accepts the buffers it may be given (binary: the first `4 * w` bytes of the look-ahead), with
`Q` of the buffer and the cut.  The conclusion is `RC` without `small`, in terms of the chunk: `false` is `eof`; `true` is `cut`,
with `Q` in place of the equation of `FindLastRecordBegin`, or `whole` -/
theorem load_run (F : Fmt) (hC : CutOk F) (Q : Bytes → Nat → Prop) (s : Base) (c0 : Chunk) (hinv : RInv s)
    (ht : totalSize s.files < 2^62) (hbuf : s.bufWords < 2^56) (hT : (ahead F s).length < 2^56)
    (hcut : ∀ buf, buf ≠ [] →
      (F.isText = false → ∃ w, s.bufWords ≤ w ∧ buf = (ahead F s).take (4 * w) ∧ buf.length = 4 * w) →
      ∃ cut, F.findLastRecordBegin buf = .ok cut ∧ Q buf cut) :
    ∃ ok s' c', load F s c0 = .ok (ok, s', c') ∧ Kept s s' ∧ RInv s' ∧
    (ok = false → c'.rest = c0.rest ∧ c'.begin = c0.begin ∧ ahead F s = [] ∧ s'.overflow = [] ∧ pending F s' = []) ∧
    (ok = true →
      c'.begin = 0 ∧ c'.rest ≠ [] ∧ c'.begin + c'.rest.length < 4 * c'.dataWords ∧
      ((∃ buf cut, Q buf cut ∧ c'.rest = buf.take cut ∧ s'.overflow = buf.drop cut ∧
          TakenOff F (ahead F s) s' buf) ∨
       (F.isText = false ∧ c'.rest = ahead F s ∧ s'.overflow = [] ∧ pending F s' = []))) := by
  obtain ⟨s0, dw0, i1, i2, i3, i4, i5, hL, hne⟩ := load_eq F hC s c0 hinv ht hbuf hT
  have hls := loadSize_spec dw0 (by omega) (by omega)
  have hm := readChunk_rc F s0 _ i1 (i2.files ▸ ht) (show loadSize dw0 < 2^62 by omega)
  have hk := fun r s' h => i2.trans (readChunk_kept F s0 (loadSize dw0) r s' h)
  have hcut' := fun buf hb (hbin : F.isText = false → buf = (ahead F s0).take (loadSize dw0) ∧ buf.length = loadSize dw0) =>
    hcut buf hb fun h => ⟨dw0 - 1, by omega, by rw [← i3, ← hls]; exact hbin h⟩
  rw [hL, ← i3]
  generalize hrc : readChunk F s0 (loadSize dw0) = x at hm
  cases hm with
  | small => exact absurd hrc (hne _)
  | eof j1 h1 h2 h3 => exact ⟨false, _, _, rfl, hk _ _ hrc, j1, fun _ => ⟨rfl, rfl, h1, h2, h3⟩, nofun⟩
  | whole c j1 hb hc hl he h2 h3 =>
    cases c with
    | nil => exact absurd rfl hc
    | cons a l =>
      exact ⟨true, _, _, rfl, hk _ _ hrc, j1, nofun,
        fun _ => ⟨rfl, hc, by show 0 + (a :: l).length < 4 * dw0; omega, Or.inr ⟨hb, he, h2, h3⟩⟩⟩
  | cut buf cut j1 hc1 hov hlo hle hbin hcons =>
    obtain ⟨cut2, hc2, hQ⟩ := hcut' buf (List.ne_nil_of_length_pos (Nat.zero_lt_of_lt hlo)) hbin
    obtain rfl : cut2 = cut := Except.ok.inj (hc2.symm.trans hc1)
    cases hc : buf.take cut2 with
    | nil => rw [hc] at hrc; exact absurd hrc (hne _)
    | cons a l =>
      have := List.length_take_le' cut2 buf
      rw [hc] at this
      exact ⟨true, _, _, rfl, hk _ _ hrc, j1, nofun, fun _ => ⟨rfl, nofun, by show 0 + (a :: l).length < 4 * dw0; omega,
        Or.inl ⟨buf, cut2, hQ, hc.symm, hov, hcons⟩⟩⟩
  | err buf e he hb hbin =>
    obtain ⟨cut, hc, -⟩ := hcut' buf hb hbin
    rw [hc] at he; cases he

end DmlcModel.Split
