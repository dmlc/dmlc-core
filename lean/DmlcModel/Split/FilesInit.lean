/-
`InputSplitBase::Init` on any URI, matcher and recursion flag: what a successful file list consists of, the offset vector
`file_offset_`, and the bridge from a splitter constructed from URI + file system to the splitter constructed from the
list of file contents (the object of the cover theorems).
-/
import DmlcModel.Split.FilesListing
import DmlcModel.Split.FilesSpec
import DmlcModel.Split.Spec

namespace DmlcModel.Split
open DmlcModel DmlcModel.Gen.Split

variable (rx : Name → Name → Bool) (fs : FileSys)

attribute [local instance] lawfulBEqByte

def kept (i : Info) : Bool := iiKeepListed i.size (i.kind == .file)

theorem keepListed_iff (d : Info) : kept d = true ↔ d.size ≠ 0 ∧ d.kind = .file := by
  simp [kept, iiKeepListed]

/-- the directory branch of `infoOne` -/
def keptListing (fs : FileSys) (rc : Bool) (nm : Name) : Except Err (List Info) :=
  match (if rc then listDirectoryRecursive fs nm else .ok (listDirectory fs nm)) with
  | .error e => .error e
  | .ok dfiles => .ok (dfiles.filter kept)

theorem infoOne_file (rc : Bool) (nm : Name) (e : Name × Bytes) (hf : fs.find? (fun e => e.1 == nm) = some e) :
    infoOne fs rc nm = .ok (if e.2.isEmpty then [] else [{ name := nm, size := e.2.length, kind := .file }]) := by
  unfold infoOne getPathInfo iiKeepFile
  rw [hf]
  obtain ⟨n, c⟩ := e
  cases c <;> rfl

theorem infoOne_nofile (rc : Bool) (nm : Name) (hf : fs.find? (fun e => e.1 == nm) = none) :
    infoOne fs rc nm = if isDirOf fs nm then keptListing fs rc nm else .error .check := by
  unfold infoOne getPathInfo keptListing
  rw [hf]
  cases isDirOf fs nm <;> rfl

theorem keptListing_entries (rc : Bool) (nm : Name) (a : List Info) (h : keptListing fs rc nm = .ok a) :
    ∀ i ∈ a, i.size ≠ 0 ∧ Below fs nm i := by
  intro i hi
  unfold keptListing at h
  cases rc with
  | false =>
    injection h with h
    subst h
    obtain ⟨h1, h2⟩ := List.mem_filter.1 hi
    rw [keepListed_iff] at h2
    exact ⟨h2.1, Below.here nm i (List.mem_filter.2 ⟨h1, by rw [h2.2]; rfl⟩)⟩
  | true =>
    rw [if_pos rfl] at h
    cases hl : listDirectoryRecursive fs nm with
    | error e => rw [hl] at h; cases h
    | ok l =>
      rw [hl] at h
      injection h with h
      subst h
      obtain ⟨h1, h2⟩ := List.mem_filter.1 hi
      exact ⟨((keepListed_iff i).1 h2).1, (listDirectoryRecursive_mem fs nm l hl i).1 h1⟩

theorem infoOne_entries (rc : Bool) (nm : Name) (a : List Info) (h : infoOne fs rc nm = .ok a) :
    ∀ i ∈ a, i.size ≠ 0 ∧ ∃ e ∈ fs, i = { name := e.1, size := e.2.length, kind := .file } := by
  intro i hi
  cases hf : fs.find? (fun e => e.1 == nm) with
  | some e =>
    rw [infoOne_file fs rc nm e hf] at h
    injection h with h
    subst h
    have hn : e.1 = nm := by simpa using List.find?_some hf
    cases hc : e.2 with
    | nil => rw [hc] at hi; cases hi
    | cons b t =>
      rw [hc] at hi
      refine ⟨by rw [List.mem_singleton.1 hi]; exact Nat.succ_ne_zero _, e, List.mem_of_find?_eq_some hf, ?_⟩
      rw [List.mem_singleton.1 hi, hn, hc]
  | none =>
    rw [infoOne_nofile fs rc nm hf] at h
    split at h
    · obtain ⟨h1, h2⟩ := keptListing_entries fs rc nm a h i hi
      exact ⟨h1, below_entry fs nm i h2⟩
    · cases h

theorem infoAll_eq_ok (rc : Bool) (g : Name → List Info) : ∀ (nms : List Name),
    (∀ nm ∈ nms, infoOne fs rc nm = .ok (g nm)) → infoAll fs rc nms = .ok (nms.flatMap g) := by
  intro nms
  induction nms with
  | nil => intro _; rfl
  | cons nm rest ih =>
    intro h
    rw [infoAll, h nm (List.mem_cons_self ..), ih (fun x hx => h x (List.mem_cons_of_mem _ hx))]
    rfl

def listedBy (fs : FileSys) (rc : Bool) (nm : Name) : List Info := (okOf (infoOne fs rc nm)).getD []

theorem listedBy_ok (rc : Bool) (nm : Name) (a : List Info) (h : infoOne fs rc nm = .ok a) :
    listedBy fs rc nm = a := by
  unfold listedBy
  rw [h]
  rfl

theorem infoAll_ok (rc : Bool) : ∀ (nms : List Name) (res : List Info), infoAll fs rc nms = .ok res →
    (∀ nm ∈ nms, infoOne fs rc nm = .ok (listedBy fs rc nm)) ∧ res = nms.flatMap (listedBy fs rc) := by
  intro nms
  induction nms with
  | nil =>
    intro res h
    injection h with h
    exact ⟨fun _ hx => (nomatch hx), h.symm⟩
  | cons nm rest ih =>
    intro res h
    rw [infoAll] at h
    cases h1 : infoOne fs rc nm with
    | error e => rw [h1] at h; cases h
    | ok a =>
      cases h2 : infoAll fs rc rest with
      | error e => rw [h1, h2] at h; cases h
      | ok b =>
        rw [h1, h2] at h
        injection h with h
        obtain ⟨g1, g2⟩ := ih b h2
        rw [List.forall_mem_cons, List.flatMap_cons, listedBy_ok fs rc nm a h1, ← g2]
        exact ⟨⟨h1, g1⟩, h.symm⟩


theorem initInputFileInfo_of_infoAll (uri : Bytes) (rc : Bool) (l : List Info)
    (h : infoAll fs rc (convertToURIs rx fs uri) = .ok l) :
    initInputFileInfo rx fs uri rc = (if l.isEmpty then .error .check else .ok l) := by
  unfold initInputFileInfo
  rw [h]
  cases l <;> rfl

theorem initInputFileInfo_ok (uri : Bytes) (rc : Bool) (infos : List Info)
    (h : initInputFileInfo rx fs uri rc = .ok infos) :
    infoAll fs rc (convertToURIs rx fs uri) = .ok infos ∧ infos ≠ [] := by
  cases h1 : infoAll fs rc (convertToURIs rx fs uri) with
  | error e => unfold initInputFileInfo at h; rw [h1] at h; cases h
  | ok l =>
    rw [initInputFileInfo_of_infoAll rx fs uri rc l h1] at h
    cases l with
    | nil => cases h
    | cons a t => injection h with h; exact ⟨congrArg _ h, h ▸ List.cons_ne_nil a t⟩

theorem contentOf_of_mem (hU : fs.Pairwise (fun a b => a.1 ≠ b.1)) (nm : Name) (c : Bytes)
    (h : (nm, c) ∈ fs) : contentOf fs nm = c := by
  unfold contentOf
  induction fs with
  | nil => cases h
  | cons a t ih =>
    rw [List.pairwise_cons] at hU
    rw [List.find?_cons]
    rcases List.mem_cons.1 h with h | h
    · subst h
      simp
    · have : (a.1 == nm) = false := by simpa using hU.1 _ h
      rw [this]
      exact ih hU.2 h

theorem initInputFileInfo_entries (uri : Bytes) (rc : Bool) (infos : List Info)
    (hU : fs.Pairwise (fun a b => a.1 ≠ b.1)) (h : initInputFileInfo rx fs uri rc = .ok infos) :
    infos ≠ [] ∧ ∀ i ∈ infos, i.kind = .file ∧ i.size ≠ 0 ∧
      (∃ c, (i.name, c) ∈ fs ∧ contentOf fs i.name = c ∧ i.size = c.length) := by
  obtain ⟨h1, h2⟩ := initInputFileInfo_ok rx fs uri rc infos h
  obtain ⟨g1, g2⟩ := infoAll_ok fs rc _ infos h1
  refine ⟨h2, fun i hi => ?_⟩
  rw [g2] at hi
  obtain ⟨nm, hnm, hi⟩ := List.mem_flatMap.1 hi
  obtain ⟨hs, e, he, rfl⟩ := infoOne_entries fs rc nm _ (g1 nm hnm) i hi
  exact ⟨rfl, hs, e.2, he, contentOf_of_mem fs hU _ _ he, rfl⟩

theorem initOffset_spec (prev size : Nat) (h : prev + size < 2^64) : initOffset prev size = prev + size :=
  Nat.mod_eq_of_lt h

/-- `file_offset_` is the vector the Base model's `filePtrOf` searches -/
theorem initOffsets_eq_offsetsFrom : ∀ (infos : List Info) (acc : Nat),
    (∀ i ∈ infos, i.size = (contentOf fs i.name).length) → acc + (infos.map (·.size)).sum < 2^64 →
    initOffsets acc infos = offsetsFrom acc (infos.map (fun i => contentOf fs i.name)) := by
  intro infos
  induction infos with
  | nil => intro acc _ _; rfl
  | cons f t ih =>
    intro acc hsz h
    rw [List.map_cons, List.sum_cons] at h
    rw [initOffsets, List.map_cons, offsetsFrom, initOffset_spec _ _ (by omega),
      ih _ (fun i hi => hsz i (List.mem_cons_of_mem _ hi)) (by omega), hsz f (List.mem_cons_self ..)]

/-- below 2^64: no `size_t` wrap-around -/
theorem initOffsets_prefix_sums : ∀ (infos : List Info) (acc : Nat), acc + (infos.map (·.size)).sum < 2^64 →
    initOffsets acc infos = (List.range (infos.length + 1)).map (fun j => acc + ((infos.take j).map (·.size)).sum) := by
  intro infos
  induction infos with
  | nil => intro acc _; rfl
  | cons f t ih =>
    intro acc h
    rw [List.map_cons, List.sum_cons] at h
    rw [List.length_cons, List.range_succ_eq_map, initOffsets, initOffset_spec _ _ (by omega), ih _ (by omega),
      List.map_cons, List.map_map]
    congr 1
    apply List.map_congr_left
    intro j _
    simp only [Function.comp, List.take_succ_cons, List.map_cons, List.sum_cons]
    omega

theorem partBlobsUri_eq (F : Fmt) (rx : Name → Name → Bool) (fs : FileSys) (uri : Bytes) (rc : Bool) (infos : List Info)
    (h : initInputFileInfo rx fs uri rc = .ok infos) (k n w dw : Nat) (pick : Nat → Bool) :
    partBlobsUri F rx fs uri rc k n w dw pick = partBlobs F (infos.map (fun i => contentOf fs i.name)) k n w dw pick := by
  unfold partBlobsUri partBlobs mkStUri mkSt mkBaseUri
  rw [h]
  simp only []
  cases mkBase F (infos.map (fun i => contentOf fs i.name)) k n w dw <;> rfl

theorem partBlobsUri_error (F : Fmt) (rx : Name → Name → Bool) (fs : FileSys) (uri : Bytes) (rc : Bool) (e : Err)
    (h : initInputFileInfo rx fs uri rc = .error e) (k n w dw : Nat) (pick : Nat → Bool) :
    partBlobsUri F rx fs uri rc k n w dw pick = .error e := by
  unfold partBlobsUri mkStUri mkBaseUri
  rw [h]

theorem contents_of_ok (uri : Bytes) (rc : Bool) (infos : List Info)
    (hU : fs.Pairwise (fun a b => a.1 ≠ b.1)) (h : initInputFileInfo rx fs uri rc = .ok infos) :
    infos.map (fun i => contentOf fs i.name) ≠ [] ∧ (∀ f ∈ infos.map (fun i => contentOf fs i.name), f ≠ []) ∧
    (∀ i ∈ infos, i.size = (contentOf fs i.name).length) := by
  obtain ⟨h1, h2⟩ := initInputFileInfo_entries rx fs uri rc infos hU h
  refine ⟨fun hn => h1 (List.map_eq_nil_iff.1 hn), ?_, ?_⟩
  · intro f hf hn
    obtain ⟨i, hi, hfi⟩ := List.mem_map.1 hf
    obtain ⟨_, g2, c, _, g4, g5⟩ := h2 i hi
    rw [← g4, hfi, hn] at g5
    exact g2 g5
  · intro i hi
    obtain ⟨_, _, c, _, g4, g5⟩ := h2 i hi
    rw [g4, g5]

end DmlcModel.Split
