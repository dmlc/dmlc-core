/-
What `ResetPartition` computes in terms of `rawBnd`, `snap`, `bnd` (Spec.lean), for any format: the clean state between its two
boundaries (`resetPartition_bnd`).  `snap` is unfolded in `snap_start` / `snap_inside` only, `resetPartition` through `rpCore`.
-/
import DmlcModel.Split.OffsetLemmas
import DmlcModel.Split.Defs
import DmlcModel.Split.Unfold

namespace DmlcModel.Split
open DmlcModel DmlcModel.Gen.Split

/-- the early returns of `ResetPartition` / `BeforeFirst` leave nothing buffered: either the source has the clearing statements
(fix C05-1: both constants are `true`), or nothing is buffered in `s` anyway (a freshly constructed object) -/
def ClearsOk (s : Base) : Prop :=
  (rpEmptyClears = true ∧ bfEmptyClears = true) ∨ (s.chunk.rest = [] ∧ s.overflow = [])

namespace SnapAux

theorem ceil_le (total n : Nat) (hn0 : 0 < n) : (total + n - 1) / n ≤ total := by
  have h1 : (total + n - 1) / n < total + 1 := by
    rw [Nat.div_lt_iff_lt_mul hn0]
    have h2 : total ≤ total * n := Nat.le_mul_of_pos_right total hn0
    have e : (total + 1) * n = total * n + n := by rw [Nat.add_mul, Nat.one_mul]
    rw [e]; omega
  omega

theorem le_ceil_mul (total n : Nat) (hn0 : 0 < n) : total ≤ (total + n - 1) / n * n := by
  have h1 := Nat.div_add_mod (total + n - 1) n
  have h2 := Nat.mod_lt (total + n - 1) hn0
  rw [Nat.mul_comm]
  generalize (total + n - 1) / n = q at *
  generalize (total + n - 1) % n = r at *
  omega

end SnapAux

/-! ### 1. arithmetic

`total < 2^62` and `n < 2^32` (`nsplit`, and `rank + 1` computed in `unsigned`) keep every `size_t` expression of
`ResetPartition` below the wrap: `ntotal + nsplit`, the aligned step `nstep ≤ total / n + 4`, and `nstep * (rank + 1) < 2^63`
(`step_mul_lt`). -/

theorem rpStepRaw_spec (total n : Nat) (ht : total < 2^62) (hn0 : 0 < n) (hn : n < 2^32) :
    rpStepRaw total n = (total + n - 1) / n := by
  unfold rpStepRaw
  rw [u64_of_lt (by omega : total + n < 2^64), sub64_of_le (by omega) (by omega)]

theorem rpStepAlign_spec (st a : Nat) (hs : st < 2^62) (ha : a = 1 ∨ a = 4) :
    rpStepAlign st a = (st + a - 1) / a * a := by
  have h1 : u64 (st + a) = st + a := u64_of_lt (by omega)
  have h2 : sub64 (st + a) 1 = st + a - 1 := sub64_of_le (by omega) (by omega)
  unfold rpStepAlign
  rw [h1, h2, u64_of_lt (Nat.lt_of_le_of_lt (Nat.div_mul_le_self _ _) (by omega))]

namespace SnapAux

theorem rpStepRaw_le (total n : Nat) (ht : total < 2^62) (hn0 : 0 < n) (hn : n < 2^32) :
    rpStepRaw total n ≤ total := by
  rw [rpStepRaw_spec total n ht hn0 hn]; exact ceil_le total n hn0

theorem step_le (total n a : Nat) (ht : total < 2^62) (hn0 : 0 < n) (hn : n < 2^32)
    (ha : a = 1 ∨ a = 4) :
    rpStepRaw total n ≤ rpStepAlign (rpStepRaw total n) a ∧
    rpStepAlign (rpStepRaw total n) a ≤ rpStepRaw total n + 3 := by
  have hq := rpStepRaw_le total n ht hn0 hn
  rw [rpStepAlign_spec _ a (by omega) ha]
  rcases ha with rfl | rfl <;> omega

theorem step_mul_lt (total n a j : Nat) (ht : total < 2^62) (hn0 : 0 < n) (hn : n < 2^32)
    (ha : a = 1 ∨ a = 4) (hj : j ≤ n) :
    rpStepAlign (rpStepRaw total n) a * j < 2^63 := by
  have ⟨_, h2⟩ := step_le total n a ht hn0 hn ha
  have h3 : rpStepAlign (rpStepRaw total n) a * j ≤ (rpStepRaw total n + 3) * n := Nat.mul_le_mul h2 hj
  have h4 : rpStepRaw total n * n ≤ total + n - 1 := by
    rw [rpStepRaw_spec total n ht hn0 hn]; exact Nat.div_mul_le_self _ _
  have e : (rpStepRaw total n + 3) * n = rpStepRaw total n * n + 3 * n := Nat.add_mul ..
  omega

theorem total_le_step_mul (total n a : Nat) (ht : total < 2^62) (hn0 : 0 < n) (hn : n < 2^32)
    (ha : a = 1 ∨ a = 4) :
    total ≤ rpStepAlign (rpStepRaw total n) a * n := by
  have ⟨h1, _⟩ := step_le total n a ht hn0 hn ha
  have h3 : rpStepRaw total n * n ≤ rpStepAlign (rpStepRaw total n) a * n := Nat.mul_le_mul_right n h1
  have h4 : total ≤ rpStepRaw total n * n := by
    rw [rpStepRaw_spec total n ht hn0 hn]; exact le_ceil_mul total n hn0
  omega

end SnapAux
open SnapAux

theorem rpBegin_eq_rawBnd (F : Fmt) (files : List Bytes) (k n : Nat) (ha : F.align = 1 ∨ F.align = 4)
    (ht : totalSize files < 2^62) (hk : k < n) (hn : n < 2^32) :
    rpBegin (rpStepAlign (rpStepRaw (totalSize files) n) F.align) k (totalSize files)
      = rawBnd F files n k := by
  have h := step_mul_lt (totalSize files) n F.align k ht (Nat.zero_lt_of_lt hk) hn ha (Nat.le_of_lt hk)
  unfold rpBegin rawBnd
  rw [u64_of_lt (by omega)]

theorem rpEnd_eq_rawBnd (F : Fmt) (files : List Bytes) (k n : Nat) (ha : F.align = 1 ∨ F.align = 4)
    (ht : totalSize files < 2^62) (hk : k < n) (hn : n < 2^32) :
    rpEnd (rpStepAlign (rpStepRaw (totalSize files) n) F.align) k (totalSize files)
      = rawBnd F files n (k + 1) := by
  have h := step_mul_lt (totalSize files) n F.align (k + 1) ht (Nat.zero_lt_of_lt hk) hn ha hk
  unfold rpEnd rawBnd
  rw [u32_of_lt (by omega), u64_of_lt (by omega)]

theorem rawBnd_zero (F : Fmt) (files : List Bytes) (n : Nat) : rawBnd F files n 0 = 0 := by
  unfold rawBnd; rw [Nat.mul_zero]; exact Nat.zero_min _

theorem rawBnd_le (F : Fmt) (files : List Bytes) (n j : Nat) : rawBnd F files n j ≤ totalSize files := by
  unfold rawBnd; exact Nat.min_le_right _ _

theorem rawBnd_mono (F : Fmt) (files : List Bytes) (n i j : Nat) (h : i ≤ j) :
    rawBnd F files n i ≤ rawBnd F files n j := by
  unfold rawBnd
  have h1 := Nat.mul_le_mul_left (rpStepAlign (rpStepRaw (totalSize files) n) F.align) h
  simp only [Nat.min_def]
  split <;> split <;> omega

theorem rawBnd_last (F : Fmt) (files : List Bytes) (n : Nat) (ha : F.align = 1 ∨ F.align = 4)
    (ht : totalSize files < 2^62) (hn0 : 0 < n) (hn : n < 2^32) :
    rawBnd F files n n = totalSize files := by
  have h := total_le_step_mul (totalSize files) n F.align ht hn0 hn ha
  unfold rawBnd
  exact Nat.min_eq_right h

/-! ### 2. snap -/

/-- a file start; the total size counts as one -/
theorem snap_start (F : Fmt) (files : List Bytes) (x : Nat) (h : x = fileOffset files (filePtrOf files x)) :
    snap F files x = .ok x := by
  unfold snap
  simp only []
  rw [if_pos h]

theorem snap_inside (F : Fmt) (files : List Bytes) (x : Nat) (f : Bytes) (rest : List Bytes)
    (h : ¬ x = fileOffset files (filePtrOf files x)) (hd : files.drop (filePtrOf files x) = f :: rest) :
    snap F files x =
      match F.seekRecordBegin (f.drop (x - fileOffset files (filePtrOf files x))) with
      | .error e => .error e
      | .ok (n, _) => .ok (x + n) := by
  unfold snap
  simp only []
  rw [if_neg h, hd]
  simp only []
  cases F.seekRecordBegin (f.drop (x - fileOffset files (filePtrOf files x))) with
  | error e => rfl
  | ok r => rfl

theorem snap_zero (F : Fmt) (files : List Bytes) : snap F files 0 = .ok 0 :=
  snap_start F files 0 (by have := fileOffset_filePtrOf_le files 0; omega)

theorem snap_total (F : Fmt) (files : List Bytes) :
    snap F files (totalSize files) = .ok (totalSize files) :=
  snap_start F files _ (by rw [filePtrOf_of_total_le files (totalSize files) (Nat.le_refl _)]; rfl)

namespace SnapAux

theorem snap_cases (F : Fmt) (files : List Bytes) (x y : Nat) (hx : x ≤ totalSize files)
    (h : snap F files x = .ok y) :
    (x = fileOffset files (filePtrOf files x) ∧ y = x) ∨
    (∃ f n c, files.drop (filePtrOf files x) = f :: files.drop (filePtrOf files x + 1) ∧
       fileOffset files (filePtrOf files x) < x ∧ x < fileOffset files (filePtrOf files x) + f.length ∧
       fileOffset files (filePtrOf files x + 1) = fileOffset files (filePtrOf files x) + f.length ∧
       F.seekRecordBegin (f.drop (x - fileOffset files (filePtrOf files x))) = .ok (n, c) ∧
       y = x + n) := by
  by_cases hb : x = fileOffset files (filePtrOf files x)
  · rw [snap_start F files x hb] at h
    injection h with h
    exact Or.inl ⟨hb, h.symm⟩
  · right
    have hle := fileOffset_filePtrOf_le files x
    obtain ⟨f, hd, ho, hlt⟩ := drop_filePtrOf files x (interior_lt_total files x hx hb)
    rw [snap_inside F files x f _ hb hd] at h
    cases hs : F.seekRecordBegin (f.drop (x - fileOffset files (filePtrOf files x))) with
    | error e => rw [hs] at h; cases h
    | ok r =>
      obtain ⟨n, c⟩ := r
      rw [hs] at h
      injection h with h
      exact ⟨f, n, c, hd, by omega, hlt, ho, hs, h.symm⟩

end SnapAux

theorem snap_bounds (F : Fmt) (files : List Bytes) (hS : SeekOk F) (x y : Nat)
    (hx : x ≤ totalSize files) (h : snap F files x = .ok y) : x ≤ y ∧ y ≤ totalSize files := by
  rcases snap_cases F files x y hx h with ⟨_, rfl⟩ | ⟨f, n, c, hd, h1, h2, h3, hs, rfl⟩
  · exact ⟨Nat.le_refl _, hx⟩
  · have := (hS.1 _ _ _ hs).1
    rw [List.length_drop] at this
    have := fileOffset_le_total files (filePtrOf files x + 1)
    omega

theorem snap_mono (F : Fmt) (files : List Bytes) (hS : SeekOk F)
    (x x' y y' : Nat) (hxx : x ≤ x') (hx' : x' ≤ totalSize files)
    (h : snap F files x = .ok y) (h' : snap F files x' = .ok y') : y ≤ y' := by
  have hb' := snap_bounds F files hS x' y' hx' h'
  rcases snap_cases F files x y (Nat.le_trans hxx hx') h with ⟨_, rfl⟩ | ⟨f, n, c, hd, h1, h2, h3, hs, rfl⟩
  · exact Nat.le_trans hxx hb'.1
  · have hn := (hS.1 _ _ _ hs).1
    rw [List.length_drop] at hn
    by_cases hin : x' < fileOffset files (filePtrOf files x + 1)
    · have hfp : filePtrOf files x' = filePtrOf files x :=
        filePtrOf_unique files x' _ (by omega) hin
      rcases snap_cases F files x' y' hx' h' with ⟨hb, _⟩ | ⟨f', m, d, hd', h1', h2', h3', hs', rfl⟩
      · rw [hfp] at hb; omega
      · rw [hfp] at hd' hs' h2'
        rw [hd] at hd'
        injection hd' with hff _
        subst hff
        have := hS.2 f _ _ n m c d (by omega : x - fileOffset files (filePtrOf files x)
          ≤ x' - fileOffset files (filePtrOf files x)) (by omega) hs hs'
        omega
    · omega

theorem okVal_ok (y : Nat) : okVal (.ok y) = y := rfl

/-! ### 3. `resetPartition` -/

theorem beforeFirst_eq (s : Base) :
    beforeFirst s =
      if s.offEnd ≤ s.offBegin then
        .ok (if bfEmptyClears then { s with chunk := s.chunk.clear, overflow := [] } else s)
      else
        match s.fpos with
        | none => .error .uninit
        | some _ =>
          if s.filePtr ≠ filePtrOf s.files s.offBegin ∧ s.files.length ≤ filePtrOf s.files s.offBegin then .error .oob
          else .ok { s with filePtr := filePtrOf s.files s.offBegin,
                            fpos := some (sub64 s.offBegin (fileOffset s.files (filePtrOf s.files s.offBegin))),
                            offCurr := s.offBegin, chunk := s.chunk.clear, overflow := [] } := by
  unfold beforeFirst
  simp only [bfEmpty, bfReopen, ge_iff_le, decide_eq_true_eq, bne_iff_ne, ne_eq]
  rfl

namespace SnapAux

theorem rpEndX_eq_snap (F : Fmt) (files : List Bytes) (oe : Nat) (hoe : oe ≤ totalSize files)
    (ht : totalSize files < 2^62) : rpEndX F files oe = snap F files oe := by
  have hle := fileOffset_filePtrOf_le files oe
  unfold rpEndX
  by_cases hb : oe = fileOffset files (filePtrOf files oe)
  · rw [snap_start F files oe hb, if_neg (by simp [rpSnapEnd]; exact hb)]
  · rw [if_pos (by simp [rpSnapEnd]; exact hb)]
    have hxt := interior_lt_total files oe hoe hb
    have ⟨h1, _⟩ := filePtrOf_lt files oe hxt
    rw [if_neg (by omega)]
    have e : rpSeekEnd oe (fileOffset files (filePtrOf files oe))
        = oe - fileOffset files (filePtrOf files oe) := by
      unfold rpSeekEnd; exact DmlcModel.sub64_of_le (Nat.lt_of_le_of_lt hoe (Nat.lt_trans ht (by decide))) hle
    rw [e]
    obtain ⟨f, hd, _, _⟩ := drop_filePtrOf files oe hxt
    rw [hd, snap_inside F files oe f _ hb hd]
    simp only []
    cases F.seekRecordBegin (f.drop (oe - fileOffset files (filePtrOf files oe))) with
    | error e => rfl
    | ok r => rfl

theorem rpBeginX_of_snap (F : Fmt) (files : List Bytes) (ob : Nat) (f : Bytes) (rest : List Bytes)
    (hd : files.drop (filePtrOf files ob) = f :: rest) (ht : totalSize files < 2^62)
    (hob : ob ≤ totalSize files) (b : Nat) (h : snap F files ob = .ok b) :
    ∃ pos, rpBeginX F files ob f = .ok (b, pos) := by
  have hle := fileOffset_filePtrOf_le files ob
  unfold rpBeginX
  by_cases hb : ob = fileOffset files (filePtrOf files ob)
  · rw [snap_start F files ob hb] at h
    rw [if_neg (by simp [rpSnapBegin]; exact hb)]
    exact ⟨0, by rw [Except.ok.inj h]⟩
  · rw [snap_inside F files ob f rest hb hd] at h
    rw [if_pos (by simp [rpSnapBegin]; exact hb), show rpSeekBegin ob _ = ob - _ from
      DmlcModel.sub64_of_le (Nat.lt_of_le_of_lt hob (Nat.lt_trans ht (by decide))) hle]
    cases hs : F.seekRecordBegin (f.drop (ob - fileOffset files (filePtrOf files ob))) with
    | error e0 => rw [hs] at h; cases h
    | ok r =>
      rw [hs] at h
      exact ⟨_, by rw [← Except.ok.inj h]⟩

theorem ite_clear (b : Bool) (t r : Base) (hc : b = true ∨ (t.chunk.rest = [] ∧ t.overflow = []))
    (hr : (if b then { t with chunk := t.chunk.clear, overflow := [] } else t) = r) :
    r.chunk.rest = [] ∧ r.overflow = [] ∧ r.files = t.files ∧ r.offBegin = t.offBegin ∧
    r.offEnd = t.offEnd ∧ r.bufWords = t.bufWords ∧ r.chunk.dataWords = t.chunk.dataWords := by
  subst hr
  cases b with
  | true =>
    rw [if_pos rfl]
    exact ⟨rfl, rfl, rfl, rfl, rfl, rfl, rfl⟩
  | false =>
    rw [if_neg (by decide)]
    rcases hc with hc | ⟨h1, h2⟩
    · cases hc
    · exact ⟨h1, h2, rfl, rfl, rfl, rfl, rfl⟩

theorem beforeFirst_open (t : Base) (p : Nat) (hp : t.fpos = some p) (hne : ∀ f ∈ t.files, f ≠ [])
    (hc : ClearsOk t) (hoe : t.offEnd ≤ totalSize t.files) (ht : totalSize t.files < 2^62) :
    ∃ t', beforeFirst t = .ok t' ∧ Clean t' ∧ RInv t' ∧ t'.files = t.files ∧ t'.offBegin = t.offBegin ∧
      t'.offEnd = t.offEnd ∧ t'.bufWords = t.bufWords ∧ t'.chunk.dataWords = t.chunk.dataWords := by
  rw [beforeFirst_eq]
  by_cases hle : t.offEnd ≤ t.offBegin
  · rw [if_pos hle]
    obtain ⟨r1, r2, r3, r4, r5, r6, r7⟩ :=
      ite_clear bfEmptyClears t _ (hc.elim (fun hc => Or.inl hc.2) Or.inr) rfl
    refine ⟨_, rfl, ⟨r1, r2, Or.inl ?_⟩, ⟨?_, ?_, Or.inl ?_⟩, r3, r4, r5, r6, r7⟩
    · rw [r4, r5]; exact hle
    · rw [r3]; exact hne
    · rw [r3, r5]; exact hoe
    · rw [r4, r5]; exact hle
  · rw [if_neg hle]
    have hlt : t.offBegin < t.offEnd := by omega
    have hxt : t.offBegin < totalSize t.files := Nat.lt_of_lt_of_le hlt hoe
    have hle := fileOffset_filePtrOf_le t.files t.offBegin
    obtain ⟨f, hd, ho, hlt'⟩ := drop_filePtrOf t.files t.offBegin hxt
    have e : sub64 t.offBegin (fileOffset t.files (filePtrOf t.files t.offBegin))
        = t.offBegin - fileOffset t.files (filePtrOf t.files t.offBegin) :=
      DmlcModel.sub64_of_le (by omega) hle
    rw [hp]
    simp only []
    rw [if_neg (by have := (filePtrOf_lt t.files t.offBegin hxt).1; omega)]
    refine ⟨_, rfl, ⟨rfl, rfl, Or.inr ⟨rfl, rfl, ?_⟩⟩, ⟨hne, hoe, Or.inr ?_⟩, rfl, rfl, rfl, rfl, rfl⟩
    · show some (sub64 _ _) = some _
      rw [e]
    · refine ⟨_, f, rfl, hd, ?_, ?_, Nat.le_refl _, Nat.le_of_lt hlt⟩
      · show sub64 _ _ ≤ _
        rw [e]; omega
      · show t.offBegin = fileOffset t.files (filePtrOf t.files t.offBegin) + sub64 _ _
        rw [e]; omega

theorem rpCore_empty_spec (F : Fmt) (s : Base) (ob : Nat) (hc : ClearsOk s) :
    ∃ s', rpCore F s ob ob = .ok s' ∧ s'.chunk.rest = [] ∧ s'.overflow = [] ∧ s'.files = s.files ∧
      s'.offBegin = ob ∧ s'.offEnd = ob ∧ s'.bufWords = s.bufWords ∧
      s'.chunk.dataWords = s.chunk.dataWords := by
  rw [rpCore_eq, if_pos (by simp [rpEmpty])]
  exact ⟨_, rfl, ite_clear rpEmptyClears { s with offBegin := ob, offEnd := ob, offCurr := ob } _
    (hc.elim (fun hc => Or.inl hc.1) Or.inr) rfl⟩

theorem rpCore_of_snap (F : Fmt) (s : Base) (ob oe : Nat) (ht : totalSize s.files < 2^62)
    (hlt : ob < oe) (hoe : oe ≤ totalSize s.files) (b e : Nat)
    (hb : snap F s.files ob = .ok b) (he : snap F s.files oe = .ok e) :
    ∃ pos, rpCore F s ob oe = beforeFirst { s with offBegin := b, offEnd := e, offCurr := ob,
                                                   filePtr := filePtrOf s.files ob, fpos := some pos } := by
  have hot := Nat.lt_of_lt_of_le hlt hoe
  obtain ⟨fB, hdB, _, _⟩ := drop_filePtrOf s.files ob hot
  obtain ⟨pos, hB⟩ := rpBeginX_of_snap F s.files ob fB _ hdB ht (Nat.le_of_lt hot) b hb
  refine ⟨pos, ?_⟩
  rw [rpCore_eq, if_neg (by simp [rpEmpty]; omega), match5_ok _ _ e ((rpEndX_eq_snap F s.files oe hoe ht).trans he), hdB]
  exact match1_ok _ _ b pos hB

end SnapAux

/-- when the two raw offsets coincide the code returns before snapping them (the part is empty either way) -/
theorem resetPartition_bnd (F : Fmt) (ha : F.align = 1 ∨ F.align = 4) (s : Base) (k n : Nat)
    (hne : ∀ f ∈ s.files, f ≠ []) (hc : ClearsOk s) (ht : totalSize s.files < 2^62) (hk : k < n)
    (hn : n < 2^32) (b e : Nat) (hb : bnd F s.files n k = .ok b) (he : bnd F s.files n (k + 1) = .ok e)
    (hle : e ≤ totalSize s.files) :
    ∃ s', resetPartition F s k n = .ok s' ∧ Clean s' ∧ RInv s' ∧ s'.files = s.files ∧
      s'.bufWords = s.bufWords ∧ s'.chunk.dataWords = s.chunk.dataWords ∧
      ((s'.offBegin = b ∧ s'.offEnd = e) ∨ (s'.offEnd ≤ s'.offBegin ∧ b = e)) := by
  rw [resetPartition_eq_core, if_neg (Nat.ne_of_gt (Nat.zero_lt_of_lt hk)), rpBegin_eq_rawBnd F s.files k n ha ht hk hn,
    rpEnd_eq_rawBnd F s.files k n ha ht hk hn]
  have hmono := rawBnd_mono F s.files n k (k + 1) (Nat.le_succ k)
  have hoeT := rawBnd_le F s.files n (k + 1)
  unfold bnd at hb he
  generalize rawBnd F s.files n k = ob at *
  generalize rawBnd F s.files n (k + 1) = oe at *
  by_cases heq : ob = oe
  · subst heq
    obtain ⟨s', hs', r1, r2, r3, r4, r5, r6, r7⟩ := rpCore_empty_spec F s ob hc
    have hee : s'.offEnd ≤ s'.offBegin := by rw [r4, r5]; exact Nat.le_refl _
    exact ⟨s', hs', ⟨r1, r2, Or.inl hee⟩, ⟨by rw [r3]; exact hne, by rw [r5, r3]; exact hoeT, Or.inl hee⟩,
      r3, r6, r7, Or.inr ⟨hee, Except.ok.inj (hb.symm.trans he)⟩⟩
  · obtain ⟨pos, h1⟩ := rpCore_of_snap F s ob oe ht (Nat.lt_of_le_of_ne hmono heq) hoeT b e hb he
    rw [h1]
    let t : Base := { s with offBegin := b, offEnd := e, offCurr := ob, filePtr := filePtrOf s.files ob, fpos := some pos }
    obtain ⟨s', hs', c1, c2, c3, c4, c5, c6, c7⟩ := beforeFirst_open t pos rfl hne (hc.elim Or.inl Or.inr) hle ht
    exact ⟨s', hs', c1, c2, c3, c6, c7, Or.inl ⟨c4, c5⟩⟩

end DmlcModel.Split
