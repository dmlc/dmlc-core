/-
Adjacent de-duplication by key, as `MemFS::ListDirectory` reports sub-directories.  Where the elements with a given key
are contiguous, the groups, in order of their keys, concatenate to the keyed elements in order (`groups_flatMap`).
-/
import DmlcModel.BasicLemmas

namespace DmlcModel.Split

variable {α K : Type} [DecidableEq K] (κ : α → Option K)

/-- the sub-directory entries of `listGo`; `last` is `last_sub` of `MemFS::ListDirectory` -/
def groupKeys : List α → Option K → List K
  | [], _ => []
  | x :: r, last =>
    match κ x with
    | none => groupKeys r last
    | some s => if last = some s then groupKeys r last else s :: groupKeys r (some s)

theorem mem_groupKeys_iff (s : K) : ∀ (l : List α) (last : Option K),
    (last = some s ∨ s ∈ groupKeys κ l last) ↔ (last = some s ∨ ∃ x ∈ l, κ x = some s)
  | [], _ => by simp [groupKeys]
  | x :: r, last => by
    have ih := mem_groupKeys_iff s r
    rw [groupKeys]
    cases hk : κ x with
    | none => simp [ih last, hk]
    | some t =>
      simp only []
      split
      · rename_i hl
        subst hl
        rw [ih (some t)]
        simp only [List.mem_cons, or_and_right, exists_or, exists_eq_left, hk, Option.some.injEq]
        exact ⟨fun h => h.elim Or.inl fun h => Or.inr (Or.inr h), fun h => h.elim Or.inl fun h => h.elim Or.inl Or.inr⟩
      · have := ih (some t)
        simp only [Option.some.injEq] at this
        simp only [List.mem_cons, or_and_right, exists_or, exists_eq_left, hk, Option.some.injEq, eq_comm (a := s), this]

theorem mem_groupKeys_none (s : K) (l : List α) : s ∈ groupKeys κ l none ↔ ∃ x ∈ l, κ x = some s := by
  simpa using mem_groupKeys_iff κ s l none

def Run (s : K) (l : List α) : Prop := ∀ l1 y l2, l = l1 ++ y :: l2 → κ y ≠ some s → ∀ z ∈ l2, κ z ≠ some s

def Contig : List α → Prop
  | [] => True
  | x :: r => Contig r ∧ ∀ s, κ x = some s → Run κ s r

omit [DecidableEq K] in
theorem Run.tail {s : K} {x : α} {r : List α} (h : Run κ s (x :: r)) : Run κ s r :=
  fun l1 y l2 hr => h (x :: l1) y l2 (by rw [hr]; rfl)

theorem not_mem_groupKeys (s : K) : ∀ (r : List α), Run κ s r → s ∉ groupKeys κ r (some s) := by
  intro r
  induction r with
  | nil => intro _ h; cases h
  | cons x r ih =>
    intro hrun hm
    rw [groupKeys] at hm
    cases hk : κ x with
    | none => rw [hk] at hm; exact ih hrun.tail hm
    | some t =>
      rw [hk] at hm
      simp only [] at hm
      split at hm
      · exact ih hrun.tail hm
      · rename_i hne
        have hxs : κ x ≠ some s := fun h => hne (by rw [← hk, h])
        rcases List.mem_cons.1 hm with hm | hm
        · exact hne (by rw [hm])
        · obtain ⟨z, hz, hkz⟩ := ((mem_groupKeys_iff κ s r _).1 (Or.inr hm)).resolve_left fun h => hne h.symm
          exact hrun [] x r rfl hxs z hz hkz

theorem groups_flatMap : ∀ (l : List α) (last : Option K), Contig κ l → (∀ s, last = some s → Run κ s l) →
    (last.toList ++ groupKeys κ l last).flatMap (fun s => l.filter (fun x => decide (κ x = some s))) =
      l.filter (fun x => (κ x).isSome) := by
  intro l
  induction l with
  | nil => intro last _ _; simp
  | cons x r ih =>
    intro last hc hrun
    cases hk : κ x with
    | none =>
      have hB : ∀ s, (x :: r).filter (fun y => decide (κ y = some s)) = r.filter (fun y => decide (κ y = some s)) :=
        fun s => List.filter_cons_of_neg (by simp [hk])
      rw [groupKeys, hk, List.filter_cons_of_neg (by simp [hk])]
      simp only [hB]
      exact ih last hc.1 (fun s hs => (hrun s hs).tail)
    | some t =>
      have hrt : Run κ t r := hc.2 t hk
      -- the run of `x` comes first, then the groups of the rest
      have key : (t :: groupKeys κ r (some t)).flatMap (fun s => (x :: r).filter (fun y => decide (κ y = some s))) =
          (x :: r).filter (fun y => (κ y).isSome) := by
        have hrest : ∀ s ∈ groupKeys κ r (some t),
            (x :: r).filter (fun y => decide (κ y = some s)) = r.filter (fun y => decide (κ y = some s)) := by
          intro s hs
          refine List.filter_cons_of_neg ?_
          rw [hk, decide_eq_true_eq]
          intro h
          cases h
          exact not_mem_groupKeys κ t r hrt hs
        rw [List.flatMap_cons, flatMap_congr_mem hrest, List.filter_cons_of_pos (by simp [hk]),
          List.filter_cons_of_pos (by simp [hk]), ← ih (some t) hc.1 (fun s hs => Option.some.inj hs ▸ hrt)]
        rfl
      rw [groupKeys, hk]
      simp only []
      split
      · rename_i hl
        rw [hl]
        exact key
      · rename_i hl
        cases last with
        | none => exact key
        | some s =>
          have hxs : κ x ≠ some s := fun h => hl (by rw [← hk, h])
          have : (x :: r).filter (fun y => decide (κ y = some s)) = [] := by
            rw [List.filter_eq_nil_iff]
            intro y hy
            rw [decide_eq_true_eq]
            rcases List.mem_cons.1 hy with hy | hy
            · rw [hy]; exact hxs
            · exact hrun s rfl [] x r rfl hxs y hy
          rw [Option.toList, List.singleton_append, List.flatMap_cons, this]
          exact key


end DmlcModel.Split
