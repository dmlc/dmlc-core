/-
Assembly layer of C04, mirroring CoverText.lean: the freshly constructed bare recordio split of part `k` of `n` over `recFiles rss`
is a clean state whose pending stream is the image of the records that start between `bndR rss n k` and `bndR rss n (k+1)`,
hence a full drain delivers these records.
-/
import DmlcModel.Split.CoverText
import DmlcModel.Split.RecSnap
import DmlcModel.Split.RecDrain
import DmlcModel.RecordIO.RoundTrip

namespace DmlcModel.Split
open DmlcModel DmlcModel.Gen.Split DmlcModel.RecordIO

namespace CoverAux

theorem any_initAligned_rec (files : List Bytes) (h : ∀ f ∈ files, f.length % 4 = 0) :
    files.any (fun f => !initAligned f.length Fmt.recordio.align) = false := by
  rw [List.any_eq_false]
  intro f hf
  have h4 := h f hf
  simp only [recordio_align]
  simp [initAligned, h4]

theorem recFiles_ne_nil (rss : List (List Bytes)) (hne : rss ≠ []) : recFiles rss ≠ [] := by
  cases rss with
  | nil => exact absurd rfl hne
  | cons a t => intro h; cases h

theorem recFiles_mod4 (rss : List (List Bytes)) (hrss : RssOk rss) : ∀ f ∈ recFiles rss, f.length % 4 = 0 := by
  intro f hf
  unfold recFiles at hf
  obtain ⟨rs, hrs, rfl⟩ := List.mem_map.mp hf
  exact writeAll_length_mod4 rs (hrss rs hrs).2

end CoverAux
open CoverAux RecSnapAux

theorem blobRecords_writeAll (run : List Bytes) (h : Short run) : blobRecords false (writeAll run) = run := by
  unfold blobRecords
  simp only [Bool.false_eq_true, if_false]
  rw [readAll_writeAll run h]

theorem recordsGo_runs (pick : Nat → Bool) (bs : List Bytes) (i : Nat) (runs : List (List Bytes))
    (hl : runs.length = bs.length)
    (h : ∀ (j : Nat) (b : Bytes) (run : List Bytes), bs[j]? = some b → runs[j]? = some run →
      run ≠ [] ∧ (if pick (i + j) then run = [b] else b = writeAll run)) :
    Short runs.flatten → recordsGo pick i bs = runs.flatten := by
  refine zip_induct (P := fun i b run => run ≠ [] ∧ (if pick i then run = [b] else b = writeAll run))
    (Q := fun i bs runs => Short runs.flatten → recordsGo pick i bs = runs.flatten)
    (fun _ _ => rfl) ?_ bs runs i hl h
  intro i b bs run runs h0 ih hS
  rw [List.flatten_cons] at hS ⊢
  obtain ⟨hS1, hS2⟩ := short_append.1 hS
  show blobRecords (pick i) b ++ recordsGo pick (i + 1) bs = run ++ runs.flatten
  rw [ih hS2]
  congr 1
  have h0 : if pick i then run = [b] else b = writeAll run := h0.2
  cases hp : pick i with
  | true =>
    rw [hp, if_pos rfl] at h0
    rw [h0]
    rfl
  | false =>
    rw [hp, if_neg Bool.false_ne_true] at h0
    rw [h0, blobRecords_writeAll run hS1]

theorem short_partRecs (rss : List (List Bytes)) (hrss : RssOk rss) (n k : Nat) : Short (partRecs rss n k) :=
  short_recsIn _ (short_flatten rss hrss) _ _ _

/-- the common hypotheses of property C04 -/
structure RecSplitOk (rss : List (List Bytes)) (n w : Nat) : Prop where
  ok : RssOk rss
  ne : rss ≠ []
  total : totalSize (recFiles rss) < 2^56
  lt : n < 2^32
  w2 : 2 ≤ w
  w56 : w < 2^56

variable {rss : List (List Bytes)} {n w : Nat}

theorem RecSplitOk.recOk (h : RecSplitOk rss n w) (hn0 : 0 < n) : RecOk rss n :=
  ⟨h.ok, Nat.lt_of_lt_of_le h.total (by decide), hn0, h.lt⟩

theorem mkSt_rec_inv (h : RecSplitOk rss n w) (k dw : Nat) (hk : k < n) :
    ∃ s, mkSt Fmt.recordio (recFiles rss) k n w false dw = .ok s ∧ s.wrap = none ∧
      GInv s.base [] (recsIn rss.flatten 0 (bndR rss n k) (bndR rss n (k + 1))) ∧
      pending Fmt.recordio s.base
        = rangeStream false (recFiles rss) (bndR rss n k) (bndR rss n (k + 1)) := by
  have hR := h.recOk (Nat.zero_lt_of_lt hk)
  obtain ⟨s, hs, hwr, hC, hR', hF, hB, hp⟩ :=
    mkSt_ok Fmt.recordio (Or.inr rfl) (recFiles rss) k n w dw (recFiles_ne_nil rss h.ne) (recFiles_ne rss h.ok)
      (any_initAligned_rec _ (recFiles_mod4 rss h.ok)) hR.total hk h.lt _ _ (bnd_rec_eq hR k)
      (bnd_rec_eq hR (k + 1)) (bndR_le hR (k + 1))
  refine ⟨s, hs, hwr, ?_, hp⟩
  refine GInv_of_clean s.base hR' hC.rest hC.overflow _ (short_partRecs rss h.ok n k) ?_
    (by rw [hF]; exact h.total) (by rw [hB]; exact h.w2) (by rw [hB]; exact h.w56)
  rw [hp]
  exact rangeStream_part_rec hR k

theorem part_rec (h : RecSplitOk rss n w) (k dw : Nat) (hk : k < n) (pick : Nat → Bool) :
    ∃ (bs : List Bytes) (runs : List (List Bytes)),
      partBlobs Fmt.recordio (recFiles rss) k n w dw pick = .ok bs ∧ runs.length = bs.length ∧
      runs.flatten = recsIn rss.flatten 0 (bndR rss n k) (bndR rss n (k + 1)) ∧
      (∀ (i : Nat) (b : Bytes) (run : List Bytes), bs[i]? = some b → runs[i]? = some run →
        run ≠ [] ∧ (if pick i then run = [b] else b = writeAll run)) := by
  obtain ⟨s, hs, hwr, hG, _⟩ := mkSt_rec_inv h k dw hk
  obtain ⟨bs, s', hd, ⟨runs, h1, h2, h3⟩, _⟩ := drain_rec_correct s hwr [] _ hG pick
  exact ⟨bs, runs, partBlobs_of_mkSt _ _ _ _ _ _ _ s s' _ hs hd, h1, by rw [h2]; rfl, h3⟩

theorem recordsOf_part_rec (h : RecSplitOk rss n w) (k dw : Nat) (hk : k < n) (pick : Nat → Bool) :
    recordsOf pick (partBlobs Fmt.recordio (recFiles rss) k n w dw pick)
      = recsIn rss.flatten 0 (bndR rss n k) (bndR rss n (k + 1)) := by
  obtain ⟨bs, runs, h1, h2, h3, h4⟩ := part_rec h k dw hk pick
  rw [h1, ← h3]
  show recordsGo pick 0 bs = runs.flatten
  refine recordsGo_runs pick bs 0 runs h2 ?_ (by rw [h3]; exact short_partRecs rss h.ok n k)
  intro j b run hb hr
  rw [Nat.zero_add]
  exact h4 j b run hb hr

theorem recordsGo_true : ∀ (bs : List Bytes) (i : Nat), recordsGo (fun _ => true) i bs = bs
  | [], _ => rfl
  | b :: bs, i => congrArg (b :: ·) (recordsGo_true bs (i + 1))

theorem part_rec_records (h : RecSplitOk rss n w) (k dw : Nat) (hk : k < n) :
    partBlobs Fmt.recordio (recFiles rss) k n w dw (fun _ => true)
      = .ok (recsIn rss.flatten 0 (bndR rss n k) (bndR rss n (k + 1))) := by
  obtain ⟨bs, _, h1, _⟩ := part_rec h k dw hk (fun _ => true)
  have h' := recordsOf_part_rec h k dw hk (fun _ => true)
  rw [h1] at h' ⊢
  exact congrArg _ ((recordsGo_true bs 0).symm.trans h')

theorem parts_cover_rec (h : RecSplitOk rss n w) (dw : Nat) (hn0 : 0 < n) (pick : Nat → Nat → Bool) :
    (List.range n).flatMap
        (fun k => recordsOf (pick k) (partBlobs Fmt.recordio (recFiles rss) k n w dw (pick k)))
      = rss.flatten := by
  rw [← records_parts_telescope (h.recOk hn0)]
  apply flatMap_congr_mem
  intro k hk
  exact recordsOf_part_rec h k dw (List.mem_range.1 hk) (pick k)

end DmlcModel.Split
