/-
What the file-list theorems of C03 / C04 are stated in: canonical names, well-formed and sorted file systems, and what
one piece of the URI names without recursion, with it as a set, and with it in breadth-first order.
-/
import DmlcModel.Split.Files

namespace DmlcModel.Split
open DmlcModel DmlcModel.Gen.Split

/-- "/c1/c2/…/cm": m ≥ 1 non-empty components without '/' (47) and ';' (59) -/
def CanonName (p : Name) : Prop :=
  ∃ comps : List Bytes, comps ≠ [] ∧ (∀ c ∈ comps, c ≠ [] ∧ (47 : UInt8) ∉ c ∧ (59 : UInt8) ∉ c) ∧
    p = comps.flatMap (fun c => 47 :: c)

def CanonFs (fs : FileSys) : Prop := ∀ e ∈ fs, CanonName e.1

def NoTrail (s : Bytes) : Prop := ∀ t, s ≠ t ++ [47]

def FsOk (fs : FileSys) : Prop :=
  (∀ e ∈ fs, CanonName e.1) ∧ fs.Pairwise (fun a b => a.1 ≠ b.1) ∧
  (∀ a ∈ fs, ∀ b ∈ fs, isPrefix (a.1 ++ [47]) b.1 = false)

/-- the order of `std::map<std::string, …>`: bytewise lexicographic -/
def lexLt : Bytes → Bytes → Bool
  | _, [] => false
  | [], _ :: _ => true
  | a :: x, b :: y => decide (a < b) || (a == b && lexLt x y)

def FsSorted (fs : FileSys) : Prop := fs.Pairwise (fun a b => lexLt a.1 b.1 = true)

instance (fs : FileSys) : Decidable (FsSorted fs) := by unfold FsSorted; infer_instance

def present (fs : FileSys) (p : Name) : Bool := fs.any (fun e => e.1 == p) || isDirOf fs p

def joinSemi : List Name → Bytes
  | [] => []
  | [p] => p
  | p :: q :: r => p ++ 59 :: joinSemi (q :: r)

/-- stands for `std::regex` on metacharacter-free names: the matcher accepts at most the name itself; nothing is proved
about a real regex -/
def LiteralRx (rx : Name → Name → Bool) : Prop := ∀ p c, rx p c = true → p = c

def childrenOf (fs : FileSys) (d : Name) : List Info :=
  fs.filterMap (fun e =>
    if isPrefix (d ++ [47]) e.1 && !(e.1.drop (d.length + 1)).contains 47 && !e.2.isEmpty
    then some { name := e.1, size := e.2.length, kind := .file } else none)

def expandSpec (fs : FileSys) (p : Name) : List Info :=
  match fs.find? (fun e => e.1 == p) with
  | some e => if e.2.isEmpty then [] else [{ name := p, size := e.2.length, kind := .file }]
  | none => childrenOf fs p

def descendantsOf (fs : FileSys) (d : Name) : List Info :=
  fs.filterMap (fun e => if isPrefix (d ++ [47]) e.1 && !e.2.isEmpty
    then some { name := e.1, size := e.2.length, kind := .file } else none)

def expandSpecRec (fs : FileSys) (p : Name) : List Info :=
  match fs.find? (fun e => e.1 == p) with
  | some e => if e.2.isEmpty then [] else [{ name := p, size := e.2.length, kind := .file }]
  | none => descendantsOf fs p


def slashes (x : Bytes) : Nat := x.count 47

def filesAt (fs : FileSys) (p : Name) (k : Nat) : List Info :=
  fs.filterMap (fun e =>
    if isPrefix (p ++ [47]) e.1 && (slashes e.1 == slashes p + k + 1) && !e.2.isEmpty
    then some { name := e.1, size := e.2.length, kind := .file } else none)

def depthBound (fs : FileSys) : Nat := (fs.map (fun e => slashes e.1)).sum

def descendantsBfs (fs : FileSys) (p : Name) : List Info := (List.range (depthBound fs)).flatMap (filesAt fs p)

def expandSpecBfs (fs : FileSys) (p : Name) : List Info :=
  match fs.find? (fun e => e.1 == p) with
  | some e => if e.2.isEmpty then [] else [{ name := p, size := e.2.length, kind := .file }]
  | none => descendantsBfs fs p

def FlatDir (fs : FileSys) (d : Name) : Prop :=
  ∀ e ∈ fs, isPrefix (d ++ [47]) e.1 = true → (47 : UInt8) ∉ e.1.drop (d.length + 1)

instance (fs : FileSys) (d : Name) : Decidable (FlatDir fs d) := by unfold FlatDir; infer_instance

/-- the `files` of the Base model -/
def contentsOf (fs : FileSys) (infos : List Info) : List Bytes := infos.map (fun i => contentOf fs i.name)

def partBlobsUri (F : Fmt) (rx : Name → Name → Bool) (fs : FileSys) (uri : Bytes) (rc : Bool) (k n w dw : Nat)
    (pick : Nat → Bool) : Except Err (List Bytes) :=
  match mkStUri F rx fs uri rc k n w false dw with
  | .error e => .error e
  | .ok (_, s) => (drain F pick s).2

namespace FilesEx

/-- { "/r/a" ↦ "x\n", "/r/d/b" ↦ "", "/r/d/c" ↦ "yz" } -/
def fs : FileSys :=
  [([47, 114, 47, 97], [120, 10]), ([47, 114, 47, 100, 47, 98], []), ([47, 114, 47, 100, 47, 99], [121, 122])]

/-- "/r/a", "/r/d", "/r/zz", "/r/a" -/
def pieces : List Name := [[47, 114, 47, 97], [47, 114, 47, 100], [47, 114, 47, 122, 122], [47, 114, 47, 97]]

/-- "/r/a;/r/d;/r/zz;/r/a" -/
def uri : Bytes := [47, 114, 47, 97, 59, 47, 114, 47, 100, 59, 47, 114, 47, 122, 122, 59, 47, 114, 47, 97]

/-- the list it expands to: "/r/a" (2 bytes), "/r/d/c" (2 bytes), "/r/a" (2 bytes) -/
def infos : List Info :=
  [{ name := [47, 114, 47, 97], size := 2, kind := .file }, { name := [47, 114, 47, 100, 47, 99], size := 2, kind := .file },
   { name := [47, 114, 47, 97], size := 2, kind := .file }]

/-- a RecordIO file system: "/q/a" holds the records ["ab"], "/q/b" the records ["", "c"] -/
def fsRec : FileSys :=
  [([47, 113, 47, 97], RecordIO.writeAll [[97, 98]]), ([47, 113, 47, 98], RecordIO.writeAll [[], [99]])]

/-- "/q" -/
def uriRec : Bytes := [47, 113]

end FilesEx

/-- a deeper sorted example: "/r/a" ↦ "x\n", "/r/d/b" ↦ "", "/r/d/c" ↦ "yz", "/r/d/e/f" ↦ "q", "/r/g" ↦ "w" -/
def FilesEx.fsDeep : FileSys :=
  [([47, 114, 47, 97], [120, 10]), ([47, 114, 47, 100, 47, 98], []), ([47, 114, 47, 100, 47, 99], [121, 122]),
   ([47, 114, 47, 100, 47, 101, 47, 102], [113]), ([47, 114, 47, 103], [119])]

end DmlcModel.Split
