/-
`MemFS::ListDirectory` and `FileSystem::ListDirectoryRecursive` in closed form, for any file system: `classify` says how a
listing treats one entry; the files of a listing are a `filterMap` over the file system, its sub-directories the
adjacent-deduplicated keys; `Below` is what a recursive listing that ends has collected.
-/
import DmlcModel.Split.Files
import DmlcModel.Split.GroupKeys

namespace DmlcModel.Split
open DmlcModel DmlcModel.Gen.Split

variable (fs : FileSys)

/-- as a local instance this is found directly; otherwise the search for `LawfulBEq UInt8` walks through the
order-package instances at every `==` on bytes -/
theorem lawfulBEqByte : LawfulBEq UInt8 := instLawfulBEq

attribute [local instance] lawfulBEqByte

theorem isPrefix_iff : ∀ (a b : Bytes), isPrefix a b = true ↔ ∃ t, b = a ++ t
  | [], b => ⟨fun _ => ⟨b, rfl⟩, fun _ => rfl⟩
  | _ :: _, [] => by simp [isPrefix]
  | x :: a, y :: b => by
    simp only [isPrefix, Bool.and_eq_true, beq_iff_eq, isPrefix_iff a b, List.cons_append, List.cons.injEq]
    exact ⟨fun ⟨h, t, ht⟩ => ⟨t, h.symm, ht⟩, fun ⟨t, h, ht⟩ => ⟨h.symm, t, ht⟩⟩

theorem isPrefix_append (a t : Bytes) : isPrefix a (a ++ t) = true := (isPrefix_iff _ _).2 ⟨t, rfl⟩

theorem findIdx?_hit {α : Type} (q : α → Bool) (a : α) (ys xs : List α) (hx : ∀ x ∈ xs, q x = false) (ha : q a = true) :
    (xs ++ a :: ys).findIdx? q = some xs.length := by
  rw [List.findIdx?_append, List.findIdx?_eq_none_iff.2 hx, List.findIdx?_cons, if_pos ha]
  simp

theorem slash_findIdx?_none (t : Bytes) : t.findIdx? (fun b => b == 47) = none ↔ (47 : UInt8) ∉ t := by
  simp only [List.findIdx?_eq_none_iff, beq_eq_false_iff_ne, ne_eq]
  exact ⟨fun h hm => h 47 hm rfl, fun h x hx hh => h (hh ▸ hx)⟩

theorem slash_findIdx?_some (t1 t2 : Bytes) (h : (47 : UInt8) ∉ t1) :
    (t1 ++ 47 :: t2).findIdx? (fun b => b == 47) = some t1.length :=
  findIdx?_hit _ _ _ _ (fun _ hx => beq_eq_false_iff_ne.2 fun hh => h (hh ▸ hx)) rfl

inductive Ent
  | skip
  | file (i : Info)
  | sub (d : Name)

def classify (dir : Bytes) (e : Name × Bytes) : Ent :=
  if isPrefix dir e.1 then
    match (e.1.drop dir.length).findIdx? (fun b => b == 47) with
    | none => if (e.1.drop dir.length).isEmpty then .skip else .file { name := e.1, size := e.2.length, kind := .file }
    | some i => .sub (e.1.take (dir.length + i))
  else .skip

theorem classify_file (dir : Bytes) (e : Name × Bytes) (t : Bytes) (he : e.1 = dir ++ t) (ht : t ≠ [])
    (h47 : (47 : UInt8) ∉ t) : classify dir e = .file { name := e.1, size := e.2.length, kind := .file } := by
  unfold classify
  rw [he, isPrefix_append, if_pos rfl, List.drop_left, (slash_findIdx?_none t).2 h47]
  cases t with
  | nil => exact absurd rfl ht
  | cons _ _ => rfl

theorem classify_sub (dir : Bytes) (e : Name × Bytes) (t1 t2 : Bytes) (he : e.1 = dir ++ (t1 ++ 47 :: t2))
    (h47 : (47 : UInt8) ∉ t1) : classify dir e = .sub (dir ++ t1) := by
  unfold classify
  rw [he, isPrefix_append, if_pos rfl, List.drop_left, slash_findIdx?_some t1 t2 h47]
  simp only []
  rw [← List.append_assoc, List.take_left' (by simp)]

theorem classify_cases (dir : Bytes) (e : Name × Bytes) :
    (classify dir e = .skip ∧ (isPrefix dir e.1 = false ∨ e.1 = dir)) ∨
    (∃ t, e.1 = dir ++ t ∧ t ≠ [] ∧ (47 : UInt8) ∉ t ∧
      classify dir e = .file { name := e.1, size := e.2.length, kind := .file }) ∨
    (∃ t1 t2, e.1 = dir ++ (t1 ++ 47 :: t2) ∧ (47 : UInt8) ∉ t1 ∧ classify dir e = .sub (dir ++ t1)) := by
  cases hp : isPrefix dir e.1 with
  | false => exact Or.inl ⟨by rw [classify, hp]; rfl, Or.inl rfl⟩
  | true =>
    obtain ⟨t, ht⟩ := (isPrefix_iff _ _).1 hp
    by_cases h47 : (47 : UInt8) ∈ t
    · obtain ⟨t1, t2, h, h1⟩ := List.eq_append_cons_of_mem h47
      rw [h] at ht
      exact Or.inr (Or.inr ⟨t1, t2, ht, h1, classify_sub dir e t1 t2 ht h1⟩)
    · cases t with
      | nil =>
        rw [List.append_nil] at ht
        refine Or.inl ⟨?_, Or.inr ht⟩
        rw [classify, hp, ht, List.drop_length]
        rfl
      | cons b t => exact Or.inr (Or.inl ⟨_, ht, List.cons_ne_nil _ _, h47, classify_file dir e _ ht (List.cons_ne_nil _ _) h47⟩)

theorem classify_file_inv (dir : Bytes) (e : Name × Bytes) (i : Info) (h : classify dir e = .file i) :
    i = { name := e.1, size := e.2.length, kind := .file } ∧ ∃ t, e.1 = dir ++ t ∧ t ≠ [] ∧ (47 : UInt8) ∉ t := by
  rcases classify_cases dir e with ⟨hc, _⟩ | ⟨t, g1, g2, g3, hc⟩ | ⟨_, _, _, _, hc⟩
  · rw [hc] at h; cases h
  · rw [hc] at h; injection h with h; exact ⟨h.symm, t, g1, g2, g3⟩
  · rw [hc] at h; cases h

theorem classify_sub_inv (dir : Bytes) (e : Name × Bytes) (d : Name) (h : classify dir e = .sub d) :
    ∃ t1 t2, e.1 = dir ++ (t1 ++ 47 :: t2) ∧ (47 : UInt8) ∉ t1 ∧ d = dir ++ t1 := by
  rcases classify_cases dir e with ⟨hc, _⟩ | ⟨_, _, _, _, hc⟩ | ⟨t1, t2, g1, g2, hc⟩
  · rw [hc] at h; cases h
  · rw [hc] at h; cases h
  · rw [hc] at h; injection h with h; exact ⟨t1, t2, g1, g2, h.symm⟩

theorem listGo_cons (dir : Bytes) (e : Name × Bytes) (rest : FileSys) (last : Option Bytes) :
    listGo dir (e :: rest) last =
      match classify dir e with
      | .skip => listGo dir rest last
      | .file i => i :: listGo dir rest last
      | .sub d => if last = some d then listGo dir rest last
                  else { name := d, size := 0, kind := .dir } :: listGo dir rest (some d) := by
  obtain ⟨nm, c⟩ := e
  rw [listGo, classify]
  cases isPrefix dir nm with
  | false => rfl
  | true =>
    dsimp only
    cases (nm.drop dir.length).findIdx? (fun b => b == 47) with
    | some i => rfl
    | none => cases (nm.drop dir.length).isEmpty <;> rfl

def fileOf (dir : Bytes) (e : Name × Bytes) : Option Info :=
  match classify dir e with
  | .file i => some i
  | _ => none

def subKey (dir : Bytes) (e : Name × Bytes) : Option Name :=
  match classify dir e with
  | .sub s => some s
  | _ => none

theorem fileOf_eq_some (dir : Bytes) (e : Name × Bytes) (i : Info) : fileOf dir e = some i ↔ classify dir e = .file i := by
  unfold fileOf
  cases classify dir e <;> simp

theorem subKey_eq_some (dir : Bytes) (e : Name × Bytes) (s : Name) : subKey dir e = some s ↔ classify dir e = .sub s := by
  unfold subKey
  cases classify dir e <;> simp

theorem listGo_files (dir : Bytes) : ∀ (fs : FileSys) (last : Option Bytes),
    (listGo dir fs last).filter (fun i => i.kind != .dir) = fs.filterMap (fileOf dir) := by
  intro fs
  induction fs with
  | nil => intro _; rfl
  | cons e rest ih =>
    intro last
    rw [listGo_cons, List.filterMap_cons, fileOf]
    cases hc : classify dir e with
    | skip => exact ih _
    | file j =>
      rw [List.filter_cons_of_pos (by rw [(classify_file_inv _ e j hc).1]; rfl), ih]
    | sub s =>
      simp only []
      split
      · exact ih _
      · rw [List.filter_cons_of_neg (by simp)]
        exact ih _

theorem listGo_subdirs (dir : Bytes) : ∀ (fs : FileSys) (last : Option Bytes),
    ((listGo dir fs last).filter (fun i => i.kind == .dir)).map (·.name) = groupKeys (subKey dir) fs last := by
  intro fs
  induction fs with
  | nil => intro _; rfl
  | cons e rest ih =>
    intro last
    rw [listGo_cons, groupKeys, subKey]
    cases hc : classify dir e with
    | skip => exact ih _
    | file j =>
      rw [(classify_file_inv _ e j hc).1, List.filter_cons_of_neg (by simp)]
      exact ih _
    | sub s =>
      simp only []
      split
      · exact ih _
      · rw [List.filter_cons_of_pos rfl, List.map_cons, ih]

def filesM (fs : FileSys) (d : Name) : List Info := (listDirectory fs d).filter (fun i => i.kind != .dir)
def subdirsM (fs : FileSys) (d : Name) : List Name := ((listDirectory fs d).filter (fun i => i.kind == .dir)).map (·.name)

theorem filesM_eq (d : Name) : filesM fs d = fs.filterMap (fileOf (dirPrefix d)) := listGo_files _ fs none

theorem subdirsM_eq (d : Name) : subdirsM fs d = groupKeys (subKey (dirPrefix d)) fs none := listGo_subdirs _ fs none

theorem mem_filesM (d : Name) (i : Info) : i ∈ filesM fs d ↔ ∃ e ∈ fs, classify (dirPrefix d) e = .file i := by
  simp only [filesM_eq, List.mem_filterMap, fileOf_eq_some]

theorem mem_subdirsM (d s : Name) : s ∈ subdirsM fs d ↔ ∃ e ∈ fs, classify (dirPrefix d) e = .sub s := by
  simp only [subdirsM_eq, ← subKey_eq_some, mem_groupKeys_none]

inductive Below (fs : FileSys) : Name → Info → Prop
  | here (d : Name) (i : Info) : i ∈ filesM fs d → Below fs d i
  | down (d s : Name) (i : Info) : s ∈ subdirsM fs d → Below fs s i → Below fs d i

theorem below_step (d : Name) (i : Info) :
    Below fs d i ↔ i ∈ filesM fs d ∨ ∃ s ∈ subdirsM fs d, Below fs s i := by
  constructor
  · intro h
    cases h with
    | here _ _ hf => exact Or.inl hf
    | down _ s _ hs hb => exact Or.inr ⟨s, hs, hb⟩
  · rintro (hf | ⟨s, hs, hb⟩)
    · exact Below.here d i hf
    · exact Below.down d s i hs hb

theorem listRecGo_mem : ∀ (fuel : Nat) (queue : List Name) (out res : List Info),
    listRecGo fs fuel queue out = .ok res → ∀ i, i ∈ res ↔ (i ∈ out ∨ ∃ d ∈ queue, Below fs d i) := by
  intro fuel
  induction fuel with
  | zero => intro queue out res h; rw [listRecGo] at h; cases h
  | succ fuel ih =>
    intro queue out res h i
    cases queue with
    | nil =>
      rw [listRecGo] at h
      injection h with h
      simp [h]
    | cons d queue =>
      rw [listRecGo] at h
      rw [ih _ _ _ h i]
      -- one step of `Below` at `d`; the two sides are then the same disjunction up to the order of the last two
      simp only [List.mem_append, List.mem_cons, or_and_right, exists_or, exists_eq_left, below_step fs d i, filesM,
        subdirsM, or_assoc]
      exact or_congr_right (or_congr_right or_comm)

theorem listDirectoryRecursive_mem (nm : Name) (res : List Info)
    (h : listDirectoryRecursive fs nm = .ok res) (i : Info) : i ∈ res ↔ Below fs nm i := by
  rw [listRecGo_mem fs _ _ _ _ h]
  simp

theorem below_entry (d : Name) (i : Info) (h : Below fs d i) :
    ∃ e ∈ fs, i = { name := e.1, size := e.2.length, kind := .file } := by
  induction h with
  | here d i hf =>
    obtain ⟨e, he, hc⟩ := (mem_filesM fs d i).1 hf
    exact ⟨e, he, (classify_file_inv _ e i hc).1⟩
  | down _ _ _ _ _ ih => exact ih

end DmlcModel.Split
