/-
`InputSplitShuffle` for any source `sub` of sub-parts: under the invariant `Sh.Wf` one `next` hands out the next blob of what is
still owed, so a drain delivers exactly that; at the start of a pass it is the sub-parts in the order of `shuffle_indexes_`.
-/
import DmlcModel.Split.Shuffle
namespace DmlcModel.Split.Shuffle

variable {α : Type}

/-- invariant: `shuffle_indexes_` has `m` entries and the cursor is inside it -/
def Sh.Wf (s : Sh α) : Prop := s.perm.length = s.m ∧ s.cur < s.m

theorem idxAt_ok {perm : List Nat} {j : Nat} (h : j < perm.length) (part m : Nat) :
    idxAt perm j part m = .ok (perm[j] + part * m) := by
  simp [idxAt, List.getElem?_eq_getElem h]

theorem idxAt_inv {perm : List Nat} {j part m i : Nat} (h : idxAt perm j part m = .ok i) :
    ∃ hj : j < perm.length, i = perm[j] + part * m := by
  unfold idxAt at h
  split at h
  · rename_i p hp
    obtain ⟨hj, rfl⟩ := List.getElem?_eq_some_iff.1 hp
    cases h
    exact ⟨hj, rfl⟩
  · cases h

/-- the sub-parts still to come after the current one, in the order of `shuffle_indexes_` -/
def later (sub : Nat → Res (List α)) (s : Sh α) : Res (List α) :=
  if s.m > 1 then ((s.perm.drop (s.cur + 1)).mapM fun p => sub (p + s.partIndex * s.m)).map List.flatten
  else .ok []

/-- what is left of a pass: the rest of the current sub-part, then the later sub-parts -/
def owed (sub : Nat → Res (List α)) (s : Sh α) : Res (List α) := (later sub s).map (s.rest ++ ·)

theorem next_spec (sub : Nat → Res (List α)) (s : Sh α) (hw : s.Wf) :
    (∀ e, next sub s = .error e → owed sub s = .error e) ∧
    (∀ s', next sub s = .ok (none, s') → owed sub s = .ok []) ∧
    (∀ r s', next sub s = .ok (some r, s') → s'.Wf ∧ owed sub s = (owed sub s').map (r :: ·)) := by
  fun_induction next sub s with
  | case1 s r rs hr =>
    refine ⟨nofun, nofun, fun r' s' h => ?_⟩
    cases h
    refine ⟨hw, ?_⟩
    show (later sub s).map (s.rest ++ ·) = ((later sub s).map (rs ++ ·)).map (r :: ·)
    rw [hr]
    cases later sub s <;> rfl
  | case2 s hr hm hc =>
    have ⟨hl, _⟩ := hw
    refine ⟨nofun, fun _ _ => ?_, nofun⟩
    simp [owed, later, hr, hm, List.drop_eq_nil_of_le (by omega : s.perm.length ≤ s.cur + 1), Except.map, pure, Except.pure]
  | case3 s hr hm hc hlt e he =>
    have ⟨hl, _⟩ := hw
    rw [idxAt_ok (by omega)] at he
    cases he
  | case4 s hr hm hc hlt idx hi e he =>
    have ⟨hl, _⟩ := hw
    refine ⟨fun e' h => ?_, nofun, nofun⟩
    cases h
    have hidx : s.cur + 1 < s.perm.length := by omega
    rw [idxAt_ok hidx] at hi
    cases hi
    simp only [owed, later, hm, if_true, List.drop_eq_getElem_cons hidx, List.mapM_cons, he]
    rfl
  | case5 s hr hm hc hlt idx hi rs hs ih =>
    have ⟨hl, _⟩ := hw
    have hidx : s.cur + 1 < s.perm.length := by omega
    rw [idxAt_ok hidx] at hi
    cases hi
    have e : owed sub s = owed sub { s with cur := s.cur + 1, srcIdx := s.perm[s.cur + 1] + s.partIndex * s.m, rest := rs } := by
      simp only [owed, later, hm, if_true, List.drop_eq_getElem_cons hidx, List.mapM_cons, hs, hr, bind, Except.bind, Except.map, pure, Except.pure]
      cases (s.perm.drop (s.cur + 1 + 1)).mapM fun p => sub (p + s.partIndex * s.m) <;> simp
    rw [e]
    exact ih ⟨hw.1, by simp only; omega⟩
  | case6 s hr hm hc hlt => exact absurd hw.2 hlt
  | case7 s hr hm =>
    refine ⟨nofun, fun _ _ => ?_, nofun⟩
    simp [owed, later, hr, hm, Except.map]

theorem drain_eq (sub : Nat → Res (List α)) (s : Sh α) (hw : s.Wf) : drain sub s = owed sub s := by
  fun_induction drain sub s with
  | case1 s e h => exact ((next_spec sub s hw).1 e h).symm
  | case2 s s' h => exact ((next_spec sub s hw).2.1 s' h).symm
  | case3 s r s' h ih =>
    obtain ⟨hw', e⟩ := (next_spec sub s hw).2.2 r s' h
    rw [e, ih hw']

/-- all sub-parts of part `k`, in the order `perm` -/
def passOf (sub : Nat → Res (List α)) (perm : List Nat) (k m : Nat) : Res (List α) :=
  (perm.mapM fun p => sub (p + k * m)).map List.flatten

theorem passOf_cons (sub : Nat → Res (List α)) (p : Nat) (ps : List Nat) (k m : Nat) :
    passOf sub (p :: ps) k m = (sub (p + k * m)).bind fun rs => (passOf sub ps k m).map (rs ++ ·) := by
  simp only [passOf, List.mapM_cons, bind, Except.bind, Except.map, pure, Except.pure]
  cases sub (p + k * m) with
  | error e => rfl
  | ok rs => cases ps.mapM fun p => sub (p + k * m) <;> simp

theorem drain_first (sub : Nat → Res (List α)) (s : Sh α) (p : Nat) (ps : List Nat) (k : Nat)
    (hp : s.perm = p :: ps) (hl : s.perm.length = s.m) (hc : s.cur = 0) (hk : s.partIndex = k)
    (hr : sub (p + k * s.m) = .ok s.rest) :
    drain sub s = passOf sub s.perm k s.m := by
  have hm : 0 < s.m := by rw [← hl, hp]; simp
  rw [drain_eq sub s ⟨hl, by omega⟩, hp, passOf_cons, hr]
  simp only [Except.bind, owed, later, hc, hp, hk]
  by_cases h1 : s.m > 1
  · simp [h1, passOf]
  · have : ps = [] := by
      have : (p :: ps).length = s.m := by rw [← hp]; exact hl
      simp at this
      cases ps with
      | nil => rfl
      | cons _ _ => simp at this; omega
    simp [h1, this, passOf, Except.map, pure, Except.pure]

end DmlcModel.Split.Shuffle
