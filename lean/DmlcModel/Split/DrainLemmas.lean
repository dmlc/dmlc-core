/-
The TEXT instance of Drain.lean on a bare split: what `Chunk::Load` and the two `Extract` functions do to the invariant `TInv`
(`load_text`, `extOf_text`), hence no call raises an error or cuts a line (`nextOk_text`), and a full `drain` delivers exactly
the lines still owed (`drain_text_correct`).
-/
import DmlcModel.Split.TextLemmas
import DmlcModel.Split.Drain

namespace DmlcModel.Split
open DmlcModel

theorem cutOk_text : CutOk Fmt.text := fun _ buf h b hb e => by
  have := textFindLast_tail_no_eol buf 0 h b hb
  subst e
  cases this

theorem tailT_eq (s : Base) : tailT s = s.chunk.rest ++ ahead Fmt.text s := by
  unfold tailT ahead; rw [List.append_assoc]

theorem drainM_text (s : Base) : drainM Fmt.text s = (tailT s).length + min 1 (ahead Fmt.text s).length := by
  unfold drainM; rw [tailT_eq, List.length_append]

theorem nulFree_nil : NulFree [] := fun _ h => by cases h

theorem endsEol_nil : EndsEol [] := Or.inl rfl

theorem endsEol_drop (s : Bytes) (p : Nat) (h : EndsEol s) : EndsEol (s.drop p) := by
  rcases h with h | ⟨a, e, h, he⟩
  · subst h; simp [endsEol_nil]
  · subst h
    by_cases hp : p ≤ a.length
    · rw [List.drop_append_of_le_length hp]; exact endsEol_snoc _ _ he
    · rw [List.drop_eq_nil_of_le (by simp; omega)]; exact endsEol_nil

theorem load_text (s : Base) (hinv : TInv s) (he : s.chunk.rest = []) :
    ∃ ok s1 c, load Fmt.text s s.chunk = .ok (ok, s1, c) ∧ TInv { s1 with chunk := c } ∧
    (ok = false → tailT s = [] ∧ tailT { s1 with chunk := c } = []) ∧
    (ok = true → c.rest ≠ [] ∧ lines (tailT { s1 with chunk := c }) = lines (tailT s) ∧
      drainM Fmt.text { s1 with chunk := c } ≤ drainM Fmt.text s) := by
  obtain ⟨hR, hE, hN, hts, hbw, hah, hcap⟩ := hinv
  obtain ⟨ok, s1, c, h, ⟨i2, -, -, -, i6⟩, i1, i9, i10⟩ :=
    load_run Fmt.text cutOk_text (fun buf cut => textFindLast buf = .ok cut) s s.chunk hR
      (Nat.lt_trans hts (by decide)) hbw hah fun buf hb _ => (textFindLast_ok buf hb).imp fun _ h => ⟨h, h⟩
  refine ⟨ok, s1, c, h, ?_⟩
  have htl : tailT s = ahead Fmt.text s := by rw [tailT_eq, he]; rfl
  have htl' : tailT { s1 with chunk := c } = c.rest ++ s1.overflow ++ pending Fmt.text s1 := rfl
  have hah' : ahead Fmt.text { s1 with chunk := c } = s1.overflow ++ pending Fmt.text s1 := rfl
  cases ok with
  | false =>
    obtain ⟨j1, j2, j3, j4, j5⟩ := i9 rfl
    have ht0 : tailT { s1 with chunk := c } = [] := by rw [htl', j1, he, j4, j5]; rfl
    refine ⟨⟨i1, ?_, ?_, by rw [i2]; exact hts, by rw [i6]; exact hbw, ?_, ?_⟩,
      fun _ => ⟨by rw [htl]; exact j3, ht0⟩, (fun hk => by cases hk)⟩
    · show EndsEol c.rest; rw [j1, he]; exact endsEol_nil
    · rw [ht0]; exact nulFree_nil
    · rw [hah', j4, j5]; simp
    · intro hne; exact absurd (j1.trans he) hne
  | true =>
    obtain ⟨j1, j2, j3, j4⟩ := i10 rfl
    obtain ⟨buf, cut, hc, htake, hdrop, hcons⟩ := j4.resolve_right (fun h => by cases h.1)
    have hsplit : c.rest ++ s1.overflow = buf := by rw [htake, hdrop, List.take_append_drop]
    have hcut : 1 ≤ cut := by
      cases cut with
      | zero => rw [htake] at j2; simp at j2
      | succ n => omega
    have hEnd : EndsEol c.rest := by
      rcases (textFindLast_spec buf cut hc).2 with h0 | ⟨_, a, e, hae, hee⟩
      · omega
      · rw [htake, hae]; exact endsEol_snoc _ _ hee
    -- what is still to be delivered is unchanged, or a `'\n'` was appended to an unterminated last line
    have key : (tailT { s1 with chunk := c } = tailT s ∧
          (ahead Fmt.text { s1 with chunk := c }).length ≤ (ahead Fmt.text s).length) ∨
        (tailT { s1 with chunk := c } = tailT s ++ [10] ∧ ahead Fmt.text { s1 with chunk := c } = [] ∧
          ahead Fmt.text s ≠ []) := by
      rcases hcons with hA | ⟨_, hB, hane, hp⟩
      · refine Or.inl ⟨by rw [htl', htl, hsplit, hA], ?_⟩
        rw [hah', ← hA, ← hsplit]; simp only [List.length_append]; omega
      · -- the appended '\n' ends the buffer, so the cut is at its end: nothing is carried over
        have hno := textFindLast_tail_no_eol buf cut hc
        rw [show max cut 1 = cut by omega, ← hdrop] at hno
        have hov : s1.overflow = [] := by
          by_cases hle : cut ≤ (ahead Fmt.text s).length
          · have : (10 : Byte) ∈ s1.overflow := by
              rw [hdrop, hB, List.drop_append_of_le_length hle]; simp
            exact absurd (hno 10 this) (by decide)
          · rw [hdrop, hB]; exact List.drop_eq_nil_of_le (by simp; omega)
        exact Or.inr ⟨by rw [htl', htl, hsplit, hp, hB]; simp, by rw [hah', hov, hp]; rfl, hane⟩
    have hlines : lines (tailT { s1 with chunk := c }) = lines (tailT s) := by
      rcases key with ⟨e, _⟩ | ⟨e, _⟩
      · rw [e]
      · rw [e]; exact lines_snoc_eol _ _ (by decide)
    have hnf : NulFree (tailT { s1 with chunk := c }) := by
      rcases key with ⟨e, _⟩ | ⟨e, _⟩
      · rw [e]; exact hN
      · rw [e]; exact nulFree_append.2 ⟨hN, fun b hb => by simp at hb; subst hb; decide⟩
    have hmeas : drainM Fmt.text { s1 with chunk := c } ≤ drainM Fmt.text s ∧
        (ahead Fmt.text { s1 with chunk := c }).length ≤ (ahead Fmt.text s).length := by
      rw [drainM_text, drainM_text]
      rcases key with ⟨e, hl⟩ | ⟨e, h0, hne⟩
      · rw [e]; omega
      · have := List.length_pos_iff.2 hne
        rw [e, h0, List.length_append]
        exact ⟨by simp; omega, Nat.zero_le _⟩
    exact ⟨⟨i1, hEnd, hnf, by rw [i2]; exact hts, by rw [i6]; exact hbw, by omega, fun _ => j3⟩,
      nofun, fun _ => ⟨j2, hlines, hmeas.1⟩⟩

theorem extOf_text (rec : Bool) (c : Chunk) (hne : c.rest ≠ []) (hn : NulFree c.rest)
    (hcap : c.begin + c.rest.length < 4 * c.dataWords) :
    ∃ p b c', extOf Fmt.text rec c = .ok (some (b, c')) ∧ Took c c' b p ∧ (rec = false → b = c.rest.take p) := by
  cases rec with
  | true =>
    obtain ⟨p, b, c', h, ht⟩ := textExtract_run c hne hn hcap
    exact ⟨p, b, c', h, ht, nofun⟩
  | false =>
    refine ⟨c.rest.length, c.rest, { c with begin := c.begin + c.rest.length, rest := [] },
      extOf_chunk _ c hne, ⟨List.length_pos_iff.2 hne, Nat.le_refl _, by simp, rfl, rfl, rfl, ?_,
      Or.inl rfl⟩, fun _ => by simp⟩
    rw [List.take_length, canon_eq_lines _ hn]

theorem load_text_total (s : Base) (c : Chunk) (hinv : TInv s) : ∃ r, load Fmt.text s c = .ok r := by
  obtain ⟨hR, _, _, hts, hbw, hah, _⟩ := hinv
  obtain ⟨ok, s', c', h, _⟩ := load_run Fmt.text cutOk_text (fun _ _ => True) s c hR (Nat.lt_trans hts (by decide)) hbw hah
    fun buf hb _ => (textFindLast_ok buf hb).imp fun _ h => ⟨h, trivial⟩
  exact ⟨_, h⟩

def TOwes (N : Nat) (s : Base) (l : List Bytes) : Prop := TInv s ∧ drainM Fmt.text s ≤ N ∧ lines (tailT s) = l

/-- `b.length ≤ N`: a blob is paid for by the measure -/
def TBlob (N : Nat) (rec : Bool) (b : Bytes) (run : List Bytes) : Prop :=
  b ≠ [] ∧ b.length ≤ N ∧ (rec = false → EndsEol b ∧ NulFree b) ∧ canon b = run

theorem nextOk_text (N : Nat) : NextOk Fmt.text (TOwes N) (TBlob N) := by
  refine next_of _ _ _ (fun c h => (textExtract_none c).2 h) ?_ ?_
  · rintro rec s l ⟨⟨hR, hE, hNf, hts, hbw, hah, hcap⟩, hN, rfl⟩ hne
    have hNr : NulFree s.chunk.rest := by
      rw [tailT_eq] at hNf; exact (nulFree_append.1 hNf).1
    obtain ⟨p, b, c', hx, ⟨hp0, hpl, hrest, hbeg, hdw, hbl, hbc, hend⟩, hbp⟩ := extOf_text rec s.chunk hne hNr (hcap hne)
    -- the prefix `pre` taken off the window ends at an end of line, as the window does
    have hsplit : s.chunk.rest.take p ++ tailT { s with chunk := c' } = tailT s := by
      show s.chunk.rest.take p ++ (c'.rest ++ s.overflow ++ pending Fmt.text s) = _
      rw [hrest]; unfold tailT
      simp only [← List.append_assoc, List.take_append_drop]
    have hpre : EndsEol (s.chunk.rest.take p) := by
      rcases hend with e | e
      · rw [e, List.take_length]; exact hE
      · exact e
    have hN' : NulFree (s.chunk.rest.take p) ∧ NulFree (tailT { s with chunk := c' }) := by
      rw [← hsplit] at hNf; exact nulFree_append.1 hNf
    have hlen := congrArg List.length hsplit
    rw [List.length_append, List.length_take] at hlen
    have hm : drainM Fmt.text { s with chunk := c' } < drainM Fmt.text s := by
      rw [drainM_text, drainM_text, show ahead Fmt.text { s with chunk := c' } = ahead Fmt.text s from rfl]
      omega
    have hNm := hN
    rw [drainM_text] at hNm
    refine ⟨b, c', _, _, hx, ⟨fun e => by rw [e] at hbl; exact absurd hbl.symm (Nat.ne_of_gt hp0), by omega,
      fun h => hbp h ▸ ⟨hpre, hN'.1⟩, hbc⟩, ?_, ⟨⟨hR, ?_, hN'.2, hts, hbw, hah, fun _ => ?_⟩, by omega, rfl⟩, hm⟩
    · rw [← hsplit]; exact (lines_append_of_endsEol _ _ hpre).symm
    · show EndsEol c'.rest; rw [hrest]; exact endsEol_drop _ _ hE
    · show c'.begin + c'.rest.length < 4 * c'.dataWords
      have h1 := hcap hne
      rw [hrest, List.length_drop, hbeg, hdw]; omega
  · rintro s l ⟨hinv, hN, rfl⟩ hne
    obtain ⟨ok, s1, c, hl, k1, k6, k7⟩ := load_text s hinv hne
    refine ⟨ok, s1, c, hl, fun h => ?_, fun h => ?_⟩
    · obtain ⟨e1, e2⟩ := k6 h
      have ha : ahead Fmt.text { s1 with chunk := c } = [] :=
        (List.append_eq_nil_iff.mp ((tailT_eq _).symm.trans e2)).2
      exact ⟨by rw [e1]; rfl, k1, by rw [drainM_text, e2, ha]; exact Nat.zero_le _, by rw [e2]; rfl⟩
    · obtain ⟨e1, e2, e3⟩ := k7 h
      exact ⟨e1, ⟨k1, Nat.le_trans e3 hN, e2⟩, e3⟩

/-- `2^55`: the look-ahead of a state with nothing buffered is its pending stream, at most the bytes of the part plus one
injected `'\n'` per file, so at most `2 * totalSize < 2^56`, the bound `TInv` asks of it (header of ChunkLemmas.lean) -/
theorem TInv_of_clean (s : Base) (hR : RInv s) (hc : s.chunk.rest = []) (ho : s.overflow = [])
    (hn : NulFree (pending Fmt.text s)) (ht : totalSize s.files < 2^55) (hb : s.bufWords < 2^56) : TInv s := by
  have hp := pending_length_le Fmt.text s
  have hl := length_le_totalSize s.files hR.nonempty
  have he : s.offEnd ≤ totalSize s.files := hR.offEnd_le
  refine ⟨hR, by rw [hc]; exact endsEol_nil, ?_, Nat.lt_trans ht (by decide), hb, ?_, fun h => absurd hc h⟩
  · unfold tailT; rw [hc, ho]; exact hn
  · unfold ahead; rw [ho, List.nil_append]; omega

theorem drain_text_correct (s : St) (hw : s.wrap = none) (hinv : TInv s.base) (pick : Nat → Bool) :
    ∃ bs s', drain Fmt.text pick s = (s', .ok bs) ∧
      bs.flatMap canon = lines (tailT s.base) ∧
      (∀ i b, bs[i]? = some b → b ≠ [] ∧ b.length ≤ drainM Fmt.text s.base ∧
        (pick i = false → EndsEol b ∧ NulFree b)) ∧
      s'.wrap = none ∧ TInv s'.base ∧ lines (tailT s'.base) = [] := by
  obtain ⟨bs, s', hd, ⟨runs, hlen, hfl, hidx⟩, h1, h2, -, h3⟩ :=
    drain_of_next Fmt.text _ _ (nextOk_text (drainM Fmt.text s.base)) pick s hw _ ⟨hinv, Nat.le_refl _, rfl⟩ hinv.rinv.offEnd_le
  have hruns : runs = bs.map canon :=
    eq_map_of_getElem? canon bs runs hlen fun i b run hb hr => (hidx i b run hb hr).2.2.2.symm
  refine ⟨bs, s', hd, by rw [← hfl, hruns, List.flatMap_def], fun i b hb => ?_, h1, h2, h3⟩
  obtain ⟨run, hr⟩ := getElem?_some_of_length_eq hlen hb
  obtain ⟨g1, g2, g3, -⟩ := hidx i b run hb hr
  exact ⟨g1, g2, g3⟩

end DmlcModel.Split
