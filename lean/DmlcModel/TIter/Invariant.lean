import DmlcModel.TIter.InvA
import DmlcModel.TIter.InvB
import DmlcModel.TIter.InvC
import DmlcModel.TIter.InvD
import DmlcModel.TIter.InvE
/-!
The invariant holds in every reachable state.  Groups A B C E (`Inv`; `CellsOK` belongs to group B, whose field `len`
follows from it): pinned and repaired code alike.  Group D: repaired code, or either version when the scripts never fail.
-/
namespace DmlcModel.TIter

structure Inv (P : Params) (s : State) : Prop where
  a : InvA s
  b : InvB P s
  cells : CellsOK s
  c1 : InvC1 P s
  c2 : InvC2 P s
  e : InvE P s

theorem inv_init (P : Params) : Inv P init :=
  ⟨invA_init, invB_init P, cellsOK_init, invC1_init P, invC2_init P, invE_init P⟩

theorem inv_step {rk : Bool} {P : Params} {s s' : State} {e : Event} (h : Inv P s) (hs : stepR rk P s e = some s') :
    Inv P s' :=
  ⟨invA_step h.a hs, invB_step h.a h.cells h.b hs, invBc_step h.a h.cells hs, invC1_step h.a h.c1 hs, invC2_step h.a h.c2 hs,
   invE_step h.a h.e hs⟩

theorem inv_reachable {rk : Bool} {P : Params} {s : State} (h : ReachableR rk P s) : Inv P s := by
  induction h with
  | init => exact inv_init P
  | step e _ hs ih => exact inv_step ih hs

theorem noThrow {rk : Bool} {P : Params} {s : State} (hn : NoFail P) (h : ReachableR rk P s) :
    s.thrown = false ∧ s.exc = false := by
  have hi := inv_reachable h
  have ht : s.thrown = false := by
    cases hth : s.thrown with
    | false => rfl
    | true =>
      rcases hi.c2.why hth with ⟨p, i, hpi⟩ | ⟨p, hp⟩
      · exact absurd hpi (hn.1 p i)
      · exact absurd hp (hn.2 p)
  refine ⟨ht, ?_⟩
  cases he : s.exc with
  | false => rfl
  | true => have := (hi.a.exc he).1; simp [ht] at this

theorem invD_reachable {P : Params} {s : State} (h : ReachableR true P s) : InvD P s := by
  induction h with
  | init => exact invD_init P
  | step e hr hs ih => exact invD_step (Or.inl rfl) (inv_reachable hr).a ih hs

theorem invD_reachable_noFail {rk : Bool} {P : Params} {s : State} (hn : NoFail P) (h : ReachableR rk P s) : InvD P s := by
  induction h with
  | init => exact invD_init P
  | step e hr hs ih => exact invD_step (Or.inr (noThrow hn hr).2) (inv_reachable hr).a ih hs

end DmlcModel.TIter
