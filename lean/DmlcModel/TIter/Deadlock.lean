import DmlcModel.TIter.InvB
import DmlcModel.TIter.InvD
/-!
Deadlock freedom under the invariant groups A, B, D (D is where the repair of `BeforeFirst` is needed): each thread can
move unless it waits, and the invariant excludes that all of them wait.
-/
namespace DmlcModel.TIter
open DmlcModel.Gen.TIter

theorem prod_enabled (rk : Bool) (P : Params) (s : State) (h1 : s.ploc ≠ .waitSet) (h2 : s.ploc ≠ .exited) :
    (stepR rk P s .prod).isSome = true := by
  cases hl : s.ploc <;> simp_all [stepR, prodStep, apply_ite Option.isSome]

theorem x_enabled (rk : Bool) (P : Params) (s : State) (h1 : s.xloc ≠ .idle) (h2 : s.xloc ≠ .bWait)
    (h3 : s.xloc = .dJoin → s.ploc = .exited) : (stepR rk P s .xStep).isSome = true := by
  cases hx : s.xloc <;> simp only [stepR, xStep, hx, apply_ite Option.isSome, Option.isSome_some, ite_self]
  all_goals simp_all

theorem cons_enabled (rk : Bool) {P : Params} {s : State} (hB : InvB P s) (h : s.nW < busy s) :
    ∃ e : Event, e.isProgress = true ∧ (stepR rk P s e).isSome = true := by
  by_cases h0 : 0 < s.n0
  · exact ⟨.nLoadSig, rfl, by simp [stepR, h0]⟩
  by_cases h1 : 0 < s.n1
  · exact ⟨.nExc, rfl, by simp [stepR, h1]⟩
  by_cases h2 : 0 < s.n2
  · exact ⟨.nLock, rfl, by simp [stepR, h2]⟩
  by_cases hK : 0 < s.nK
  · exact ⟨.nRelock, rfl, by simp [stepR, hK]⟩
  by_cases h4 : 0 < s.n4
  · exact ⟨.nNotify, rfl, by simp [stepR, h4]⟩
  by_cases h5 : 0 < s.n5
  · exact ⟨.nRetItem, rfl, by simp [stepR, h5]⟩
  by_cases h6 : 0 < s.n6
  · exact ⟨.nRetEnd, rfl, by simp [stepR, h6]⟩
  by_cases hr2 : 0 < s.r2
  · exact ⟨.rNotify, rfl, by simp [stepR, hr2]⟩
  by_cases hr3 : 0 < s.r3
  · exact ⟨.rRet, rfl, by simp [stepR, hr3]⟩
  -- what is left is a `Recycle` before its critical section.  Its events name the cell: any cell being recycled will
  -- do, and none is looked at when the call works on `out_data_`
  simp only [busy] at h
  obtain ⟨c, hc⟩ : ∃ c, s.outCall = false → c ∈ s.recycling := by
    cases ho : s.outCall
    · obtain ⟨c, hc⟩ := List.exists_mem_of_length_pos (l := s.recycling) (by have := hB.recy.2 ho; omega)
      exact ⟨c, fun _ => hc⟩
    · exact ⟨0, nofun⟩
  by_cases hr0 : 0 < s.r0
  · exact ⟨.rExc c, rfl, by cases ho : s.outCall <;> simp_all [stepR, apply_ite Option.isSome]⟩
  · exact ⟨.rLock c, rfl, by
      have hr1 : 0 < s.r1 := by omega
      cases ho : s.outCall <;> cases hod : s.outData <;> simp_all [stepR]⟩

theorem deadlock_free_of_inv {rk : Bool} {P : Params} {s : State} (hcap : 1 ≤ P.cap) (hA : InvA s) (hB : InvB P s)
    (hD : InvD P s) (hc : inCall s) : ∃ e : Event, e.isProgress = true ∧ (stepR rk P s e).isSome = true := by
  by_cases hp : s.ploc ≠ .waitSet ∧ s.ploc ≠ .exited
  · exact ⟨.prod, rfl, prod_enabled rk P s hp.1 hp.2⟩
  by_cases hn : s.nW < busy s
  · exact cons_enabled rk hB hn
  -- the producer and every consumer wait (or the producer is gone): then the exclusive caller is inside a call, does not
  -- wait for an acknowledgement (`dB1`, `dB2`), and if it waits for the producer thread to end, that thread has ended
  have := hA.sigD; have := hA.dJoin
  obtain ⟨d1, d2, d3, d4, d5⟩ := hD
  simp only [inCall, busy, kProduce, kBeforeFirst, kDestroy] at *
  exact ⟨.xStep, rfl, x_enabled rk P s (by grind) (by grind) (by grind)⟩

end DmlcModel.TIter
