import DmlcModel.TIter.Lemmas
import DmlcModel.TIter.Defs
/-!
The transitions of `stepR` as rules: one constructor of `Trans` per path through the model, the guards of the path as
hypotheses, the new state as an explicit update, so that a proof by `cases` sees exactly the fields one path writes.  The
command word is written as the numeral; paths that need contradictory guards have no rule.
-/
namespace DmlcModel.TIter
open DmlcModel.Gen.TIter

theorem wokenX_eq (l : XLoc) : wokenX l = if l = .bWait then .bWoken else l := by
  cases l <;> rfl

/-!
What `grind` is told in every proof over the rules, scoped to this namespace: closed forms, the command words as numerals,
`busy` and `pWaiting` unfolded.
-/
attribute [scoped grind =] wokenLoc_eq wokenX_eq pPred_false_iff kProduce kBeforeFirst kDestroy busy
attribute [scoped grind] pWaiting

inductive Trans (rk : Bool) (P : Params) (s : State) : Event → State → Prop
  -- producer: top of the loop (`top`), or re-acquiring after a wake-up (`woken`, one waiter less)
  | topWait (_ : s.ploc = .top) (_ : pPred P s = false) :
      Trans rk P s .prod { s with nwaitP := s.nwaitP + 1, ploc := .waitSet, ret := .none }
  | topTake {c : Nat} {f : List Nat} (_ : s.ploc = .top) (_ : pPred P s = true) (_ : s.sig = 0) (_ : s.free = c :: f) :
      Trans rk P s .prod { s with free := f, ploc := .call, pcell := some c, ret := .none }
  | topFresh (_ : s.ploc = .top) (_ : pPred P s = true) (_ : s.sig = 0) (_ : s.free.length = 0) :
      Trans rk P s .prod { s with ploc := .call, pcell := none, ret := .none }
  | topRewind (_ : s.ploc = .top) (_ : pPred P s = true) (_ : s.sig = 1) (_ : P.rew s.pass = .ok) :
      Trans rk P s .prod
        { s with sig := 0, processed := true, produceEnd := false, queue := [], free := s.free ++ qcells s,
                 ploc := .notifyTop, produced := [], delivered := [], pass := s.pass + 1, pidx := 0, srcEnded := false,
                 rewCalls := s.rewCalls + 1, ret := .none }
  | topRewindThrow (_ : s.ploc = .top) (_ : pPred P s = true) (_ : s.sig = 1) (_ : P.rew s.pass = .throw) :
      Trans rk P s .prod { s with ploc := .catchRec, thrown := true, rewCalls := s.rewCalls + 1, ret := .none }
  | topDestroy (_ : s.ploc = .top) (_ : pPred P s = true) (_ : ¬s.sig = 0) (_ : ¬s.sig = 1) :
      Trans rk P s .prod { s with processed := true, produceEnd := true, ploc := .notifyExit, ret := .none }
  | wokenWait (_ : s.ploc = .woken) (_ : pPred P s = false) :
      Trans rk P s .prod { s with ploc := .waitSet, ret := .none }
  | wokenTake {c : Nat} {f : List Nat} (_ : s.ploc = .woken) (_ : pPred P s = true) (_ : s.sig = 0)
      (_ : s.free = c :: f) :
      Trans rk P s .prod { s with free := f, nwaitP := s.nwaitP - 1, ploc := .call, pcell := some c, ret := .none }
  | wokenFresh (_ : s.ploc = .woken) (_ : pPred P s = true) (_ : s.sig = 0) (_ : s.free.length = 0) :
      Trans rk P s .prod { s with nwaitP := s.nwaitP - 1, ploc := .call, pcell := none, ret := .none }
  | wokenRewind (_ : s.ploc = .woken) (_ : pPred P s = true) (_ : s.sig = 1) (_ : P.rew s.pass = .ok) :
      Trans rk P s .prod
        { s with sig := 0, processed := true, produceEnd := false, queue := [], free := s.free ++ qcells s,
                 nwaitP := s.nwaitP - 1, ploc := .notifyTop, produced := [], delivered := [], pass := s.pass + 1,
                 pidx := 0, srcEnded := false, rewCalls := s.rewCalls + 1, ret := .none }
  | wokenRewindThrow (_ : s.ploc = .woken) (_ : pPred P s = true) (_ : s.sig = 1) (_ : P.rew s.pass = .throw) :
      Trans rk P s .prod
        { s with nwaitP := s.nwaitP - 1, ploc := .catchRec, thrown := true, rewCalls := s.rewCalls + 1, ret := .none }
  | wokenDestroy (_ : s.ploc = .woken) (_ : pPred P s = true) (_ : ¬s.sig = 0) (_ : ¬s.sig = 1) :
      Trans rk P s .prod
        { s with processed := true, produceEnd := true, nwaitP := s.nwaitP - 1, ploc := .notifyExit, ret := .none }
  -- producer: the callback and the publish section
  | callItem {v c : Nat} (_ : s.ploc = .call) (_ : P.src s.pass s.pidx = .item v) (_ : s.pcell = some c) :
      Trans rk P s .prod
        { s with ploc := .store, pitem := some ⟨s.pass, s.pidx, v⟩, pres := true,
                 produced := s.produced ++ [⟨s.pass, s.pidx, v⟩], pidx := s.pidx + 1, ret := .none }
  | callItemNew {v : Nat} (_ : s.ploc = .call) (_ : P.src s.pass s.pidx = .item v) (_ : s.pcell = none) :
      Trans rk P s .prod
        { s with ploc := .store, pcell := some s.allocated, pitem := some ⟨s.pass, s.pidx, v⟩, pres := true,
                 produced := s.produced ++ [⟨s.pass, s.pidx, v⟩], pidx := s.pidx + 1, allocated := s.allocated + 1,
                 ret := .none }
  | callFin (_ : s.ploc = .call) (_ : P.src s.pass s.pidx = .fin) :
      Trans rk P s .prod { s with ploc := .store, pres := false, srcEnded := true, ret := .none }
  | callThrow (_ : s.ploc = .call) (_ : P.src s.pass s.pidx = .throw) :
      Trans rk P s .prod
        { s with ploc := .catchRec, pcell := none, thrown := true, lost := optList s.pcell ++ s.lost, ret := .none }
  | store (_ : s.ploc = .store) :
      Trans rk P s .prod { s with produceEnd := !s.pres, ploc := .publish, ret := .none }
  | pubItem {c : Nat} {it : Item} (_ : s.ploc = .publish) (_ : s.produceEnd = false) (_ : s.pcell = some c)
      (_ : s.pitem = some it) :
      Trans rk P s .prod
        { s with queue := s.queue ++ [(c, it)], ploc := if s.nwaitC = 0 then .top else .notifyTop, pcell := none,
                 pitem := none, ret := .none }
  | pubNothing (_ : s.ploc = .publish) (_ : s.produceEnd = false)
      (_ : ∀ c it, s.pcell = some c → s.pitem = some it → False) :
      Trans rk P s .prod { s with ploc := if s.nwaitC = 0 then .top else .notifyTop, ret := .none, ub := true }
  | pubEnd (_ : s.ploc = .publish) (_ : s.produceEnd = true) (_ : s.pcell = none) :
      Trans rk P s .prod { s with ploc := if s.nwaitC = 0 then .top else .notifyTop, ret := .none }
  | pubEndCell {c : Nat} (_ : s.ploc = .publish) (_ : s.produceEnd = true) (_ : s.pcell = some c) :
      Trans rk P s .prod
        { s with free := s.free ++ [c], ploc := if s.nwaitC = 0 then .top else .notifyTop, pcell := none, ret := .none }
  | notifyTop (_ : s.ploc = .notifyTop) :
      Trans rk P s .prod { s with ploc := .top, nW := 0, nK := s.nK + s.nW, xloc := wokenX s.xloc, ret := .none }
  | notifyExit (_ : s.ploc = .notifyExit) :
      Trans rk P s .prod { s with ploc := .exited, nW := 0, nK := s.nK + s.nW, xloc := wokenX s.xloc, ret := .none }
  -- producer: the catch block
  | catchRec (_ : s.ploc = .catchRec) :
      Trans rk P s .prod { s with exc := true, ploc := .catchLock, ret := .none }
  | catchRewind (_ : s.ploc = .catchLock) (_ : s.sig = 1) :
      Trans rk P s .prod
        { s with processed := true, produceEnd := true, queue := [], free := s.free ++ qcells s, ploc := .notifyExit,
                 produced := [], delivered := [], pidx := 0, srcEnded := false, ret := .none }
  | catchProduce (_ : s.ploc = .catchLock) (_ : s.sig = 0) :
      Trans rk P s .prod
        { s with produceEnd := true, ploc := if s.nwaitC = 0 then .exited else .notifyExit, ret := .none }
  | catchDestroy (_ : s.ploc = .catchLock) (_ : ¬s.sig = 1) (_ : ¬s.sig = 0) :
      Trans rk P s .prod { s with ploc := .exited, ret := .none }
  | prodSpur (_ : s.ploc = .waitSet) :
      Trans rk P s .prodSpur { s with ploc := .woken, ret := .none }
  -- Next(DType**)
  | nStart {toOut : Bool}
      (_ : s.xloc = .idle ∧ s.outCall = false ∧ (toOut = true → busy s = 0 ∧ s.outData = none)) :
      Trans rk P s (.nStart toOut) { s with n0 := s.n0 + 1, outCall := toOut, ret := .none }
  | nDestroyed (_ : 0 < s.n0) (_ : s.sig = 2) :
      Trans rk P s .nLoadSig { s with n0 := s.n0 - 1, outCall := false, ret := .nextDestroyed }
  | nLoadSig (_ : 0 < s.n0) (_ : ¬s.sig = 2) :
      Trans rk P s .nLoadSig { s with n0 := s.n0 - 1, n1 := s.n1 + 1, ret := .none }
  | nExcErr (_ : 0 < s.n1) (_ : s.exc = true) :
      Trans rk P s .nExc { s with n1 := s.n1 - 1, outCall := false, ret := .err }
  | nExc (_ : 0 < s.n1) (_ : s.exc = false) :
      Trans rk P s .nExc { s with n1 := s.n1 - 1, n2 := s.n2 + 1, ret := .none }
  | nLockCheck (_ : 0 < s.n2) (_ : ¬s.sig = 0) :
      Trans rk P s .nLock { s with n2 := s.n2 - 1, outCall := false, ret := .errCheck }
  | nLockWait (_ : 0 < s.n2) (_ : s.sig = 0) (_ : s.queue.length = 0 ∧ s.produceEnd = false) :
      Trans rk P s .nLock { s with nwaitC := s.nwaitC + 1, n2 := s.n2 - 1, nW := s.nW + 1, ret := .none }
  | nLockEnd (_ : 0 < s.n2) (_ : s.sig = 0) (_ : s.queue.length = 0) (_ : s.produceEnd = true) :
      Trans rk P s .nLock { s with n2 := s.n2 - 1, n6 := s.n6 + 1, ret := .none }
  | nLockOut {c : Nat} {it : Item} {q : List (Nat × Item)} (_ : 0 < s.n2) (_ : s.sig = 0)
      (_ : s.queue = (c, it) :: q) (_ : s.outCall = true) :
      Trans rk P s .nLock
        { s with queue := q, outData := some (c, it), n2 := s.n2 - 1,
                 n4 := if ¬s.nwaitP = 0 ∧ s.produceEnd = false then s.n4 + 1 else s.n4,
                 n5 := if ¬s.nwaitP = 0 ∧ s.produceEnd = false then s.n5 else s.n5 + 1,
                 delivered := s.delivered ++ [it],
                 maxLent := max s.maxLent (lentish { s with outData := some (c, it) }), ret := .none }
  | nLockLent {c : Nat} {it : Item} {q : List (Nat × Item)} (_ : 0 < s.n2) (_ : s.sig = 0)
      (_ : s.queue = (c, it) :: q) (_ : s.outCall = false) :
      Trans rk P s .nLock
        { s with queue := q, n2 := s.n2 - 1,
                 n4 := if ¬s.nwaitP = 0 ∧ s.produceEnd = false then s.n4 + 1 else s.n4,
                 n5 := if ¬s.nwaitP = 0 ∧ s.produceEnd = false then s.n5 else s.n5 + 1,
                 lent := c :: s.lent, delivered := s.delivered ++ [it],
                 maxLent := max s.maxLent (lentish { s with lent := c :: s.lent }), ret := .none }
  | nRelockWait (_ : 0 < s.nK) (_ : s.queue.length = 0 ∧ s.produceEnd = false) :
      Trans rk P s .nRelock { s with nW := s.nW + 1, nK := s.nK - 1, ret := .none }
  | nRelockEnd (_ : 0 < s.nK) (_ : s.queue.length = 0) (_ : s.produceEnd = true) :
      Trans rk P s .nRelock { s with nwaitC := s.nwaitC - 1, nK := s.nK - 1, n6 := s.n6 + 1, ret := .none }
  | nRelockOut {c : Nat} {it : Item} {q : List (Nat × Item)} (_ : 0 < s.nK) (_ : s.queue = (c, it) :: q)
      (_ : s.outCall = true) :
      Trans rk P s .nRelock
        { s with queue := q, nwaitC := s.nwaitC - 1, outData := some (c, it), nK := s.nK - 1,
                 n4 := if ¬s.nwaitP = 0 ∧ s.produceEnd = false then s.n4 + 1 else s.n4,
                 n5 := if ¬s.nwaitP = 0 ∧ s.produceEnd = false then s.n5 else s.n5 + 1,
                 delivered := s.delivered ++ [it],
                 maxLent := max s.maxLent (lentish { s with outData := some (c, it) }), ret := .none }
  | nRelockLent {c : Nat} {it : Item} {q : List (Nat × Item)} (_ : 0 < s.nK) (_ : s.queue = (c, it) :: q)
      (_ : s.outCall = false) :
      Trans rk P s .nRelock
        { s with queue := q, nwaitC := s.nwaitC - 1, nK := s.nK - 1,
                 n4 := if ¬s.nwaitP = 0 ∧ s.produceEnd = false then s.n4 + 1 else s.n4,
                 n5 := if ¬s.nwaitP = 0 ∧ s.produceEnd = false then s.n5 else s.n5 + 1,
                 lent := c :: s.lent, delivered := s.delivered ++ [it],
                 maxLent := max s.maxLent (lentish { s with lent := c :: s.lent }), ret := .none }
  | nNotify (_ : 0 < s.n4) :
      Trans rk P s .nNotify { s with ploc := wokenLoc s.ploc, n4 := s.n4 - 1, n5 := s.n5 + 1, ret := .none }
  | nRetItem (_ : 0 < s.n5) :
      Trans rk P s .nRetItem
        { s with n5 := s.n5 - 1, outCall := false, ret := if s.exc = true then .err else .nextItem }
  | nRetEnd (_ : 0 < s.n6) :
      Trans rk P s .nRetEnd { s with n6 := s.n6 - 1, outCall := false, ret := if s.exc = true then .err else .nextEnd }
  | nSpur (_ : 0 < s.nW) :
      Trans rk P s .nSpur { s with nW := s.nW - 1, nK := s.nK + 1, ret := .none }
  -- Recycle
  | rStart {c : Nat} (_ : s.xloc = .idle ∧ s.outCall = false ∧ c ∈ s.lent) :
      Trans rk P s (.rStart c)
        { s with r0 := s.r0 + 1, lent := s.lent.erase c, recycling := c :: s.recycling, ret := .none }
  | rStartOut (_ : s.xloc = .idle ∧ s.outCall = false ∧ busy s = 0 ∧ ¬s.outData = none) :
      Trans rk P s .rStartOut { s with r0 := s.r0 + 1, outCall := true, ret := .none }
  | rExcErrOut {c : Nat} (_ : 0 < s.r0) (_ : s.exc = true) (_ : s.outCall = true) :
      Trans rk P s (.rExc c) { s with r0 := s.r0 - 1, outCall := false, ret := .err }
  | rExcErr {c : Nat} (_ : 0 < s.r0) (_ : s.exc = true) (_ : s.outCall = false) (_ : c ∈ s.recycling) :
      Trans rk P s (.rExc c)
        { s with r0 := s.r0 - 1, outCall := false, lent := c :: s.lent, recycling := s.recycling.erase c, ret := .err }
  | rExc {c : Nat} (_ : 0 < s.r0) (_ : s.exc = false) :
      Trans rk P s (.rExc c) { s with r0 := s.r0 - 1, r1 := s.r1 + 1, ret := .none }
  | rLockOut {c c' : Nat} {it : Item} (_ : 0 < s.r1) (_ : s.outCall = true) (_ : s.outData = some (c', it)) :
      Trans rk P s (.rLock c)
        { s with free := s.free ++ [c'], outData := none, r1 := s.r1 - 1,
                 r2 := if ¬s.nwaitP = 0 ∧ s.produceEnd = false then s.r2 + 1 else s.r2,
                 r3 := if ¬s.nwaitP = 0 ∧ s.produceEnd = false then s.r3 else s.r3 + 1, ret := .none }
  | rLockNothing {c : Nat} (_ : 0 < s.r1) (_ : s.outCall = true) (_ : s.outData = none) :
      Trans rk P s (.rLock c) { s with r1 := s.r1 - 1, ret := .none, ub := true }
  | rLock {c : Nat} (_ : 0 < s.r1) (_ : s.outCall = false) (_ : c ∈ s.recycling) :
      Trans rk P s (.rLock c)
        { s with free := s.free ++ [c], r1 := s.r1 - 1,
                 r2 := if ¬s.nwaitP = 0 ∧ s.produceEnd = false then s.r2 + 1 else s.r2,
                 r3 := if ¬s.nwaitP = 0 ∧ s.produceEnd = false then s.r3 else s.r3 + 1,
                 recycling := s.recycling.erase c, ret := .none }
  | rNotify (_ : 0 < s.r2) :
      Trans rk P s .rNotify { s with ploc := wokenLoc s.ploc, r2 := s.r2 - 1, r3 := s.r3 + 1, ret := .none }
  | rRet (_ : 0 < s.r3) :
      Trans rk P s .rRet { s with r3 := s.r3 - 1, outCall := false, ret := if s.exc = true then .err else .ok }
  -- BeforeFirst and Destroy
  | bStart (_ : s.xloc = .idle ∧ s.outCall = false ∧ busy s = 0) :
      Trans rk P s .bStart { s with xloc := .bExc0, bfPass := s.pass, ret := .none }
  | dStartJoined (_ : s.xloc = .idle ∧ s.outCall = false ∧ busy s = 0) (_ : s.joined = true) :
      Trans rk P s .dStart
        { s with queue := [], free := [], outData := none, produced := [], delivered := [], pidx := 0, srcEnded := false,
                 freed := s.freed ++ s.free ++ qcells s ++ (optList s.outData).map (·.1), ret := .ok }
  | dStart (_ : s.xloc = .idle ∧ s.outCall = false ∧ busy s = 0) (_ : s.joined = false) :
      Trans rk P s .dStart { s with xloc := .dLock, ret := .none }
  | bExc0Err (_ : s.xloc = .bExc0) (_ : s.exc = true) :
      Trans rk P s .xStep { s with xloc := .idle, ret := .err }
  | bExc0 (_ : s.xloc = .bExc0) (_ : s.exc = false) :
      Trans rk P s .xStep { s with xloc := .bLock, ret := .none }
  | bLockErr (_ : s.xloc = .bLock) (_ : rk = true) (_ : s.exc = true) :
      Trans rk P s .xStep { s with xloc := .idle, ret := .err }
  | bLockDestroyed (_ : s.xloc = .bLock) (_ : ¬(rk = true ∧ s.exc = true)) (_ : s.sig = 2) :
      Trans rk P s .xStep
        { s with free := s.free ++ (optList s.outData).map (·.1), outData := none, xloc := .idle, ret := .ok }
  | bLockCheck (_ : s.xloc = .bLock) (_ : ¬(rk = true ∧ s.exc = true)) (_ : ¬s.sig = 2) (_ : s.processed = true) :
      Trans rk P s .xStep
        { s with sig := 1, free := s.free ++ (optList s.outData).map (·.1), outData := none, xloc := .idle,
                 bfPosted := s.bfPosted + 1, ret := .errCheck }
  | bLockPost (_ : s.xloc = .bLock) (_ : ¬(rk = true ∧ s.exc = true)) (_ : ¬s.sig = 2) (_ : s.processed = false) :
      Trans rk P s .xStep
        { s with sig := 1, free := s.free ++ (optList s.outData).map (·.1), outData := none,
                 ploc := if s.nwaitP = 0 then s.ploc else wokenLoc s.ploc, xloc := .bWait,
                 bfPosted := s.bfPosted + 1, ret := .none }
  | bWokenDone (_ : s.xloc = .bWoken) (_ : s.processed = true) :
      Trans rk P s .xStep
        { s with processed := false, xloc := if ¬s.nwaitP = 0 ∧ s.produceEnd = false then .bNotify else .bExc1,
                 ret := .none }
  | bWokenWait (_ : s.xloc = .bWoken) (_ : s.processed = false) :
      Trans rk P s .xStep { s with xloc := .bWait, ret := .none }
  | bNotify (_ : s.xloc = .bNotify) :
      Trans rk P s .xStep { s with ploc := wokenLoc s.ploc, xloc := .bExc1, ret := .none }
  | bExc1 (_ : s.xloc = .bExc1) :
      Trans rk P s .xStep { s with xloc := .idle, ret := if s.exc = true then .err else .ok }
  | dLock (_ : s.xloc = .dLock) :
      Trans rk P s .xStep
        { s with sig := 2, ploc := if s.nwaitP = 0 then s.ploc else wokenLoc s.ploc, xloc := .dJoin, ret := .none }
  | dJoin (_ : s.xloc = .dJoin) (_ : s.ploc = .exited) :
      Trans rk P s .xStep
        { s with queue := [], free := [], outData := none, joined := true, xloc := .idle, produced := [],
                 delivered := [], pidx := 0, srcEnded := false,
                 freed := s.freed ++ s.free ++ qcells s ++ (optList s.outData).map (·.1), ret := .ok }
  | xSpur (_ : s.xloc = .bWait) :
      Trans rk P s .xSpur { s with xloc := .bWoken, ret := .none }

theorem Trans.of_eq {rk : Bool} {P : Params} {s t s' : State} {e : Event} (h : Trans rk P s e t) (ht : t = s') :
    Trans rk P s e s' := ht ▸ h

/-!
`stepR_trans`, function by function of the model: a `split` per branch point in the order of the source, the rule of each
path by name; the two new states agree by unfolding, so `exact` checks them.  Where the model branches on whole states
and the rule keeps the `if` inside a field (`rAfter`, the tail of `nTake`, the catch block) a closed form comes first.
-/
variable {rk : Bool} {P : Params} {s s' : State}

theorem rAfter_eq (s : State) : rAfter s =
    { s with r2 := if ¬s.nwaitP = 0 ∧ s.produceEnd = false then s.r2 + 1 else s.r2,
             r3 := if ¬s.nwaitP = 0 ∧ s.produceEnd = false then s.r3 else s.r3 + 1 } := by
  simp only [rAfter, rNotify, bne_iff_ne, ne_eq, Bool.and_eq_true, Bool.not_eq_true']
  split <;> rfl

theorem pEnter_trans {n : Nat} (hl : s.ploc = .top ∧ n = s.nwaitP ∨ s.ploc = .woken ∧ n = s.nwaitP - 1)
    (hp : pPred P s = true) : Trans rk P s .prod (pEnter P { s with ret := .none, nwaitP := n }) := by
  simp only [pEnter, pTakeIsProduce, pTakeHasFree, pTakeIsRewind, kProduce, kBeforeFirst, beq_iff_eq, bne_iff_ne, ne_eq, ite_not]
  obtain ⟨hl, rfl⟩ | ⟨hl, rfl⟩ := hl
  all_goals
    split
    · split
      · first | exact .topFresh hl hp ‹_› ‹_› | exact .wokenFresh hl hp ‹_› ‹_›
      · split
        · first | exact .topTake hl hp ‹_› ‹_› | exact .wokenTake hl hp ‹_› ‹_›
        · simp_all
    · split
      · split
        · first | exact .topRewind hl hp ‹_› ‹_› | exact .wokenRewind hl hp ‹_› ‹_›
        · first | exact .topRewindThrow hl hp ‹_› ‹_› | exact .wokenRewindThrow hl hp ‹_› ‹_›
      · first | exact .topDestroy hl hp ‹_› ‹_› | exact .wokenDestroy hl hp ‹_› ‹_›

theorem pCallback_trans (hl : s.ploc = .call) : Trans rk P s .prod (pCallback P { s with ret := .none }) := by
  simp only [pCallback]
  split
  · split
    · exact .callItem hl ‹_› ‹_›
    · exact .callItemNew hl ‹_› ‹_›
  · exact .callFin hl ‹_›
  · exact .callThrow hl ‹_›

theorem pPublish_trans (hl : s.ploc = .publish) : Trans rk P s .prod (pPublish { s with ret := .none }) := by
  cases he : s.produceEnd <;> cases hc : s.pcell <;> cases hi : s.pitem
  case false.some.some => exact .of_eq (.pubItem hl he hc hi) (by simp [pPublish, pPublishIsItem, pPublishNotify, he])
  case true.none.none | true.none.some =>
    all_goals exact .of_eq (.pubEnd hl he hc) (by simp [pPublish, pPublishIsItem, pPublishHasCell, pPublishNotify, optCode, he, hc, hi])
  case true.some.none | true.some.some =>
    all_goals exact .of_eq (.pubEndCell hl he hc) (by simp [pPublish, pPublishIsItem, pPublishHasCell, pPublishNotify, optCode, he, hi])
  all_goals exact .of_eq (.pubNothing hl he (by simp [hc, hi])) (by simp [pPublish, pPublishIsItem, pPublishNotify, he, hc, hi])

theorem pCatch_trans (hl : s.ploc = .catchLock) : Trans rk P s .prod (pCatch { s with ret := .none }) := by
  simp only [pCatch, cIsRewind, cIsProduce, cNotify, kProduce, kBeforeFirst, beq_iff_eq, bne_iff_ne, ne_eq, ite_not]
  split
  · exact .catchRewind hl ‹_›
  · split
    · exact .of_eq (.catchProduce hl ‹_›) (by split <;> rfl)
    · exact .catchDestroy hl ‹_› ‹_›

theorem prodStep_trans (hs : prodStep P { s with ret := .none } = some s') : Trans rk P s .prod s' := by
  simp only [prodStep] at hs
  split at hs
  next hl =>
    split at hs <;> cases hs
    · exact pEnter_trans (n := s.nwaitP) (.inl ⟨hl, rfl⟩) ‹_›
    · exact .topWait hl (eq_false_of_ne_true ‹_›)
  next => cases hs
  next hl =>
    split at hs <;> cases hs
    · exact pEnter_trans (.inr ⟨hl, rfl⟩) ‹_›
    · exact .wokenWait hl (eq_false_of_ne_true ‹_›)
  next hl => cases hs; exact pCallback_trans hl
  next hl => cases hs; exact .store hl
  next hl => cases hs; exact pPublish_trans hl
  next hl => cases hs; exact .notifyTop hl
  next hl => cases hs; exact .notifyExit hl
  next hl => cases hs; exact .catchRec hl
  next hl => cases hs; exact pCatch_trans hl
  next => cases hs

theorem xStep_trans (hs : xStep rk { s with ret := .none } = some s') : Trans rk P s .xStep s' := by
  simp only [xStep] at hs
  split at hs
  next => cases hs
  next hx =>
    cases hs
    split
    · exact .bExc0Err hx ‹_›
    · exact .bExc0 hx (eq_false_of_ne_true ‹_›)
  next hx =>
    simp only [bOut_eq, bIsDestroyed, bProcCheck, bPostNotify, bWaitPred, bAfter, bNotify, kDestroy, kBeforeFirst, beq_iff_eq,
      bne_iff_ne, ne_eq, Bool.and_eq_true, Bool.not_eq_true', Bool.not_not, ite_not] at hs
    split at hs
    · cases hs; exact .bLockErr hx (‹_ ∧ _›).1 (‹_ ∧ _›).2
    split at hs
    · cases hs; exact .bLockDestroyed hx ‹_› ‹_›
    split at hs
    · cases hs; exact .bLockCheck hx ‹_› ‹_› ‹_›
    cases hs; exact .bLockPost hx ‹_› ‹_› (eq_false_of_ne_true ‹_›)
  next => cases hs
  next hx =>
    simp only [bWaitPred, bAfter, bNotify, bne_iff_ne, ne_eq, Bool.and_eq_true, Bool.not_eq_true'] at hs
    split at hs <;> cases hs
    · exact .bWokenDone hx ‹_›
    · exact .bWokenWait hx (eq_false_of_ne_true ‹_›)
  next hx => cases hs; exact .bNotify hx
  next hx => cases hs; exact .bExc1 hx
  next hx =>
    cases hs
    exact .of_eq (.dLock hx) (by simp only [dNotify, kDestroy, bne_iff_ne, ne_eq, ite_not])
  next hx =>
    split at hs <;> cases hs
    exact .dJoin hx ‹_›

theorem nTake_out {c : Nat} {it : Item} {q : List (Nat × Item)} (hq : s.queue = (c, it) :: q) (ho : s.outCall = true) :
    nTake s = { s with queue := q, outData := some (c, it), delivered := s.delivered ++ [it],
                       maxLent := max s.maxLent (lentish { s with outData := some (c, it) }),
                       n4 := if ¬s.nwaitP = 0 ∧ s.produceEnd = false then s.n4 + 1 else s.n4,
                       n5 := if ¬s.nwaitP = 0 ∧ s.produceEnd = false then s.n5 else s.n5 + 1 } := by
  simp only [nTake, nHasItem, nNotify, hq, ho, List.length_cons, bne_iff_ne, ne_eq, Nat.add_one_ne_zero, not_false_eq_true,
    if_true, Bool.and_eq_true, Bool.not_eq_true']
  split <;> rfl

theorem nTake_lent {c : Nat} {it : Item} {q : List (Nat × Item)} (hq : s.queue = (c, it) :: q) (ho : s.outCall = false) :
    nTake s = { s with queue := q, lent := c :: s.lent, delivered := s.delivered ++ [it],
                       maxLent := max s.maxLent (lentish { s with lent := c :: s.lent }),
                       n4 := if ¬s.nwaitP = 0 ∧ s.produceEnd = false then s.n4 + 1 else s.n4,
                       n5 := if ¬s.nwaitP = 0 ∧ s.produceEnd = false then s.n5 else s.n5 + 1 } := by
  simp only [nTake, nHasItem, nNotify, hq, ho, List.length_cons, bne_iff_ne, ne_eq, Nat.add_one_ne_zero, not_false_eq_true,
    if_true, Bool.and_eq_true, Bool.not_eq_true', Bool.false_eq_true, if_false]
  split <;> rfl

theorem nTake_end (hq : s.queue = []) (he : s.produceEnd = true) : nTake s = { s with n6 := s.n6 + 1 } := by
  simp [nTake, nHasItem, nEndCheck, hq, he]

theorem stepR_trans {e : Event} (hs : stepR rk P s e = some s') : Trans rk P s e s' := by
  cases e
  case prod => exact prodStep_trans hs
  case xStep => exact xStep_trans hs
  -- the events with one guarded path
  case prodSpur | xSpur | nStart | nNotify | nRetItem | nRetEnd | nSpur | rStart | rStartOut | rNotify | rRet | bStart =>
    all_goals
      simp only [stepR, wakeProducer, endCall, ne_eq] at hs
      split at hs <;> cases hs
      constructor; assumption
  case nLoadSig =>
    simp only [stepR, nIsDestroyed, kDestroy, beq_iff_eq, endCall] at hs
    split at hs <;> cases hs
    split
    · exact .nDestroyed ‹_› ‹_›
    · exact .nLoadSig ‹_› ‹_›
  case nExc =>
    simp only [stepR, endCall] at hs
    split at hs <;> cases hs
    split
    · exact .nExcErr ‹_› ‹_›
    · exact .nExc ‹_› (eq_false_of_ne_true ‹_›)
  case nLock =>
    simp only [stepR, nSigOk, nWaitPred, kProduce, endCall, bne_iff_ne, ne_eq, Bool.or_eq_true, Bool.not_eq_true',
      beq_eq_false_iff_ne] at hs
    split at hs <;> cases hs
    split
    · exact .nLockCheck ‹_› ‹_›
    have hsig : s.sig = 0 := Decidable.not_not.mp ‹_›
    split
    · by_cases hq : s.queue = []
      · have he : s.produceEnd = true := by simp_all
        exact .of_eq (.nLockEnd ‹_› hsig (by simp [hq]) he) (by rw [nTake_end] <;> assumption)
      · obtain ⟨⟨c, it⟩, q, hq⟩ := List.exists_cons_of_ne_nil hq
        by_cases ho : s.outCall = true
        · exact .of_eq (.nLockOut ‹_› hsig hq ho) (by rw [nTake_out] <;> first | assumption | rfl)
        · replace ho := eq_false_of_ne_true ho
          exact .of_eq (.nLockLent ‹_› hsig hq ho) (by rw [nTake_lent] <;> first | assumption | rfl)
    · exact .nLockWait ‹_› hsig (by simp_all)
  case nRelock =>
    simp only [stepR, nWaitPred, bne_iff_ne, ne_eq, Bool.or_eq_true] at hs
    split at hs <;> cases hs
    split
    · by_cases hq : s.queue = []
      · have he : s.produceEnd = true := by simp_all
        exact .of_eq (.nRelockEnd ‹_› (by simp [hq]) he) (by rw [nTake_end] <;> assumption)
      · obtain ⟨⟨c, it⟩, q, hq⟩ := List.exists_cons_of_ne_nil hq
        by_cases ho : s.outCall = true
        · exact .of_eq (.nRelockOut ‹_› hq ho) (by rw [nTake_out] <;> first | assumption | rfl)
        · replace ho := eq_false_of_ne_true ho
          exact .of_eq (.nRelockLent ‹_› hq ho) (by rw [nTake_lent] <;> first | assumption | rfl)
    · exact .nRelockWait ‹_› (by simp_all)
  case rExc =>
    simp only [stepR, endCall] at hs
    split at hs
    · split at hs
      · split at hs
        · cases hs; exact .rExcErrOut ‹_› ‹_› ‹_›
        · split at hs <;> cases hs
          exact .rExcErr ‹_› ‹_› (eq_false_of_ne_true ‹_›) ‹_›
      · cases hs; exact .rExc ‹_› (eq_false_of_ne_true ‹_›)
    · cases hs
  case rLock =>
    simp only [stepR, rAfter_eq] at hs
    split at hs
    · split at hs
      · split at hs <;> cases hs
        · exact .rLockOut ‹_› ‹_› ‹_›
        · exact .rLockNothing ‹_› ‹_› ‹_›
      · split at hs <;> cases hs
        exact .rLock ‹_› (eq_false_of_ne_true ‹_›) ‹_›
    · cases hs
  case dStart =>
    simp only [stepR, cleanup] at hs
    split at hs <;> cases hs
    split
    · exact .dStartJoined ‹_› ‹_›
    · exact .dStart ‹_› (eq_false_of_ne_true ‹_›)

/-- what the value a call returned says about the state it returned from -/
structure RetSpec (s s' : State) : Prop where
  nextItem : s'.ret = .nextItem → s.exc = false
  nextEnd : s'.ret = .nextEnd → 0 < s.n6 ∧ s.exc = false
  nextDestroyed : s'.ret = .nextDestroyed → s.sig = kDestroy
  errCheck : s'.ret = .errCheck → 0 < s.n2 ∧ s.sig ≠ kProduce ∨ s.xloc = .bLock ∧ s.sig ≠ kDestroy ∧ s.processed = true
  ok : s'.ret = .ok → s'.sig = s.sig ∧ (s.exc = false ∨ s.joined = true ∨ s.sig = kDestroy ∨ s.xloc = .dJoin)

theorem Trans.ret_spec {rk : Bool} {P : Params} {s s' : State} {e : Event} (ht : Trans rk P s e s') : RetSpec s s' := by
  -- `nextItem`: `nRetItem`; `nextEnd`: `nRetEnd`; `nextDestroyed`: `nDestroyed`; `errCheck`: `nLockCheck`, `bLockCheck`; `ok`: `rRet`,
  -- `bLockDestroyed`, `bExc1`, `dStartJoined`, `dJoin`.  A rule that returns another value, or none, has nothing to show
  cases ht <;> constructor <;> first | (intro h; cases h; done) | grind

/-- only `Recycle(c)` takes cell `c` out of the caller's hands -/
theorem stepR_lent {e : Event} {c : Nat} (hs : stepR rk P s e = some s') (hc : c ∈ s.lent) (hne : e ≠ .rStart c) :
    c ∈ s'.lent := by
  cases stepR_trans hs <;> first | exact hc | grind

end DmlcModel.TIter
