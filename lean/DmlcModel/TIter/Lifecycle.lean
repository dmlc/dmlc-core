import DmlcModel.TIter.Invariant
/-!
`Init` again after `Destroy`.  After a completed `Destroy`, with no call in progress and every lent cell given back,
`Init(next, beforefirst)` puts the object exactly into its initial state, so its second life is an execution of the same
transition system from `init`.  A source whose `Init` forgets one of the assignments fails `reinit_eq_init`.
-/
namespace DmlcModel.TIter
open DmlcModel.Gen.TIter

/-- `Init(next, beforefirst)` after `Destroy`: the assignments of the source (`Gen.TIter.init*`), a new producer thread at the
top of its loop, and a new observation epoch (ghost history reset) -/
def reinit (s : State) : State :=
  { s with
    sig := initSig.getD s.sig
    processed := initProcessed.getD s.processed
    produceEnd := initProduceEnd.getD s.produceEnd
    exc := if initClearsExc then false else s.exc
    joined := false
    ploc := .top, pcell := none, pitem := none, pres := false
    produced := [], delivered := [], pass := 0, pidx := 0, srcEnded := false, thrown := false, allocated := 0,
    maxLent := 0, lost := [], freed := [], rewCalls := 0, bfPosted := 0, bfPass := 0, ret := .none }

/-- `Destroy` has returned, no call is in progress, the consumers have given back what they held -/
structure AfterDestroy (s : State) : Prop where
  joined : s.joined = true
  idle : s.xloc = .idle
  quiet : busy s = 0
  noOut : s.outCall = false
  queue : s.queue = []
  free : s.free = []
  outData : s.outData = none
  lent : s.lent = []
  recycling : s.recycling = []

theorem reinit_eq_init {s : State} (ha : InvA s) (h : AfterDestroy s) : reinit s = init := by
  have hj := ha.joined h.joined
  have hsd := ha.sigD hj.2
  have hq : s.n0 = 0 ∧ s.n1 = 0 ∧ s.n2 = 0 ∧ s.nW = 0 ∧ s.nK = 0 ∧ s.n4 = 0 ∧ s.n5 = 0 ∧ s.n6 = 0 ∧
      s.r0 = 0 ∧ s.r1 = 0 ∧ s.r2 = 0 ∧ s.r3 = 0 := by
    have := h.quiet
    simp only [busy] at this
    omega
  have hnp : s.nwaitP = 0 := by rw [ha.nwp, hj.1]; rfl
  have hnc : s.nwaitC = 0 := by rw [ha.nwc]; omega
  have hub := ha.ub
  obtain ⟨h0, h1, h2, hW, hK, h4, h5, h6, g0, g1, g2, g3⟩ := hq
  have e1 : initSig = some kProduce := by decide
  have e2 : initProcessed = some false := by decide
  have e3 : initProduceEnd = some false := by decide
  have e4 : initClearsExc = true := by decide
  obtain ⟨_, hidle, _, hno, hqe, hfe, hoe, hle, hre⟩ := h
  -- every field that `reinit` keeps is now known to have its initial value
  cases s
  simp only [reinit, init, e1, e2, e3, e4, Option.getD_some, if_true] at *
  simp_all

theorem afterDestroy_of_join {rk : Bool} {P : Params} {s s' : State} (hex : busy s = 0 ∧ s.outCall = false)
    (hs : stepR rk P s .xStep = some s') (hx : s.xloc = .dJoin) (hl : s.lent = []) (hr : s.recycling = []) :
    AfterDestroy s' := by
  cases stepR_trans hs
  case dJoin => exact ⟨rfl, rfl, hex.1, hex.2, rfl, rfl, rfl, hl, hr⟩
  all_goals simp_all

end DmlcModel.TIter
