import DmlcModel.TIter.Invariant
import DmlcModel.TIter.Measure
import DmlcModel.TIter.Runs
/-!
Termination: `ProgStep` is well-founded, any scripts, any capacity.  Given deadlock freedom as a hypothesis, every
execution of the calls in progress is finite and can only stop when every call has returned.
-/
namespace DmlcModel.TIter

theorem progStep_wf (P : Params) : WellFounded (ProgStep P) := by
  refine Subrelation.wf ?_ (muLt_wf P)
  intro t s h
  obtain ⟨hr, e, hp, hs⟩ := h
  exact mu_decreases (inv_reachable hr).a (invF_reachable hr) hp hs

theorem no_infinite_chain {α : Type} {r : α → α → Prop} (hwf : WellFounded r) (f : Nat → α)
    (h : ∀ n, r (f (n + 1)) (f n)) : False := by
  have key : ∀ x, Acc r x → ∀ n, f n = x → False := by
    intro x hx
    induction hx with
    | intro x _ ih => intro n hn; exact ih (f (n + 1)) (hn ▸ h n) (n + 1) rfl
  exact key (f 0) (hwf.apply _) 0 rfl

theorem no_infinite_progress {P : Params} {s : State} (hr : Reachable P s) :
    ¬ ∃ f : Nat → State, f 0 = s ∧ ∀ n, ∃ e : Event, e.isProgress = true ∧ step P (f n) e = some (f (n + 1)) := by
  rintro ⟨f, h0, hf⟩
  have hreach : ∀ n, Reachable P (f n) := by
    intro n
    induction n with
    | zero => exact h0 ▸ hr
    | succ n ih => obtain ⟨e, _, hs⟩ := hf n; exact ReachableR.step e ih hs
  exact no_infinite_chain (progStep_wf P) f (fun n => ⟨hreach n, hf n⟩)

theorem exists_maximal {P : Params} {s : State} (hr : Reachable P s) : ∃ t, ProgSteps P s t ∧ Quiescent P t := by
  have key : ∀ x, Acc (ProgStep P) x → Reachable P x → ∃ t, ProgSteps P x t ∧ Quiescent P t := by
    intro x hx
    induction hx with
    | intro x _ ih =>
      intro hrx
      by_cases hen : ∃ e : Event, e.isProgress = true ∧ ∃ u, step P x e = some u
      · obtain ⟨e, hp, u, hs⟩ := hen
        obtain ⟨t, ht, hmax⟩ := ih u ⟨hrx, e, hp, hs⟩ (ReachableR.step e hrx hs)
        refine ⟨t, ?_, hmax⟩
        clear hmax ih
        induction ht with
        | refl => exact ProgSteps.tail e (ProgSteps.refl x) hp hs
        | tail e' _ hp' hs' ih' => exact ProgSteps.tail e' ih' hp' hs'
      · refine ⟨x, ProgSteps.refl x, ?_⟩
        intro e hp
        cases hst : step P x e with
        | none => rfl
        | some u => exact absurd ⟨e, hp, u, hst⟩ hen
  exact key s ((progStep_wf P).apply s) hr

theorem Quiescent.returned {P : Params} {t : State} (hq : Quiescent P t)
    (hd : inCall t → ∃ e : Event, e.isProgress = true ∧ (step P t e).isSome = true) : busy t = 0 ∧ t.xloc = .idle := by
  have hnc : ¬ inCall t := fun hc => by
    obtain ⟨e, hp, hs⟩ := hd hc
    rw [hq e hp] at hs
    cases hs
  unfold inCall at hnc
  exact ⟨by omega, by cases hx : t.xloc <;> simp_all⟩

/-- what holds of every quiescent reachable state holds at the end of every maximal progress execution, and one exists -/
theorem runs_to {P : Params} {s : State} {Q : State → Prop} (hr : Reachable P s)
    (key : ∀ t, Reachable P t → Quiescent P t → Q t) :
    (∀ t, ProgSteps P s t → Quiescent P t → Q t) ∧ (∃ t, ProgSteps P s t ∧ Q t) := by
  refine ⟨fun t ht hq => key t (progSteps_reachable hr ht) hq, ?_⟩
  obtain ⟨t, ht, hq⟩ := exists_maximal hr
  exact ⟨t, ht, key t (progSteps_reachable hr ht) hq⟩

end DmlcModel.TIter
