import DmlcModel.TIter.InvC
/-!
Positions and passes: with group C1 of the invariant the produced items are what the source script yields and the delivered
ones a gap-free prefix of them; the pass number never goes down.
-/
namespace DmlcModel.TIter

theorem range_prefix {a b : List Nat} {n : Nat} (h : a ++ b = List.range n) : a = List.range a.length := by
  have hl : a.length ≤ n := by
    have := congrArg List.length h
    simp at this; omega
  have h1 : (a ++ b).take a.length = a := by simp
  rw [h, List.take_range] at h1
  rw [← h1, Nat.min_eq_left hl]
  simp

theorem InvC1.delivered_idx {P : Params} {s : State} (h : InvC1 P s) :
    s.delivered.map (·.idx) = List.range s.delivered.length := by
  have h2 : s.delivered.map (·.idx) ++ (qitems s ++ optList s.pitem).map (·.idx) = List.range s.pidx := by
    rw [← h.idx, ← h.order]; simp
  simpa using range_prefix h2

theorem eq_prodList (src : Nat → Nat → SrcRes) (p : Nat) :
    ∀ (n : Nat) (l : List Item), l.map (·.idx) = List.range n →
      (∀ it, it ∈ l → it.pass = p ∧ src p it.idx = .item it.val) → l = prodList src p n := by
  intro n
  induction n with
  | zero => intro l h _; simp at h; simp [h, prodList]
  | succ n ih =>
    intro l h hs
    rw [List.range_succ] at h
    obtain ⟨l1, l2, rfl, h1, h2⟩ := List.map_eq_append_iff.mp h
    -- `h2 : l2.map idx = [n]` leaves a singleton as the only shape of `l2`
    match l2, h2 with
    | [x], h2 =>
      have hx : x.idx = n := by simpa using h2
      have hxs := hs x (by simp)
      have := ih l1 h1 (fun it hit => hs it (by simp [hit]))
      rw [prodList, ← this]
      obtain ⟨xp, xi, xv⟩ := x
      simp only at hx hxs
      obtain ⟨hp, hv⟩ := hxs
      subst hx hp
      simp [hv]

theorem stepR_pass_le {rk : Bool} {P : Params} {s s' : State} {e : Event} (hs : stepR rk P s e = some s') :
    s.pass ≤ s'.pass := by
  cases stepR_trans hs <;> first | exact Nat.le_refl _ | exact Nat.le_succ _

theorem steps_pass_mono {P : Params} {s t : State} (h : Steps P s t) : s.pass ≤ t.pass := by
  induction h with
  | refl => exact Nat.le_refl _
  | tail e _ hs ih => exact Nat.le_trans ih (stepR_pass_le hs)

end DmlcModel.TIter
