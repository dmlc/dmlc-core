import DmlcModel.TIter.Trans
import DmlcModel.TIter.Defs
/-!
Group D of the invariant: no lost wake-up.  Whoever sits in a wait set still has a false predicate, or a notification for
it is already committed.  `dB1` needs the repaired `BeforeFirst`; for the pinned code it is false (Props/C09Witness.lean).
-/
namespace DmlcModel.TIter
open DmlcModel.Gen.TIter

structure InvD (P : Params) (s : State) : Prop where
  dC : 0 < s.nW → (s.queue = [] ∧ s.produceEnd = false) ∨ s.ploc = .publish ∨ s.ploc = .notifyTop ∨ s.ploc = .notifyExit
  dP : s.ploc = .waitSet → s.sig = kProduce ∧
        (s.produceEnd = true ∨ (P.cap ≤ s.queue.length ∧ s.free.length = 0) ∨ 0 < s.n4 + s.r2)
  dB1 : (s.xloc = .bWait ∨ s.xloc = .bWoken) → s.processed = false →
        s.sig = kBeforeFirst ∧ s.ploc ≠ .waitSet ∧ s.ploc ≠ .exited ∧ s.ploc ≠ .notifyExit
  dB2 : s.xloc = .bWait → s.processed = true → s.ploc = .notifyTop ∨ s.ploc = .notifyExit
  dX : (s.ploc = .exited ∨ s.ploc = .notifyExit) → s.produceEnd = true ∨ s.sig = kDestroy

theorem invD_init (P : Params) : InvD P init := by
  constructor <;> simp [init]

namespace InvD
variable {rk : Bool} {P : Params} {s s' : State} {e : Event}

theorem dC_step (ht : Trans rk P s e s') (hA : InvA s) (h : InvD P s) :
    0 < s'.nW → (s'.queue = [] ∧ s'.produceEnd = false) ∨ s'.ploc = .publish ∨ s'.ploc = .notifyTop ∨ s'.ploc = .notifyExit := by
  have := h.dC; have := hA.nwc
  cases ht <;> first | exact h.dC | grind

theorem dP_step (ht : Trans rk P s e s') (hA : InvA s) (h : InvD P s) :
    s'.ploc = .waitSet → s'.sig = kProduce ∧
      (s'.produceEnd = true ∨ (P.cap ≤ s'.queue.length ∧ s'.free.length = 0) ∨ 0 < s'.n4 + s'.r2) := by
  have := h.dP; have := hA.nwp; have := hA.proc; have := hA.joined
  cases ht <;> first | exact h.dP | grind

theorem dB1_step (ht : Trans rk P s e s') (_ : rk = true ∨ s.exc = false) (hA : InvA s) (h : InvD P s) :
    (s'.xloc = .bWait ∨ s'.xloc = .bWoken) → s'.processed = false →
      s'.sig = kBeforeFirst ∧ s'.ploc ≠ .waitSet ∧ s'.ploc ≠ .exited ∧ s'.ploc ≠ .notifyExit := by
  have := h.dB1; have := hA.nwp; have := hA.dead
  cases ht <;> first | exact h.dB1 | grind

theorem dB2_step (ht : Trans rk P s e s') (h : InvD P s) :
    s'.xloc = .bWait → s'.processed = true → s'.ploc = .notifyTop ∨ s'.ploc = .notifyExit := by
  have := h.dB2
  cases ht <;> first | exact h.dB2 | grind

theorem dX_step (ht : Trans rk P s e s') (hA : InvA s) (h : InvD P s) :
    (s'.ploc = .exited ∨ s'.ploc = .notifyExit) → s'.produceEnd = true ∨ s'.sig = kDestroy := by
  have := h.dX; have := hA.sig3
  cases ht <;> first | exact h.dX | grind

end InvD

theorem invD_step {rk : Bool} {P : Params} {s s' : State} {e : Event} (hx : rk = true ∨ s.exc = false) (hA : InvA s)
    (h : InvD P s) (hs : stepR rk P s e = some s') : InvD P s' :=
  have ht := stepR_trans hs
  open InvD in
  ⟨dC_step ht hA h, dP_step ht hA h, dB1_step ht hx hA h, dB2_step ht h, dX_step ht hA h⟩

end DmlcModel.TIter
