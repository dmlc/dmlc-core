import DmlcModel.TIter.Trans
import DmlcModel.TIter.Defs
/-!
A lexicographic progress measure: five natural numbers that decrease with every progress event.
1. `mK`  a rewind may still happen for the BeforeFirst call in progress (it refills the free list);
2. `mI`  produce callbacks the producer can run before it has to wait: free cells (a cell in its hands counts until it is
         filled), room below max_capacity (an item in flight counts as queued), cells and room that the calls in progress
         may still hand back, and one for the end of the source; 0 once the producer has exited;
3. `mY`  `notify_one`s the calls in progress may still issue (each can send the producer round its wait loop);
4. `mP`, 5. `mC`  the producer's and the consumers' program locations.
`InvF`: an allocation is only ever attempted below max_capacity.
-/
namespace DmlcModel.TIter

def b2n (p : Prop) [Decidable p] : Nat := if p then 1 else 0

def kX : XLoc → Bool → Nat
  | .bExc0, _ => 1
  | .bLock, _ => 1
  | .bWait, p => if p = false then 1 else 0
  | .bWoken, p => if p = false then 1 else 0
  | _, _ => 0

def mK (s : State) : Nat := kX s.xloc s.processed

theorem kX_true_le (x : XLoc) (p : Bool) : kX x true ≤ kX x p := by
  cases x <;> cases p <;> decide

def oX : XLoc → Nat
  | .bExc0 | .bLock => 1
  | _ => 0

def mI (P : Params) (s : State) : Nat :=
  if s.ploc = .exited then 0
  else
    s.free.length + (if s.pcell ≠ none ∧ s.pitem = none then 1 else 0)
      + (P.cap - (s.queue.length + (if s.pitem ≠ none then 1 else 0)))
      + (s.n0 + s.n1 + s.n2 + s.nW + s.nK) + (s.r0 + s.r1)
      + (if s.outData ≠ none then oX s.xloc else 0)
      + (if s.srcEnded = false then 1 else 0)

/-- the `notify_one`s the exclusive call may still send: `BeforeFirst` one when it posts the command and one at `bNotify`,
`Destroy` one when it posts -/
def xY : XLoc → Nat
  | .bExc0 | .bLock => 2
  | .bWait | .bWoken | .bNotify | .dLock => 1
  | _ => 0

def mY (s : State) : Nat := s.n0 + s.n1 + s.n2 + s.nW + s.nK + s.n4 + s.r0 + s.r1 + s.r2 + xY s.xloc

/-- Every step of the producer goes down in this order unless `mK` (a rewind ran) or `mI` (`call` to `store`) pays for it.
`woken` is on top because the loop is re-entered from it anywhere below; the way up to it is a `notify_one` (paid by `mY`)
or a spurious wake-up (no progress event). -/
def mP : PLoc → Nat
  | .woken => 12 | .store => 11 | .publish => 10 | .notifyTop => 9 | .top => 8 | .waitSet => 7 | .call => 6
  | .catchRec => 5 | .catchLock => 4 | .notifyExit => 3 | .exited => 0

def xC : XLoc → Nat
  | .bExc0 => 7 | .bLock => 6 | .bWoken => 5 | .bWait => 4 | .bNotify => 3 | .bExc1 => 2 | .dLock => 2 | .dJoin => 1
  | .idle => 0

/-- Every step of a call moves one thread to a location of lower weight (a return to weight 0).  `nK` is above `nW` because a
woken waiter may go back to the wait set; the way up, `nW` to `nK`, is the producer's `notify_all` (paid by `mP`) or a spurious
wake-up. -/
def mC (s : State) : Nat :=
  8 * s.n0 + 7 * s.n1 + 6 * s.n2 + 5 * s.nK + 4 * s.nW + 3 * s.n4 + 2 * s.n5 + 2 * s.n6
    + 4 * s.r0 + 3 * s.r1 + 2 * s.r2 + s.r3 + xC s.xloc

def mu (P : Params) (s : State) : Nat × Nat × Nat × Nat × Nat := (mK s, mI P s, mY s, mP s.ploc, mC s)

def R5 : (Nat × Nat × Nat × Nat × Nat) → (Nat × Nat × Nat × Nat × Nat) → Prop :=
  Prod.Lex Nat.lt (Prod.Lex Nat.lt (Prod.Lex Nat.lt (Prod.Lex Nat.lt Nat.lt)))

def MuLt (P : Params) (t s : State) : Prop := R5 (mu P t) (mu P s)

theorem muLt_wf (P : Params) : WellFounded (MuLt P) :=
  InvImage.wf (mu P) (Prod.lex Nat.lt_wfRel (Prod.lex Nat.lt_wfRel (Prod.lex Nat.lt_wfRel (Prod.lex Nat.lt_wfRel Nat.lt_wfRel)))).wf

/-!
A `≤` on a prefix and a `<` at the next place is a lexicographic `<`: a transition names the component that decreases.
-/
namespace MuLt
variable {P : Params} {t s : State}

theorem ofK (h : mK t < mK s) : MuLt P t s := .left _ _ h

theorem ofI (h : mK t ≤ mK s ∧ mI P t < mI P s) : MuLt P t s := by
  simp only [MuLt, R5, mu, Prod.lex_def, Nat.lt_eq]; omega

theorem ofY (h : mK t ≤ mK s ∧ mI P t ≤ mI P s ∧ mY t < mY s) : MuLt P t s := by
  simp only [MuLt, R5, mu, Prod.lex_def, Nat.lt_eq]; omega

theorem ofP (h : mK t ≤ mK s ∧ mI P t ≤ mI P s ∧ mY t ≤ mY s ∧ mP t.ploc < mP s.ploc) : MuLt P t s := by
  simp only [MuLt, R5, mu, Prod.lex_def, Nat.lt_eq]; omega

theorem ofC (h : mK t ≤ mK s ∧ mI P t ≤ mI P s ∧ mY t ≤ mY s ∧ mP t.ploc ≤ mP s.ploc ∧ mC t < mC s) : MuLt P t s := by
  simp only [MuLt, R5, mu, Prod.lex_def, Nat.lt_eq]; omega

end MuLt

structure InvF (P : Params) (s : State) : Prop where
  room : s.ploc = .call → s.pcell = none → s.queue.length < P.cap

theorem invF_init (P : Params) : InvF P init := by
  constructor; simp [init]

theorem InvF.room_step {rk : Bool} {P : Params} {s s' : State} {e : Event} (ht : Trans rk P s e s') (h : InvF P s) :
    s'.ploc = .call → s'.pcell = none → s'.queue.length < P.cap := by
  have := h.room
  cases ht <;> first | assumption | grind

theorem invF_step {rk : Bool} {P : Params} {s s' : State} {e : Event} (h : InvF P s)
    (hs : stepR rk P s e = some s') : InvF P s' :=
  ⟨h.room_step (stepR_trans hs)⟩

theorem invF_reachable {rk : Bool} {P : Params} {s : State} (h : ReachableR rk P s) : InvF P s := by
  induction h with
  | init => exact invF_init P
  | step e hr hs ih => exact invF_step ih hs

/-- Which component goes down, by who moves: the producer running the rewind -- `mK`; the produce callback returning --
`mI`; any other step of the producer -- `mP`; a consumer or the exclusive caller issuing a `notify_one` (their only steps
that write the producer's location) -- `mY`; any other step of theirs -- `mC`. -/
theorem mu_decreases {rk : Bool} {P : Params} {s s' : State} {e : Event} (hA : InvA s) (hF : InvF P s)
    (hp : e.isProgress = true) (hs : stepR rk P s e = some s') : MuLt P s' s := by
  cases stepR_trans hs
  case prodSpur | nStart | nSpur | rStart | rStartOut | bStart | dStartJoined | dStart | xSpur => all_goals cases hp
  case topRewind | wokenRewind | catchRewind =>
    all_goals (refine .ofK ?_; have := hA.sigBF; have := hA.bfproc; grind [mK, kX])
  case callItem | callItemNew | callFin =>
    all_goals (refine .ofI ?_; have := hA.call; have := hA.pitem; have := hF.room; simp only [mK, mI]; grind)
  case nNotify | rNotify | bLockPost | bNotify | dLock =>
    all_goals (refine .ofY ?_; simp only [mK, mI, mY]; grind [kX, xY, oX, optList_length])
  case topWait | topTake | topFresh | topRewindThrow | topDestroy | wokenWait | wokenTake | wokenFresh | wokenRewindThrow
     | wokenDestroy | callThrow | store | pubItem | pubNothing | pubEnd | pubEndCell | notifyTop | notifyExit | catchRec
     | catchProduce | catchDestroy =>
    all_goals (refine .ofP ?_; have := hA.pitem; have := hA.publish; have := hA.pcell; simp only [mK, mI, mY]
               grind [mP, kX, kX_true_le, xY, oX])
  all_goals (refine .ofC ?_; have := hA.excl; simp only [mK, mI, mY, mC]; grind [kX, xY, oX, xC, optList_length])

end DmlcModel.TIter
