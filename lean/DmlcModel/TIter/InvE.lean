import DmlcModel.TIter.Trans
import DmlcModel.TIter.Defs
/-!
Group E of the invariant: the rewind handshake (C08).  `bfPass` is the pass number when the running
`BeforeFirst` started; `bfPosted` counts posted rewind commands, `rewCalls` the runs of the rewind callback.
-/
namespace DmlcModel.TIter
open DmlcModel.Gen.TIter

structure InvE (P : Params) (s : State) : Prop where
  rew : s.thrown = false → s.bfPosted = s.rewCalls + (if s.sig = kBeforeFirst then 1 else 0)
  bf1 : (s.xloc = .bExc0 ∨ s.xloc = .bLock) → s.pass = s.bfPass
  bf2 : (s.xloc = .bWait ∨ s.xloc = .bWoken) →
        (s.sig = kBeforeFirst ∧ s.pass = s.bfPass) ∨ (s.sig = kProduce ∧ s.pass = s.bfPass + 1 ∧ s.delivered = [])
  bf3 : (s.xloc = .bNotify ∨ s.xloc = .bExc1) → s.exc = true ∨ (s.pass = s.bfPass + 1 ∧ s.delivered = [])

theorem invE_init (P : Params) : InvE P init := by
  constructor <;> simp [init, kProduce, kBeforeFirst]

namespace InvE
variable {rk : Bool} {P : Params} {s s' : State} {e : Event}

theorem rew_step (ht : Trans rk P s e s') (hA : InvA s) (h : InvE P s) :
    s'.thrown = false → s'.bfPosted = s'.rewCalls + (if s'.sig = kBeforeFirst then 1 else 0) := by
  have := h.rew; have := hA.sigBF; have := hA.exc
  cases ht <;> first | exact h.rew | grind

theorem bf1_step (ht : Trans rk P s e s') (hA : InvA s) (h : InvE P s) :
    (s'.xloc = .bExc0 ∨ s'.xloc = .bLock) → s'.pass = s'.bfPass := by
  have := h.bf1; have := hA.sigBF
  cases ht <;> first | exact h.bf1 | grind

theorem bf2_step (ht : Trans rk P s e s') (hA : InvA s) (h : InvE P s) :
    (s'.xloc = .bWait ∨ s'.xloc = .bWoken) →
      (s'.sig = kBeforeFirst ∧ s'.pass = s'.bfPass) ∨ (s'.sig = kProduce ∧ s'.pass = s'.bfPass + 1 ∧ s'.delivered = []) := by
  have := h.bf2; have := hA.excl; have := h.bf1
  cases ht <;> first | exact h.bf2 | grind

theorem bf3_step (ht : Trans rk P s e s') (hA : InvA s) (h : InvE P s) :
    (s'.xloc = .bNotify ∨ s'.xloc = .bExc1) → s'.exc = true ∨ (s'.pass = s'.bfPass + 1 ∧ s'.delivered = []) := by
  have := h.bf3; have := hA.excl; have := hA.sigBF; have := h.bf2; have := hA.bfproc
  cases ht <;> first | exact h.bf3 | grind

end InvE

theorem invE_step {rk : Bool} {P : Params} {s s' : State} {e : Event} (hA : InvA s) (h : InvE P s)
    (hs : stepR rk P s e = some s') : InvE P s' :=
  have ht := stepR_trans hs
  open InvE in
  ⟨rew_step ht hA h, bf1_step ht hA h, bf2_step ht hA h, bf3_step ht hA h⟩

end DmlcModel.TIter
