import DmlcModel.TIter.Trans
import DmlcModel.TIter.Defs
/-!
Group C of the invariant: the history of the current pass (`InvC1`), and the end flag, the `Next returns false` location
and the failure flags (`InvC2`).
-/
namespace DmlcModel.TIter
open DmlcModel.Gen.TIter

structure InvC1 (P : Params) (s : State) : Prop where
  order : s.delivered ++ qitems s ++ optList s.pitem = s.produced
  idx : s.produced.map (·.idx) = List.range s.pidx
  src : ∀ it, it ∈ s.produced → it.pass = s.pass ∧ P.src s.pass it.idx = .item it.val

structure InvC2 (P : Params) (s : State) : Prop where
  srcEnd : s.srcEnded = true → P.src s.pass s.pidx = .fin ∧ s.pitem = none
  pe : s.produceEnd = true → s.srcEnded = true ∨ s.thrown = true ∨ s.sig = kDestroy
  n6 : 0 < s.n6 → (s.thrown = true ∧ s.exc = true) ∨
        (s.thrown = false ∧ s.srcEnded = true ∧ s.queue = [] ∧ s.pitem = none)
  thr : s.thrown = true → s.exc = true ∨ (s.ploc = .catchRec ∧ (s.produceEnd = false ∨ s.sig = kBeforeFirst))
  why : s.thrown = true → (∃ p i, P.src p i = .throw) ∨ (∃ p, P.rew p = .throw)

theorem invC1_init (P : Params) : InvC1 P init := by
  constructor <;> simp [init, qitems, optList]

theorem invC2_init (P : Params) : InvC2 P init := by
  constructor <;> simp [init]

namespace InvC1
variable {rk : Bool} {P : Params} {s s' : State} {e : Event}

theorem order_step (ht : Trans rk P s e s') (hA : InvA s) (h : InvC1 P s) :
    s'.delivered ++ qitems s' ++ optList s'.pitem = s'.produced := by
  have := h.order; have := hA.pitem; have := hA.joined
  cases ht <;> first | exact h.order | grind [qitems, optList]

theorem idx_step (ht : Trans rk P s e s') (h : InvC1 P s) :
    s'.produced.map (·.idx) = List.range s'.pidx := by
  have := h.idx
  cases ht <;> first | exact h.idx | grind [List.range_succ]

theorem src_step (ht : Trans rk P s e s') (h : InvC1 P s) :
    ∀ it, it ∈ s'.produced → it.pass = s'.pass ∧ P.src s'.pass it.idx = .item it.val := by
  have := h.src
  cases ht <;> first | exact h.src | grind

end InvC1

namespace InvC2
variable {rk : Bool} {P : Params} {s s' : State} {e : Event}

theorem srcEnd_step (ht : Trans rk P s e s') (hA : InvA s) (h : InvC2 P s) :
    s'.srcEnded = true → P.src s'.pass s'.pidx = .fin ∧ s'.pitem = none := by
  have := h.srcEnd; have := hA.pitem
  cases ht <;> first | exact h.srcEnd | grind

theorem pe_step (ht : Trans rk P s e s') (hA : InvA s) (h : InvC2 P s) :
    s'.produceEnd = true → s'.srcEnded = true ∨ s'.thrown = true ∨ s'.sig = kDestroy := by
  have := h.pe; have := hA.sig3; have := hA.storeE; have := hA.joined; have := hA.dJoin; have := hA.exc; have := hA.catchLock
  cases ht <;> first | exact h.pe | grind

theorem n6_step (ht : Trans rk P s e s') (hA : InvA s) (h : InvC2 P s) :
    0 < s'.n6 → (s'.thrown = true ∧ s'.exc = true) ∨
      (s'.thrown = false ∧ s'.srcEnded = true ∧ s'.queue = [] ∧ s'.pitem = none) := by
  have := h.n6; have := h.srcEnd; have := hA.excl; have := hA.sigBF; have := h.pe; have := h.thr; have := hA.sigD
  cases ht <;> first | exact h.n6 | grind

theorem thr_step (ht : Trans rk P s e s') (hA : InvA s) (h : InvC2 P s) :
    s'.thrown = true → s'.exc = true ∨ (s'.ploc = .catchRec ∧ (s'.produceEnd = false ∨ s'.sig = kBeforeFirst)) := by
  have := h.thr; have := hA.sigBF; have := hA.call
  cases ht <;> first | exact h.thr | grind

theorem why_step (ht : Trans rk P s e s') (h : InvC2 P s) :
    s'.thrown = true → (∃ p i, P.src p i = .throw) ∨ (∃ p, P.rew p = .throw) := by
  cases ht <;> first | exact h.why | grind

end InvC2

theorem invC1_step {rk : Bool} {P : Params} {s s' : State} {e : Event} (hA : InvA s) (h : InvC1 P s)
    (hs : stepR rk P s e = some s') : InvC1 P s' :=
  have ht := stepR_trans hs
  open InvC1 in
  ⟨order_step ht hA h, idx_step ht h, src_step ht h⟩

theorem invC2_step {rk : Bool} {P : Params} {s s' : State} {e : Event} (hA : InvA s) (h : InvC2 P s)
    (hs : stepR rk P s e = some s') : InvC2 P s' :=
  have ht := stepR_trans hs
  open InvC2 in
  ⟨srcEnd_step ht hA h, pe_step ht hA h, n6_step ht hA h, thr_step ht hA h, why_step ht h⟩

end DmlcModel.TIter
