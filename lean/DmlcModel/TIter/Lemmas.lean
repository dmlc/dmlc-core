import DmlcModel.TIter.Model
/-!
What some generated predicates (`Gen/TIter.lean`) mean; the others are evaluated where the rules are derived, so what they
mean is written in the guards of `Trans`.  If an anchored expression of `threadediter.h` is edited, these lemmas or
`stepR_trans` stop compiling.
-/
namespace DmlcModel.TIter
open DmlcModel.Gen.TIter

-- what generated items mean; those that nothing uses are there so that an edit of the C++ expression breaks a lemma
theorem signals_spec : kProduce = 0 ∧ kBeforeFirst = 1 ∧ kDestroy = 2 := ⟨rfl, rfl, rfl⟩

/-- the producer's wait predicate: a command other than `produce`, or the pass is not over and there is room -/
theorem pPred_iff (P : Params) (s : State) :
    pPred P s = true ↔ (s.sig = kProduce → s.produceEnd = false ∧ (s.queue.length < P.cap ∨ s.free.length ≠ 0)) := by
  simp only [pPred, pWaitIsProduce, pWaitProduce, pWaitOther, kProduce]
  by_cases h : s.sig = 0 <;> simp [h]

theorem pPred_false_iff (P : Params) (s : State) :
    pPred P s = false ↔ (s.sig = kProduce ∧ (s.produceEnd = true ∨ (P.cap ≤ s.queue.length ∧ s.free.length = 0))) := by
  simp only [pPred, pWaitIsProduce, pWaitProduce, pWaitOther, kProduce]
  by_cases h : s.sig = 0 <;> by_cases h2 : s.produceEnd = true <;> simp [h, h2] <;> omega

theorem nWaitPred_iff (q : Nat) (e : Bool) : nWaitPred q e = true ↔ (q ≠ 0 ∨ e = true) := by
  simp [nWaitPred]

theorem notify_specs (n : Nat) (e : Bool) :
    (nNotify n e = true ↔ (n ≠ 0 ∧ e = false)) ∧ (rNotify n e = true ↔ (n ≠ 0 ∧ e = false)) ∧
    (bNotify n e = true ↔ (n ≠ 0 ∧ e = false)) ∧ (bPostNotify n = true ↔ n ≠ 0) ∧ (dNotify n = true ↔ n ≠ 0) ∧
    (pPublishNotify n = true ↔ n ≠ 0) ∧ (cNotify n = true ↔ n ≠ 0) := by
  simp [nNotify, rNotify, bNotify, bPostNotify, dNotify, pPublishNotify, cNotify]

theorem wokenLoc_eq (l : PLoc) : wokenLoc l = if l = .waitSet then .woken else l := by
  cases l <;> rfl

theorem bOut_eq (s : State) :
    bOut s = { s with free := s.free ++ (optList s.outData).map (·.1), outData := none } := by
  cases h : s.outData <;> simp [bOut, bHasOut, outCode, optCode, optList, h]

theorem optList_length {α : Type} [DecidableEq α] (o : Option α) : (optList o).length = if o = none then 0 else 1 := by
  cases o <;> simp [optList]

end DmlcModel.TIter
