import DmlcModel.TIter.Trans
import DmlcModel.TIter.Defs
/-!
Group B of the invariant: cell ownership and allocation accounting.  `CellsOK`: every cell id below `allocated` occurs
exactly once in `cells s`, no other id occurs.
-/
namespace DmlcModel.TIter

def CellsOK (s : State) : Prop := ∀ c, (cells s).count c = if c < s.allocated then 1 else 0

structure InvB (P : Params) (s : State) : Prop where
  len : (cells s).length = s.allocated
  recy : (s.outCall = true → s.recycling.length = 0) ∧ (s.outCall = false → s.recycling.length = s.r0 + s.r1)
  alloc : s.allocated ≤ P.cap + s.maxLent
  alloc2 : s.ploc = .call → s.pcell = none → s.allocated + 1 ≤ P.cap + s.maxLent
  mlent : lentish s ≤ s.maxLent
  lost : s.thrown = false → s.lost.length = 0
  freed : s.joined = false → s.freed.length = 0

theorem cellsOK_init : CellsOK init := by
  intro c; simp [init, cells, qcells, optList]

theorem invB_init (P : Params) : InvB P init := by
  constructor <;> simp [init, cells, qcells, optList, lentish]

theorem count_pos_of_mem {l : List Nat} {c : Nat} (h : c ∈ l) : 0 < l.count c := List.count_pos_iff.mpr h

theorem cells_length (s : State) : (cells s).length = s.queue.length + s.free.length + (optList s.pcell).length
    + s.lent.length + s.recycling.length + (optList s.outData).length + s.lost.length + s.freed.length := by
  simp [cells, qcells]; omega

attribute [local grind =] optList_length cells_length lentish

theorem CellsOK.length {s : State} (h : CellsOK s) : (cells s).length = s.allocated := by
  have : (cells s).Perm (List.range s.allocated) := List.perm_iff_count.mpr fun c => by rw [h c, List.count_range]
  simpa using this.length_eq

theorem cells_congr {s s' : State} (h1 : s'.queue = s.queue) (h2 : s'.free = s.free) (h3 : s'.pcell = s.pcell)
    (h4 : s'.lent = s.lent) (h5 : s'.recycling = s.recycling) (h6 : s'.outData = s.outData) (h7 : s'.lost = s.lost)
    (h8 : s'.freed = s.freed) : cells s' = cells s := by
  simp only [cells, qcells, *]

/-- a transition only moves cells from one place to another, or (the produce callback started without a cell) brings in
the next fresh one -/
theorem Trans.cells_perm {rk : Bool} {P : Params} {s s' : State} {e : Event} (ht : Trans rk P s e s') (hA : InvA s) :
    (cells s').Perm (cells s) ∧ s'.allocated = s.allocated ∨
    (cells s').Perm (s.allocated :: cells s) ∧ s'.allocated = s.allocated + 1 := by
  have := hA.pcell; have := hA.outN
  cases ht
  -- the rules that write none of the eight fields, tested field by field (`rfl` on the two lists is slow where it fails)
  all_goals try exact .inl ⟨.of_eq (cells_congr rfl rfl rfl rfl rfl rfl rfl rfl), rfl⟩
  -- one rule allocates, the others move cells: the two lists have the same counts
  case' callItemNew => refine .inr ⟨List.perm_iff_count.mpr fun c => ?_, rfl⟩
  all_goals try refine .inl ⟨List.perm_iff_count.mpr fun c => ?_, rfl⟩
  all_goals
    simp only [cells, qcells, optList, List.count_append, List.count_cons, List.count_nil, List.map_append, List.map_cons,
      List.map_nil, List.append_nil, List.nil_append, List.count_erase]
    grind

theorem invBc_step {rk : Bool} {P : Params} {s s' : State} {e : Event} (hA : InvA s) (h : CellsOK s)
    (hs : stepR rk P s e = some s') : CellsOK s' := by
  intro c
  have hc := h c
  rcases (stepR_trans hs).cells_perm hA with ⟨hp, ha⟩ | ⟨hp, ha⟩
  · rw [hp.count_eq, ha, hc]
  · rw [hp.count_eq, ha, List.count_cons, hc]; grind

namespace InvB
variable {rk : Bool} {P : Params} {s s' : State} {e : Event}

theorem recy_step (ht : Trans rk P s e s') (hA : InvA s) (h : InvB P s) :
    (s'.outCall = true → s'.recycling.length = 0) ∧ (s'.outCall = false → s'.recycling.length = s'.r0 + s'.r1) := by
  have := h.recy; have := hA.out1
  cases ht <;> first | exact h.recy | grind

theorem alloc_step (ht : Trans rk P s e s') (h : InvB P s) :
    s'.allocated ≤ P.cap + s'.maxLent := by
  have := h.alloc; have := h.alloc2
  cases ht <;> first | exact h.alloc | grind

theorem alloc2_step (ht : Trans rk P s e s') (hA : InvA s) (h : InvB P s) :
    s'.ploc = .call → s'.pcell = none → s'.allocated + 1 ≤ P.cap + s'.maxLent := by
  have := h.alloc2; have := h.len; have := h.mlent; have := h.lost; have := h.freed; have := hA.pcell; have := hA.thrown; have := hA.joined
  cases ht <;> first | exact h.alloc2 | grind

theorem mlent_step (ht : Trans rk P s e s') (h : InvB P s) :
    lentish s' ≤ s'.maxLent := by
  have := h.mlent
  cases ht <;> first | exact h.mlent | grind

theorem lost_step (ht : Trans rk P s e s') (h : InvB P s) :
    s'.thrown = false → s'.lost.length = 0 := by
  cases ht <;> first | exact h.lost | grind

theorem freed_step (ht : Trans rk P s e s') (h : InvB P s) :
    s'.joined = false → s'.freed.length = 0 := by
  cases ht <;> first | exact h.freed | grind

end InvB

theorem invB_step {rk : Bool} {P : Params} {s s' : State} {e : Event} (hA : InvA s) (hc : CellsOK s) (h : InvB P s)
    (hs : stepR rk P s e = some s') : InvB P s' :=
  have ht := stepR_trans hs
  open InvB in
  ⟨(invBc_step hA hc hs).length, recy_step ht hA h, alloc_step ht h, alloc2_step ht hA h, mlent_step ht h, lost_step ht h, freed_step ht h⟩

end DmlcModel.TIter
