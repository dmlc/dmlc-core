import DmlcModel.TIter.Model
/-!
The notions the lemmas and properties of ThreadedIter are stated in, besides the model: definitions only.  Group A of the
invariant is here as a predicate because the other groups and the progress measure take its clauses as hypotheses.
-/
namespace DmlcModel.TIter
open DmlcModel.Gen.TIter

def pWaiting (l : PLoc) : Nat := match l with | .waitSet => 1 | .woken => 1 | _ => 0

/-- `consumer_cond_.notify_all()` as seen by the `BeforeFirst` waiter -/
def wokenX : XLoc → XLoc
  | .bWait => .bWoken
  | x => x

/-- Group A of the invariant, the control structure.  `ub` … `outN`: the wait counters and the client's discipline (one
exclusive call, or one `Next()` half working on `out_data_`, or any number of `Next`/`Recycle`).  `sig3` … `bfproc`, `sigBFn`:
the command word and its acknowledgement.  `call` … `catchLock`, `storeOK`, `pubOK`: the producer's own fields at each of
its locations (`PAt`).  `dead` … `sigDj`: the end of the producer thread and `Destroy`. -/
structure InvA (s : State) : Prop where
  ub : s.ub = false
  nwp : s.nwaitP = pWaiting s.ploc
  nwc : s.nwaitC = s.nW + s.nK
  excl : s.xloc ≠ .idle → busy s = 0 ∧ s.outCall = false
  out1 : s.outCall = true → busy s = 1
  outR : s.outCall = true → 0 < s.r0 + s.r1 → s.outData ≠ none
  outN : s.outCall = true → 0 < s.n0 + s.n1 + s.n2 + s.nW + s.nK → s.outData = none
  sig3 : s.sig = kProduce ∨ s.sig = kBeforeFirst ∨ s.sig = kDestroy
  sigBF : s.sig = kBeforeFirst →
    s.xloc = .bWait ∨ s.xloc = .bWoken ∨ (s.exc = true ∧ (s.ploc = .notifyExit ∨ s.ploc = .exited))
  sigD : s.sig = kDestroy → s.n1 = 0 ∧ s.n2 = 0 ∧ s.nW = 0 ∧ s.nK = 0 ∧ s.n4 = 0 ∧ s.n5 = 0 ∧ s.n6 = 0
  proc : s.processed = true → s.sig = kDestroy ∨ s.xloc = .bWait ∨ s.xloc = .bWoken
  bfproc : s.sig = kBeforeFirst → s.processed = true → s.exc = true ∧ (s.ploc = .notifyExit ∨ s.ploc = .exited)
  call : s.ploc = .call → s.produceEnd = false ∧ s.srcEnded = false
  srcE : s.srcEnded = true → s.produceEnd = true ∨ s.ploc = .store
  storeE : s.ploc = .store → (s.srcEnded = true ↔ s.pres = false)
  pitem : s.pitem ≠ none → (s.ploc = .store ∨ s.ploc = .publish) ∧ s.pcell ≠ none
  store : s.ploc = .store → s.produceEnd = false ∧ (s.pres = true ↔ s.pitem ≠ none)
  publish : s.ploc = .publish → (s.produceEnd = false ↔ s.pitem ≠ none)
  pcell : s.pcell ≠ none → s.ploc = .call ∨ s.ploc = .store ∨ s.ploc = .publish
  thrown : s.thrown = true → s.ploc = .catchRec ∨ s.ploc = .catchLock ∨ s.ploc = .notifyExit ∨ s.ploc = .exited
  exc : s.exc = true → s.thrown = true ∧ s.ploc ≠ .catchRec
  catchRec : s.ploc = .catchRec → s.thrown = true ∧ s.exc = false
  catchLock : s.ploc = .catchLock → s.exc = true
  dead : s.ploc = .notifyExit ∨ s.ploc = .exited → s.exc = true ∨ s.sig = kDestroy
  joined : s.joined = true → s.ploc = .exited ∧ s.sig = kDestroy
  xd : s.xloc = .dLock ∨ s.xloc = .dJoin → s.joined = false
  dJoin : s.xloc = .dJoin → s.sig = kDestroy
  sigDj : s.sig = kDestroy → s.xloc = .dJoin ∨ s.joined = true
  sigBFn : s.sig = kBeforeFirst → s.n2 = 0 ∧ s.nW = 0 ∧ s.nK = 0
  storeOK : s.ploc = .store → s.pres = true → ∃ c it, s.pcell = some c ∧ s.pitem = some it
  pubOK : s.ploc = .publish → s.produceEnd = false → ∃ c it, s.pcell = some c ∧ s.pitem = some it

/-- neither a spurious wake-up nor the start of a new call -/
def Event.isProgress (e : Event) : Bool := !e.isSpurious && !e.isStart

def inCall (s : State) : Prop := 0 < busy s ∨ s.xloc ≠ .idle

def NoFail (P : Params) : Prop := (∀ p i, P.src p i ≠ .throw) ∧ (∀ p, P.rew p ≠ .throw)

/-- the items the source script yields at positions `0 .. n-1` of pass `p` -/
def prodList (src : Nat → Nat → SrcRes) (p : Nat) : Nat → List Item
  | 0 => []
  | n + 1 => prodList src p n ++ (match src p n with | .item v => [⟨p, n, v⟩] | _ => [])

inductive Steps (P : Params) : State → State → Prop where
  | refl (s : State) : Steps P s s
  | tail {s t u : State} (e : Event) : Steps P s t → step P t e = some u → Steps P s u

/-- replay of an event list (mirrored by the driver) -/
def runEvents (rk : Bool) (P : Params) : State → List Event → Option State
  | s, [] => some s
  | s, e :: es => match stepR rk P s e with
    | some s' => runEvents rk P s' es
    | none => none

/-- one progress step out of a reachable state: the relation that is shown well-founded -/
def ProgStep (P : Params) (t s : State) : Prop :=
  Reachable P s ∧ ∃ e : Event, e.isProgress = true ∧ step P s e = some t

inductive ProgSteps (P : Params) : State → State → Prop where
  | refl (s : State) : ProgSteps P s s
  | tail {s t u : State} (e : Event) : ProgSteps P s t → e.isProgress = true → step P t e = some u → ProgSteps P s u

def Quiescent (P : Params) (t : State) : Prop := ∀ e : Event, e.isProgress = true → step P t e = none

end DmlcModel.TIter
