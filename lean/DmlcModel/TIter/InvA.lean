import DmlcModel.TIter.Trans
import DmlcModel.TIter.Defs
/-!
Group A of the invariant (`InvA`: the control structure) is preserved by every transition, for the pinned and the repaired
code (`rk` arbitrary), any script, any capacity.
-/
namespace DmlcModel.TIter
open DmlcModel.Gen.TIter

theorem invA_init : InvA init := by
  constructor <;> simp [init, pWaiting, busy, kProduce, kBeforeFirst, kDestroy]

/-!
Clause by clause, here and in InvB … InvF: a lemma names the clauses it needs (its `have` line) and goes through the
rules; a rule that writes none of the fields the clause reads leaves it as it stands (`exact h.‹clause›`, by unfolding the
projections of the new state), for the others the clause follows from the guards and the named clauses (`grind`).
-/
namespace InvA
variable {rk : Bool} {P : Params} {s s' : State} {e : Event}

theorem ub_step (ht : Trans rk P s e s') (h : InvA s) :
    s'.ub = false := by
  have := h.outR; have := h.pubOK
  cases ht <;> first | exact h.ub | grind

theorem nwp_step (ht : Trans rk P s e s') (h : InvA s) :
    s'.nwaitP = pWaiting s'.ploc := by
  have := h.nwp
  cases ht <;> first | exact h.nwp | grind

theorem nwc_step (ht : Trans rk P s e s') (h : InvA s) :
    s'.nwaitC = s'.nW + s'.nK := by
  have := h.nwc
  cases ht <;> first | exact h.nwc | grind

theorem excl_step (ht : Trans rk P s e s') (h : InvA s) :
    s'.xloc ≠ .idle → busy s' = 0 ∧ s'.outCall = false := by
  have := h.excl
  cases ht <;> first | exact h.excl | grind

theorem out1_step (ht : Trans rk P s e s') (h : InvA s) :
    s'.outCall = true → busy s' = 1 := by
  have := h.out1; have := h.outR
  cases ht <;> first | exact h.out1 | grind

theorem outR_step (ht : Trans rk P s e s') (h : InvA s) :
    s'.outCall = true → 0 < s'.r0 + s'.r1 → s'.outData ≠ none := by
  have := h.outR; have := h.excl; have := h.out1
  cases ht <;> first | exact h.outR | grind

theorem outN_step (ht : Trans rk P s e s') (h : InvA s) :
    s'.outCall = true → 0 < s'.n0 + s'.n1 + s'.n2 + s'.nW + s'.nK → s'.outData = none := by
  have := h.outN; have := h.out1
  cases ht <;> first | exact h.outN | grind

theorem sig3_step (ht : Trans rk P s e s') (h : InvA s) :
    s'.sig = kProduce ∨ s'.sig = kBeforeFirst ∨ s'.sig = kDestroy := by
  cases ht <;> first | exact h.sig3 | grind

theorem sigBF_step (ht : Trans rk P s e s') (h : InvA s) :
    s'.sig = kBeforeFirst →
      s'.xloc = .bWait ∨ s'.xloc = .bWoken ∨ (s'.exc = true ∧ (s'.ploc = .notifyExit ∨ s'.ploc = .exited)) := by
  have := h.sigBF; have := h.proc; have := h.bfproc
  cases ht <;> first | exact h.sigBF | grind

theorem sigD_step (ht : Trans rk P s e s') (h : InvA s) :
    s'.sig = kDestroy → s'.n1 = 0 ∧ s'.n2 = 0 ∧ s'.nW = 0 ∧ s'.nK = 0 ∧ s'.n4 = 0 ∧ s'.n5 = 0 ∧ s'.n6 = 0 := by
  have := h.sigD; have := h.excl
  cases ht <;> first | exact h.sigD | grind

theorem proc_step (ht : Trans rk P s e s') (h : InvA s) :
    s'.processed = true → s'.sig = kDestroy ∨ s'.xloc = .bWait ∨ s'.xloc = .bWoken := by
  have := h.proc; have := h.sigBF; have := h.sig3
  cases ht <;> first | exact h.proc | grind

theorem bfproc_step (ht : Trans rk P s e s') (h : InvA s) :
    s'.sig = kBeforeFirst → s'.processed = true → s'.exc = true ∧ (s'.ploc = .notifyExit ∨ s'.ploc = .exited) := by
  have := h.bfproc; have := h.proc; have := h.catchLock
  cases ht <;> first | exact h.bfproc | grind

theorem dead_step (ht : Trans rk P s e s') (h : InvA s) :
    s'.ploc = .notifyExit ∨ s'.ploc = .exited → s'.exc = true ∨ s'.sig = kDestroy := by
  have := h.dead; have := h.sig3; have := h.catchLock
  cases ht <;> first | exact h.dead | grind

theorem joined_step (ht : Trans rk P s e s') (h : InvA s) :
    s'.joined = true → s'.ploc = .exited ∧ s'.sig = kDestroy := by
  have := h.joined; have := h.dJoin
  cases ht <;> first | exact h.joined | grind

theorem xd_step (ht : Trans rk P s e s') (h : InvA s) :
    s'.xloc = .dLock ∨ s'.xloc = .dJoin → s'.joined = false := by
  have := h.xd
  cases ht <;> first | exact h.xd | grind

theorem dJoin_step (ht : Trans rk P s e s') (h : InvA s) :
    s'.xloc = .dJoin → s'.sig = kDestroy := by
  have := h.dJoin
  cases ht <;> first | exact h.dJoin | grind

theorem sigDj_step (ht : Trans rk P s e s') (h : InvA s) :
    s'.sig = kDestroy → s'.xloc = .dJoin ∨ s'.joined = true := by
  have := h.sigDj
  cases ht <;> first | exact h.sigDj | grind

theorem sigBFn_step (ht : Trans rk P s e s') (h : InvA s) :
    s'.sig = kBeforeFirst → s'.n2 = 0 ∧ s'.nW = 0 ∧ s'.nK = 0 := by
  have := h.sigBFn; have := h.excl; have := h.sigBF
  cases ht <;> first | exact h.sigBFn | grind

end InvA

variable {rk : Bool} {P : Params} {s s' : State} {e : Event}

/-- the producer holds nothing, and a reported end of the source has been acted on -/
def pIdle (s : State) : Prop := s.pcell = none ∧ s.pitem = none ∧ (s.srcEnded = true → s.produceEnd = true)

/-- The producer's assertion network: what holds of the fields only the producer writes while it is at location `l`.
Thirteen clauses of `InvA` (`call` … `pubOK`) say the same; in this form a rule of the producer has one obligation, the
assertion of the location it goes to, and a rule of another thread none but `wokenLoc`. -/
def PAt (s : State) : PLoc → Prop
  | .call => s.pitem = none ∧ s.produceEnd = false ∧ s.srcEnded = false ∧ s.thrown = false
  | .store => s.produceEnd = false ∧ s.thrown = false ∧ (s.srcEnded = true ↔ s.pres = false) ∧
      (s.pres = true → ∃ c it, s.pcell = some c ∧ s.pitem = some it) ∧ (s.pres = false → s.pitem = none)
  | .publish => (s.produceEnd = false → ∃ c it, s.pcell = some c ∧ s.pitem = some it) ∧
      (s.produceEnd = true → s.pitem = none) ∧ (s.srcEnded = true → s.produceEnd = true) ∧ s.thrown = false
  | .catchRec => pIdle s ∧ s.thrown = true ∧ s.exc = false
  | .catchLock => pIdle s ∧ s.thrown = true ∧ s.exc = true
  | .notifyExit | .exited => pIdle s
  | _ => pIdle s ∧ s.thrown = false

def PInv (s : State) : Prop := (s.exc = true → s.thrown = true) ∧ PAt s s.ploc

theorem PAt.wokenLoc (h : PAt s s.ploc) : PAt s (wokenLoc s.ploc) := by
  cases hl : s.ploc <;> simp_all [TIter.wokenLoc, PAt]

-- `hj`: `dStartJoined` resets `srcEnded` while the producer is elsewhere
theorem PInv.step (ht : Trans rk P s e s') (hj : s.joined = true → s.ploc = .exited) (h : PInv s) : PInv s' := by
  obtain ⟨h1, h2⟩ := h
  have h3 := h2
  cases ht <;> first | exact ⟨h1, h2⟩ | exact ⟨h1, h2.wokenLoc⟩ | (simp only [PInv, PAt, pIdle, *] at h3 ⊢; grind)

theorem PInv.clauses (h : PInv s) :
    (s.ploc = .call → s.produceEnd = false ∧ s.srcEnded = false) ∧
    (s.srcEnded = true → s.produceEnd = true ∨ s.ploc = .store) ∧
    (s.ploc = .store → (s.srcEnded = true ↔ s.pres = false)) ∧
    (s.pitem ≠ none → (s.ploc = .store ∨ s.ploc = .publish) ∧ s.pcell ≠ none) ∧
    (s.ploc = .store → s.produceEnd = false ∧ (s.pres = true ↔ s.pitem ≠ none)) ∧
    (s.ploc = .publish → (s.produceEnd = false ↔ s.pitem ≠ none)) ∧
    (s.pcell ≠ none → s.ploc = .call ∨ s.ploc = .store ∨ s.ploc = .publish) ∧
    (s.thrown = true → s.ploc = .catchRec ∨ s.ploc = .catchLock ∨ s.ploc = .notifyExit ∨ s.ploc = .exited) ∧
    (s.exc = true → s.thrown = true ∧ s.ploc ≠ .catchRec) ∧
    (s.ploc = .catchRec → s.thrown = true ∧ s.exc = false) ∧
    (s.ploc = .catchLock → s.exc = true) ∧
    (s.ploc = .store → s.pres = true → ∃ c it, s.pcell = some c ∧ s.pitem = some it) ∧
    (s.ploc = .publish → s.produceEnd = false → ∃ c it, s.pcell = some c ∧ s.pitem = some it) := by
  obtain ⟨h1, h⟩ := h
  cases hl : s.ploc <;> simp only [hl, PAt, pIdle] at h <;> grind

theorem InvA.pInv (h : InvA s) : PInv s := by
  have := h.call; have := h.srcE; have := h.storeE; have := h.pitem; have := h.store; have := h.publish; have := h.pcell
  have := h.thrown; have := h.exc; have := h.catchRec; have := h.catchLock; have := h.storeOK; have := h.pubOK
  refine ⟨fun he => (h.exc he).1, ?_⟩
  cases hl : s.ploc <;> simp only [PAt, pIdle] <;> grind

theorem invA_step {rk : Bool} {P : Params} {s s' : State} {e : Event} (h : InvA s)
    (hs : stepR rk P s e = some s') : InvA s' :=
  have ht := stepR_trans hs
  have ⟨call, srcE, storeE, pitem, store, publish, pcell, thrown, exc, catchRec, catchLock, storeOK, pubOK⟩ :=
    (h.pInv.step ht fun hj => (h.joined hj).1).clauses
  open InvA in
  ⟨ub_step ht h, nwp_step ht h, nwc_step ht h, excl_step ht h, out1_step ht h, outR_step ht h, outN_step ht h, sig3_step ht h, sigBF_step ht h, sigD_step ht h, proc_step ht h, bfproc_step ht h, call, srcE, storeE, pitem, store, publish, pcell, thrown, exc, catchRec, catchLock, dead_step ht h, joined_step ht h, xd_step ht h, dJoin_step ht h, sigDj_step ht h, sigBFn_step ht h, storeOK, pubOK⟩

end DmlcModel.TIter
