import DmlcModel.TIter.Defs
/-!
Executions stay inside the reachable states.  Over the model only: a witness that replays a schedule needs nothing of the
invariant.
-/
namespace DmlcModel.TIter

theorem steps_reachable {P : Params} {s t : State} (hr : Reachable P s) (h : Steps P s t) : Reachable P t := by
  induction h with
  | refl => exact hr
  | tail e _ hs ih => exact ReachableR.step e ih hs

theorem progSteps_reachable {P : Params} {s t : State} (hr : Reachable P s) (h : ProgSteps P s t) : Reachable P t := by
  induction h with
  | refl => exact hr
  | tail e _ _ hs ih => exact ReachableR.step e ih hs

theorem runEvents_eq_foldlM (rk : Bool) (P : Params) (es : List Event) (s : State) :
    runEvents rk P s es = es.foldlM (stepR rk P) s := by
  induction es generalizing s with
  | nil => rfl
  | cons e es ih =>
    rw [runEvents, List.foldlM_cons]
    cases stepR rk P s e with
    | none => rfl
    | some s' => exact ih s'

theorem reachable_run {rk : Bool} {P : Params} : ∀ (es : List Event) (s t : State), ReachableR rk P s →
    runEvents rk P s es = some t → ReachableR rk P t := by
  intro es
  induction es with
  | nil => intro s t hr h; simp [runEvents] at h; exact h ▸ hr
  | cons e es ih =>
    intro s t hr h
    simp only [runEvents] at h
    split at h
    · next s' hs' => exact ih s' t (ReachableR.step e hr hs') h
    · cases h

end DmlcModel.TIter
