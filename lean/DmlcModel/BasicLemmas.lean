import DmlcModel.Basic
/-! What the wrap-around arithmetic of `Basic.lean` does below the wrap, and list facts that several parts share. -/
namespace DmlcModel

theorem u32_of_lt {n : Nat} (h : n < 2 ^ 32) : u32 n = n := Nat.mod_eq_of_lt h

theorem u64_of_lt {n : Nat} (h : n < 2 ^ 64) : u64 n = n := Nat.mod_eq_of_lt h

theorem sub64_of_le {a b : Nat} (ha : a < 2 ^ 64) (hb : b ≤ a) : sub64 a b = a - b := by
  unfold sub64; omega

theorem flatMap_congr_mem {α β} {l : List α} {f g : α → List β} (h : ∀ x ∈ l, f x = g x) :
    l.flatMap f = l.flatMap g := by
  simp only [List.flatMap_def, List.map_congr_left h]

/-- Pieces between consecutive cut points `c 0, c 1, .., c n` concatenate to the piece between the first and the
last; `g a b` is any family of pieces that can be joined at `c k` (records or bytes or positions between `a` and `b`). -/
theorem flatMap_range_telescope {α} (g : Nat → Nat → List α) (c : Nat → Nat) (n : Nat) (h0 : g (c 0) (c 0) = [])
    (hjoin : ∀ k, k < n → g (c 0) (c k) ++ g (c k) (c (k + 1)) = g (c 0) (c (k + 1))) :
    (List.range n).flatMap (fun k => g (c k) (c (k + 1))) = g (c 0) (c n) := by
  induction n with
  | zero => simpa using h0.symm
  | succ n ih =>
    rw [List.range_succ, List.flatMap_append, ih fun k hk => hjoin k (Nat.lt_succ_of_lt hk)]
    simpa using hjoin n (Nat.lt_succ_self n)

/-- the same over a monotone list of points `c0 ≤ c₁ ≤ … ≤ c_n` (sortedness stated with `List.Pairwise (· ≤ ·)`;
core Lean has no `List.Chain'`); `Q` is what cutting at a point asks of it, `R` what it asks of the upper end -/
theorem flatMap_zip_telescope {α : Type} (g : Nat → Nat → List α) (Q R : Nat → Prop) (h0 : ∀ a, R a → g a a = [])
    (hs : ∀ a m c, a ≤ m → m ≤ c → Q m → R c → g a m ++ g m c = g a c) (cs : List Nat) (c0 : Nat)
    (hchain : List.Pairwise (· ≤ ·) (c0 :: cs)) (hQ : ∀ c ∈ cs, Q c) (hR : ∀ c ∈ c0 :: cs, R c) :
    ((c0 :: cs).zip cs).flatMap (fun p => g p.1 p.2) = g c0 ((c0 :: cs).getLast (by simp)) := by
  induction cs generalizing c0 with
  | nil =>
    simp only [List.zip_nil_right, List.flatMap_nil, List.getLast_singleton]
    exact (h0 c0 (hR c0 (by simp))).symm
  | cons c1 cs ih =>
    rw [List.pairwise_cons] at hchain
    have hih := ih c1 hchain.2 (fun c hc => hQ c (by simp [hc])) (fun c hc => hR c (by simp [hc]))
    simp only [List.zip_cons_cons, List.flatMap_cons]
    rw [hih, List.getLast_cons (a := c0) (l := c1 :: cs) (by simp)]
    have hmem : (c1 :: cs).getLast (by simp) ∈ c1 :: cs := List.getLast_mem _
    have hle : c1 ≤ (c1 :: cs).getLast (by simp) := by
      rcases List.mem_cons.mp hmem with h | h
      · omega
      · exact (List.pairwise_cons.mp hchain.2).1 _ h
    exact hs c0 c1 _ (hchain.1 c1 (by simp)) hle (hQ c1 (by simp)) (hR _ (by simp [hmem]))

theorem slice_append {α : Type} (l : List α) (a m c : Nat) (h1 : a ≤ m) (h2 : m ≤ c) :
    (l.drop a).take (m - a) ++ (l.drop m).take (c - m) = (l.drop a).take (c - a) := by
  rw [show c - a = (m - a) + (c - m) by omega, List.take_add, List.drop_drop, show a + (m - a) = m by omega]

theorem take_slice {α : Type} (l : List α) (a c : Nat) (h : a ≤ c) :
    l.take c = l.take a ++ (l.drop a).take (c - a) := by
  conv => lhs; rw [show c = a + (c - a) by omega, List.take_add]

/-! Two lists related position by position, with the index (the shape of the drain theorems of Split). -/

theorem getElem?_some_of_length_eq {α β : Type} {as : List α} {bs : List β} (hl : bs.length = as.length) {i : Nat}
    {a : α} (h : as[i]? = some a) : ∃ b, bs[i]? = some b :=
  ⟨bs[i]'(by have := (List.getElem?_eq_some_iff.mp h).1; omega), List.getElem?_eq_getElem _⟩

/-- induction over two lists related position by position (from position `i` on) -/
theorem zip_induct {α β : Type} {P : Nat → α → β → Prop} {Q : Nat → List α → List β → Prop}
    (nil : ∀ i, Q i [] []) (cons : ∀ i a as b bs, P i a b → Q (i + 1) as bs → Q i (a :: as) (b :: bs)) :
    ∀ (as : List α) (bs : List β) (i : Nat), bs.length = as.length →
      (∀ j a b, as[j]? = some a → bs[j]? = some b → P (i + j) a b) → Q i as bs
  | [], [], i, _, _ => nil i
  | [], _ :: _, _, hl, _ => by simp at hl
  | _ :: _, [], _, hl, _ => by simp at hl
  | a :: as, b :: bs, i, hl, h =>
    cons i a as b bs (h 0 a b rfl rfl)
      (zip_induct nil cons as bs (i + 1) (by simpa using hl) fun j a' b' ha hb => by
        have := h (j + 1) a' b' (by rw [List.getElem?_cons_succ]; exact ha) (by rw [List.getElem?_cons_succ]; exact hb)
        rwa [show i + (j + 1) = i + 1 + j by omega] at this)

theorem eq_map_of_getElem? {α β : Type} (f : α → β) (as : List α) (bs : List β) (hl : bs.length = as.length)
    (h : ∀ (i : Nat) a b, as[i]? = some a → bs[i]? = some b → b = f a) : bs = as.map f :=
  zip_induct (P := fun _ a b => b = f a) (Q := fun _ as bs => bs = as.map f) (fun _ => rfl)
    (fun _ _ _ _ _ h ih => by rw [h, ih]; rfl) as bs 0 hl fun j a b ha hb => h j a b ha hb

theorem takeWhile_all {α} (pred : α → Bool) (s : List α) (h : ∀ x ∈ s, pred x = true) : s.takeWhile pred = s := by
  simpa using List.takeWhile_append_of_pos (l₂ := []) h

theorem dropWhile_all {α} (pred : α → Bool) (s : List α) (h : ∀ x ∈ s, pred x = true) : s.dropWhile pred = [] := by
  simpa using List.dropWhile_append_of_pos (l₂ := []) h

theorem takeWhile_forall {α} (pred : α → Bool) (s : List α) : ∀ x ∈ s.takeWhile pred, pred x = true :=
  List.all_eq_true.mp List.all_takeWhile

theorem dropWhile_head_not {α} (pred : α → Bool) (s : List α) :
    ∀ b, (s.dropWhile pred).head? = some b → pred b = false := fun b hb => by
  have := List.head?_dropWhile_not pred s
  rwa [hb] at this

theorem dropWhile_head_false {α} (pred : α → Bool) (s : List α) (d : α) (r : List α)
    (h : s.dropWhile pred = d :: r) : pred d = false :=
  dropWhile_head_not pred s d (by rw [h]; rfl)

theorem dropWhile_idem {α} (pred : α → Bool) (s : List α) : (s.dropWhile pred).dropWhile pred = s.dropWhile pred := by
  cases h : s.dropWhile pred with
  | nil => rfl
  | cons b r => simp [List.dropWhile, dropWhile_head_false pred s b r h]

/-! A scan over `s ++ rest` stops inside `s` or at the head of `rest`, if that head fails the test. -/

theorem takeWhile_append_stop {α} (pred : α → Bool) (s rest : List α)
    (h : ∀ b, rest.head? = some b → pred b = false) :
    (s ++ rest).takeWhile pred = s.takeWhile pred := by
  induction s with
  | nil =>
    cases rest with
    | nil => rfl
    | cons b r => simp [List.takeWhile, h b (by simp)]
  | cons b s ih => by_cases hb : pred b <;> simp [List.takeWhile, hb, ih]

theorem dropWhile_append_stop {α} (pred : α → Bool) (s rest : List α)
    (h : ∀ b, rest.head? = some b → pred b = false) :
    (s ++ rest).dropWhile pred = s.dropWhile pred ++ rest := by
  induction s with
  | nil =>
    cases rest with
    | nil => rfl
    | cons b r => simp [List.dropWhile, h b (by simp)]
  | cons b s ih => by_cases hb : pred b <;> simp [List.dropWhile, hb, ih]

theorem dropWhile_append_all {α} (pred : α → Bool) (s R : List α) (hs : ∀ b ∈ s, pred b = true)
    (hR : ∀ b, R.head? = some b → pred b = false) : (s ++ R).dropWhile pred = R := by
  rw [dropWhile_append_stop pred s R hR, dropWhile_all pred s hs]; rfl

/-- a scan over elements that all pass the test, followed by one that fails it, stops exactly there -/
theorem scan_append_stop {α} (pred : α → Bool) (s rest : List α) (hs : ∀ b ∈ s, pred b = true)
    (hR : ∀ b ∈ rest.head?, pred b = false) : (s ++ rest).dropWhile pred = rest ∧ (s ++ rest).takeWhile pred = s :=
  have hR' : ∀ b, rest.head? = some b → pred b = false := fun b hb => hR b (by simp [hb])
  ⟨dropWhile_append_all pred s rest hs hR', by rw [takeWhile_append_stop pred s rest hR', takeWhile_all pred s hs]⟩

end DmlcModel
