/-
What `read` returns for a written value: `canon`.  `bytesLt` is core's lexicographic order and `mapInsert` an
instance of `SortedInsert` (SortedMap.lean), which is all that `mapOfList` needs.
-/
import DmlcModel.SortedMap
import DmlcModel.Json.Model
import DmlcModel.Json.Typed

namespace DmlcModel.Json
open DmlcModel

mutual
/-- maps come back as `mapOfList` of their pairs: for std::map (keys strictly increasing) the list itself, for
unordered_map the key-sorted canonical form -/
def canon : JTy → Val → Val
  | .pair a b, .pair x y => .pair (canon a x) (canon b y)
  | .vec e, .arr xs => .arr (xs.map (canon e))
  | .list e, .arr xs => .arr (xs.map (canon e))
  | .map e, .obj kvs => .obj (mapOfList (kvs.map fun kv => (kv.1, canon e kv.2)))
  | .umap e, .obj kvs => .obj (mapOfList (kvs.map fun kv => (kv.1, canon e kv.2)))
  | .any alts, .any name v => .any name (canonAlt alts name v)
  | .cls _ fs, .cls vs => .cls (canonFields fs vs)
  | _, v => v
def canonAlt : Alts → Bytes → Val → Val
  | .nil, _, v => v
  | .cons n t r, name, v => if n = name then canon t v else canonAlt r name v
def canonFields : Fields → List Val → List Val
  | .cons _ _ t r, v :: vs => canon t v :: canonFields r vs
  | _, vs => vs
end

theorem bytesLt_eq_lex : ∀ a b : Bytes, bytesLt a b = a.lex b
  | [], [] => rfl
  | [], _ :: _ => rfl
  | _ :: _, [] => rfl
  | x :: xs, y :: ys => by rw [bytesLt, List.lex, bytesLt_eq_lex xs ys]

theorem bytesLt_iff (a b : Bytes) : bytesLt a b = true ↔ a < b := by
  rw [bytesLt_eq_lex, List.lex_eq_true_iff_lt]

/-- `keysIncreasing` compares neighbours; the order being transitive, every pair is ordered -/
theorem keysIncreasing_iff : ∀ l : List (Bytes × Val),
    keysIncreasing l = true ↔ l.Pairwise (fun a b => a.1 < b.1)
  | [] => by simp [keysIncreasing]
  | [_] => by simp [keysIncreasing]
  | a :: b :: l => by
    rw [keysIncreasing, Bool.and_eq_true, bytesLt_iff, keysIncreasing_iff (b :: l), List.pairwise_cons (a := a)]
    refine ⟨fun ⟨h1, h2⟩ => ⟨fun c hc => ?_, h2⟩, fun ⟨h1, h2⟩ => ⟨h1 b (by simp), h2⟩⟩
    rcases List.mem_cons.mp hc with rfl | hc
    · exact h1
    · exact List.lt_trans h1 ((List.pairwise_cons.mp h2).1 c hc)

theorem keysDistinct_iff (l : List (Bytes × Val)) :
    keysDistinct l = true ↔ l.Pairwise (fun a b => a.1 ≠ b.1) := by
  induction l with
  | nil => simp [keysDistinct]
  | cons a l ih => simp [keysDistinct, ih]

theorem keysIncreasing_distinct (l : List (Bytes × Val)) (h : keysIncreasing l = true) : keysDistinct l = true := by
  rw [keysIncreasing_iff] at h
  rw [keysDistinct_iff]
  exact h.imp (S := fun a b => a.1 ≠ b.1) fun hlt heq => List.lt_irrefl _ (heq ▸ hlt)

theorem mapInsert_ins : SortedInsert mapInsert :=
  ⟨fun _ _ => rfl, fun k v kv m => by rw [mapInsert]; simp only [bytesLt_iff]⟩

theorem mapOfList_sorted (kvs : List (Bytes × Val)) : keysIncreasing (mapOfList kvs) = true :=
  (keysIncreasing_iff _).mpr (mapInsert_ins.foldl_sorted kvs [] .nil)

theorem mapOfList_perm (kvs : List (Bytes × Val)) (h : keysDistinct kvs = true) : (mapOfList kvs).Perm kvs := by
  simpa [mapOfList] using mapInsert_ins.foldl_perm kvs [] ((keysDistinct_iff kvs).mp h) (by simp)

/-- both lists are sorted and one is a permutation of the other -/
theorem mapOfList_increasing (kvs : List (Bytes × Val)) (h : keysIncreasing kvs = true) :
    mapOfList kvs = kvs := by
  have hp := mapOfList_perm kvs (keysIncreasing_distinct kvs h)
  have hs := mapOfList_sorted kvs
  rw [keysIncreasing_iff] at h hs
  exact hp.eq_of_pairwise (fun _ _ _ _ h1 h2 => absurd h2 (List.lt_asymm h1)) hs h

mutual
def noUmap : JTy → Bool
  | .pair a b => noUmap a && noUmap b
  | .vec e => noUmap e
  | .list e => noUmap e
  | .map e => noUmap e
  | .umap _ => false
  | .any alts => noUmapAlts alts
  | .cls _ fs => noUmapFields fs
  | _ => true
def noUmapAlts : Alts → Bool
  | .nil => true
  | .cons _ t r => noUmap t && noUmapAlts r
def noUmapFields : Fields → Bool
  | .nil => true
  | .cons _ _ t r => noUmap t && noUmapFields r
end

theorem canon_self_all :
    (∀ t v, hasType t v = true → noUmap t = true → canon t v = v) ∧
    (∀ fs vs, hasTypeFields fs vs = true → noUmapFields fs = true → canonFields fs vs = vs) ∧
    (∀ alts name v, hasTypeAlt alts name v = true → noUmapAlts alts = true → canonAlt alts name v = v) := by
  refine typed_induct ?_
  constructor
  case str | int | bool => intros; rfl
  case pair =>
    intro a b x y _ _ iha ihb hn
    simp only [noUmap, Bool.and_eq_true] at hn
    rw [canon, iha hn.1, ihb hn.2]
  case vec | list =>
    intro e xs ih hn
    rw [canon, List.map_congr_left (g := id) fun x hx => (ih x hx).2 hn, List.map_id]
  case map =>
    intro e kvs hk ih hn
    rw [canon, List.map_congr_left (g := id) fun kv hkv => by rw [(ih kv hkv).2 hn]; rfl, List.map_id,
      mapOfList_increasing kvs hk]
  case umap => intro e kvs _ _ hn; cases hn
  case any => intro alts name v _ ih hn; rw [canon, ih hn]
  case cls => intro pod fs vs _ ih hn; rw [canon, ih hn]
  case hit =>
    intro t r name v _ ih hn
    simp only [noUmapAlts, Bool.and_eq_true] at hn
    simpa [canonAlt] using ih hn.1
  case miss =>
    intro n t r name v hne _ ih hn
    simp only [noUmapAlts, Bool.and_eq_true] at hn
    simpa [canonAlt, hne] using ih hn.2
  case fnil => intro _; rfl
  case fcons =>
    intro n o t r v vs _ _ iht ihr hn
    simp only [noUmapFields, Bool.and_eq_true] at hn
    rw [canonFields, iht hn.1, ihr hn.2]

theorem canon_eq_self : (t : JTy) → ∀ (v : Val), noUmap t = true → hasType t v = true → canon t v = v :=
  fun t v hn ht => canon_self_all.1 t v ht hn

theorem canonAlt_self : (alts : Alts) → ∀ (name : Bytes) (v : Val), noUmapAlts alts = true →
    hasTypeAlt alts name v = true → canonAlt alts name v = v :=
  fun alts name v hn ht => canon_self_all.2.2 alts name v ht hn

theorem canonFields_self : (fs : Fields) → ∀ (vs : List Val), noUmapFields fs = true →
    hasTypeFields fs vs = true → canonFields fs vs = vs :=
  fun fs vs hn ht => canon_self_all.2.1 fs vs ht hn

#print axioms canon_eq_self

def lookupKey (k : Bytes) : List (Bytes × Val) → Option Val
  | [] => none
  | kv :: r => if kv.1 = k then some kv.2 else lookupKey k r

theorem lookupKey_iff (k : Bytes) (v : Val) : ∀ (l : List (Bytes × Val)), keysDistinct l = true →
    (lookupKey k l = some v ↔ (k, v) ∈ l) := by
  intro l
  induction l with
  | nil => intro _; simp [lookupKey]
  | cons kv l ih =>
    intro h
    rw [keysDistinct_iff, List.pairwise_cons, ← keysDistinct_iff] at h
    rw [lookupKey, List.mem_cons]
    by_cases hk : kv.1 = k
    · subst hk
      rw [if_pos rfl]
      refine ⟨fun hv => .inl (by cases hv; rfl), fun hm => hm.elim (fun e => by rw [← e]) fun hm => ?_⟩
      exact absurd rfl (h.1 (kv.1, v) hm)
    · rw [if_neg hk, ih h.2]
      exact ⟨.inr, fun hm => hm.resolve_left fun e => hk (by rw [← e])⟩

/-- an `unordered_map` (distinct keys, any iteration order) comes back as the key-sorted permutation of its pairs,
with the same lookups -/
theorem mapOfList_lookup (kvs : List (Bytes × Val)) (h : keysDistinct kvs = true) :
    keysIncreasing (mapOfList kvs) = true ∧ (mapOfList kvs).Perm kvs ∧
    ∀ k, lookupKey k (mapOfList kvs) = lookupKey k kvs := by
  have hinc := mapOfList_sorted kvs
  have hperm := mapOfList_perm kvs h
  refine ⟨hinc, hperm, fun k => Option.ext fun v => ?_⟩
  rw [lookupKey_iff k v _ (keysIncreasing_distinct _ hinc), lookupKey_iff k v _ h]
  exact hperm.mem_iff

#print axioms mapOfList_lookup

end DmlcModel.Json
