/-
Induction over well-typed values: `hasType`, `hasTypeFields` and `hasTypeAlt` are walked once, here.
-/
import DmlcModel.Json.Model

namespace DmlcModel.Json
open DmlcModel

/-- `P` for a value of a type, `PF` for the field values of a class against its declared fields, `PA` for the value
held by an `any` against the registry -/
structure TypedCases (P : JTy → Val → Prop) (PF : Fields → List Val → Prop) (PA : Alts → Bytes → Val → Prop) :
    Prop where
  str : ∀ s, P .str (.str s)
  int : ∀ bits sg i, (IStreamInt.IntTy.mk bits sg).inRange i = true → P (.int bits sg) (.int i)
  bool : ∀ b, P .bool (.bool b)
  pair : ∀ a b x y, hasType a x = true → hasType b y = true → P a x → P b y → P (.pair a b) (.pair x y)
  vec : ∀ e xs, (∀ x ∈ xs, hasType e x = true ∧ P e x) → P (.vec e) (.arr xs)
  list : ∀ e xs, (∀ x ∈ xs, hasType e x = true ∧ P e x) → P (.list e) (.arr xs)
  map : ∀ e kvs, keysIncreasing kvs = true → (∀ kv ∈ kvs, hasType e kv.2 = true ∧ P e kv.2) → P (.map e) (.obj kvs)
  umap : ∀ e kvs, keysDistinct kvs = true → (∀ kv ∈ kvs, hasType e kv.2 = true ∧ P e kv.2) → P (.umap e) (.obj kvs)
  any : ∀ alts name v, hasTypeAlt alts name v = true → PA alts name v → P (.any alts) (.any name v)
  cls : ∀ pod fs vs, hasTypeFields fs vs = true → PF fs vs → P (.cls pod fs) (.cls vs)
  hit : ∀ t r name v, hasType t v = true → P t v → PA (.cons name t r) name v
  miss : ∀ n t r name v, n ≠ name → hasTypeAlt r name v = true → PA r name v → PA (.cons n t r) name v
  fnil : PF .nil []
  fcons : ∀ n o t r v vs, hasType t v = true → hasTypeFields r vs = true → P t v → PF r vs →
    PF (.cons n o t r) (v :: vs)

variable {P : JTy → Val → Prop} {PF : Fields → List Val → Prop} {PA : Alts → Bytes → Val → Prop}

mutual
theorem TypedCases.ty (c : TypedCases P PF PA) : (t : JTy) → (v : Val) → hasType t v = true → P t v
  | .str, v, h => by cases v <;> simp [hasType] at h; exact c.str _
  | .int _ _, v, h => by cases v <;> simp [hasType] at h; exact c.int _ _ _ h
  | .bool, v, h => by cases v <;> simp [hasType] at h; exact c.bool _
  | .pair a b, v, h => by
    cases v <;> simp [hasType] at h
    exact c.pair _ _ _ _ h.1 h.2 (c.ty a _ h.1) (c.ty b _ h.2)
  | .vec e, v, h => by
    cases v <;> simp [hasType] at h
    exact c.vec _ _ fun x hx => ⟨h x hx, c.ty e x (h x hx)⟩
  | .list e, v, h => by
    cases v <;> simp [hasType] at h
    exact c.list _ _ fun x hx => ⟨h x hx, c.ty e x (h x hx)⟩
  | .map e, v, h => by
    cases v <;> simp [hasType] at h
    exact c.map _ _ h.1 fun kv hkv => ⟨h.2 _ _ hkv, c.ty e kv.2 (h.2 _ _ hkv)⟩
  | .umap e, v, h => by
    cases v <;> simp [hasType] at h
    exact c.umap _ _ h.1 fun kv hkv => ⟨h.2 _ _ hkv, c.ty e kv.2 (h.2 _ _ hkv)⟩
  | .any alts, v, h => by
    cases v <;> simp [hasType] at h
    exact c.any _ _ _ h (c.alts alts _ _ h)
  | .cls _ fs, v, h => by
    cases v <;> simp [hasType] at h
    exact c.cls _ _ _ h (c.fields fs _ h)
theorem TypedCases.alts (c : TypedCases P PF PA) :
    (alts : Alts) → (name : Bytes) → (v : Val) → hasTypeAlt alts name v = true → PA alts name v
  | .nil, _, _, h => by simp [hasTypeAlt] at h
  | .cons n t r, name, v, h => by
    rw [hasTypeAlt] at h
    split at h
    · next hn => subst hn; exact c.hit _ _ _ _ h (c.ty t v h)
    · next hn => exact c.miss _ _ _ _ _ hn h (c.alts r name v h)
theorem TypedCases.fields (c : TypedCases P PF PA) :
    (fs : Fields) → (vs : List Val) → hasTypeFields fs vs = true → PF fs vs
  | .nil, [], _ => c.fnil
  | .nil, _ :: _, h => by simp [hasTypeFields] at h
  | .cons _ _ _ _, [], h => by simp [hasTypeFields] at h
  | .cons _ _ t r, v :: vs, h => by
    simp only [hasTypeFields, Bool.and_eq_true] at h
    exact c.fcons _ _ _ _ _ _ h.1 h.2 (c.ty t v h.1) (c.fields r vs h.2)
end

theorem typed_induct (c : TypedCases P PF PA) :
    (∀ t v, hasType t v = true → P t v) ∧ (∀ fs vs, hasTypeFields fs vs = true → PF fs vs) ∧
    (∀ alts name v, hasTypeAlt alts name v = true → PA alts name v) :=
  ⟨c.ty, c.fields, c.alts⟩

end DmlcModel.Json
