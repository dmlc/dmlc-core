/-
Every step of the reader gets a `Safe` postcondition on the state it returns (scope stack; input no longer than
before); the loops stay within their budget because each iteration reads one element and an element reader consumes
input.  `Consumes` is what the proofs compose, `RdOK` (the same, unpacked) what the end results state: `RdOK.intro`,
`RdOK.safe`.
-/
import DmlcModel.Json.ReaderSpec
import DmlcModel.Json.IStreamIntLemmas

namespace DmlcModel.Json
open DmlcModel DmlcModel.Gen.Json

@[simp] theorem nextNonSpace_scope (st : RState) : (nextNonSpace st).2.scope = st.scope := rfl
@[simp] theorem peekNonSpace_scope (st : RState) : (peekNonSpace st).2.scope = st.scope := rfl

theorem nextNonSpace_le (st : RState) : (nextNonSpace st).2.inp.length ≤ st.inp.length := by
  rw [(nonSpace_eq st).2.1, List.length_tail]
  exact Nat.le_trans (Nat.sub_le _ _) (List.dropWhile_sublist _).length_le

theorem nextNonSpace_lt (st : RState) (c : UInt8) (h : (nextNonSpace st).1 = some c) :
    (nextNonSpace st).2.inp.length < st.inp.length := by
  have hl := (List.dropWhile_sublist (fun c : UInt8 => isSpace c.toNat) (l := st.inp)).length_le
  rw [(nonSpace_eq st).1] at h
  rw [(nonSpace_eq st).2.1, List.length_tail]
  cases hd : st.inp.dropWhile (fun c : UInt8 => isSpace c.toNat) with
  | nil => simp [hd] at h
  | cons a as => rw [hd] at hl; simp at hl ⊢; omega

theorem peekNonSpace_le (st : RState) : (peekNonSpace st).2.inp.length ≤ st.inp.length := by
  rw [(nonSpace_eq st).2.2.2]
  exact (List.dropWhile_sublist _).length_le

@[simp] theorem nextChar_scope (st : RState) : (nextChar st).2.scope = st.scope := by
  unfold nextChar; split <;> rfl

theorem nextChar_le (st : RState) : (nextChar st).2.inp.length ≤ st.inp.length := by
  unfold nextChar; split <;> rename_i h <;> simp [h]

theorem readStrGo_length (s : Bytes) : ∀ r, readStrGo s = some r → r.2.length < s.length := by
  fun_induction readStrGo s <;> intro r h <;> cases h
  case case3 r' hr ih => exact Nat.lt_succ_of_lt (Nat.lt_succ_of_lt (ih r' hr))
  case case6 => exact Nat.lt_succ_self _
  case case8 r' hr ih => exact Nat.lt_succ_of_lt (ih r' hr)

abbrev Adv (st : RState) (sc : List Nat) (n : Nat) (st' : RState) : Prop :=
  st'.scope = sc ∧ st'.inp.length + n ≤ st.inp.length

theorem Adv.trans {st st1 st2 : RState} {sc sc' : List Nat} {n m : Nat} (h1 : Adv st sc n st1)
    (h2 : Adv st1 sc' m st2) : Adv st sc' (n + m) st2 :=
  ⟨h2.1, by have := h1.2; have := h2.2; omega⟩

theorem Adv.le {st st' : RState} {sc : List Nat} {n m : Nat} (h : Adv st sc n st') (hm : m ≤ n) :
    Adv st sc m st' :=
  ⟨h.1, Nat.le_trans (Nat.add_le_add_left hm _) h.2⟩

abbrev Consumes {α : Type} (m : RState → Except Err (α × RState)) : Prop :=
  ∀ st, Safe (fun p => Adv st st.scope 1 p.2) (m st)

/-- the loop budget is never exhausted (no hang), `scope_counter_` is never popped empty; a successful read leaves
the scope stack as it found it and consumes at least one byte -/
def RdOK (rd : Rd) : Prop :=
  ∀ st, rd st ≠ .error .fuel ∧ rd st ≠ .error .scope ∧ rd st ≠ .error .type ∧
    ∀ v st', rd st = .ok (v, st') → st'.scope = st.scope ∧ st'.inp.length < st.inp.length

theorem Res.unpack {β : Type} {P : β → Prop} {x : Except Err β} (h : Safe P x) :
    x ≠ .error .fuel ∧ x ≠ .error .scope ∧ x ≠ .error .type ∧ ∀ b, x = .ok b → P b :=
  ⟨h.ne_error (by decide), h.ne_error (by decide), h.ne_error (by decide), fun _ => h.of_ok⟩

theorem RdOK.intro {rd : Rd} (h : Consumes rd) : RdOK rd :=
  fun st => ⟨(h st).unpack.1, (h st).unpack.2.1, (h st).unpack.2.2.1, fun _ _ => (h st).of_ok⟩

theorem RdOK.safe {rd : Rd} (h : RdOK rd) : Consumes rd := fun st => by
  obtain ⟨h1, h2, h3, h4⟩ := h st
  cases hr : rd st with
  | ok p => exact h4 p.1 p.2 hr
  | error e =>
    cases e with
    | check => rfl
    | scope => exact absurd hr h2
    | fuel => exact absurd hr h1
    | type => exact absurd hr h3

theorem readString_safe : Consumes readString := fun st => by
  unfold readString
  dsimp only
  split
  · rfl
  · rename_i c hc
    split
    · split
      · rename_i r hr
        exact ⟨rfl, Nat.lt_of_lt_of_le (readStrGo_length _ r hr) (Nat.le_of_lt (nextNonSpace_lt st c hc))⟩
      · rfl
    · rfl

theorem readNumber_safe (bits : Nat) (sg : Bool) : Consumes (readNumber bits sg) := fun st => by
  unfold readNumber
  dsimp only
  split
  · rfl
  · rename_i hf
    split
    · exact ⟨rfl, IStreamInt.extract_ok_consumes _ _ (by simpa using hf)⟩
    · rfl

theorem readBool_safe : Consumes readBool := fun st => by
  unfold readBool
  dsimp only
  split
  · rfl
  · rename_i hf
    split
    · exact ⟨rfl, IStreamInt.extractBool_ok_consumes _ (by simpa using hf)⟩
    · rfl

theorem rBegin_safe (opn : UInt8) (st : RState) : Safe (Adv st (0 :: st.scope) 1) (rBegin opn st) := by
  unfold rBegin
  dsimp only
  split
  · rfl
  · rename_i c hc
    split
    · exact ⟨rfl, nextNonSpace_lt st c hc⟩
    · rfl

theorem nextArrayItem_safe {st : RState} {c : Nat} {sc : List Nat} (hs : st.scope = c :: sc) :
    Safe (fun p => Adv st (bif p.1 then (c + 1) :: sc else sc) 0 p.2) (nextArrayItem st) := by
  have h1 := nextNonSpace_le st
  have h2 := peekNonSpace_le st
  have h3 := nextChar_le (peekNonSpace st).2
  unfold nextArrayItem
  rw [hs]
  dsimp only
  split
  · split
    · exact ⟨rfl, h1⟩
    · split
      · exact ⟨rfl, h1⟩
      · split
        · exact ⟨rfl, h1⟩
        · rfl
  · split
    · exact ⟨rfl, Nat.le_trans h3 h2⟩
    · exact ⟨rfl, h2⟩

theorem expectItem_safe (more : Bool) {st : RState} {c : Nat} {sc : List Nat} (hs : st.scope = c :: sc) :
    Safe (Adv st (bif more then (c + 1) :: sc else sc) 0) (expectItem more st) := by
  refine (nextArrayItem_safe hs).bind fun ⟨b, st1⟩ h1 => ?_
  dsimp only
  split
  · rename_i hb
    subst hb
    exact h1
  · rfl

/-- an announced item advances the counter on top of the scope stack, the end pops it; no input is given back -/
def NextSafe {κ : Type} (next : RState → Except Err (Option κ × RState)) : Prop :=
  ∀ {st : RState} {c : Nat} {sc : List Nat}, st.scope = c :: sc →
    Safe (fun p => Adv st (bif p.1.isSome then (c + 1) :: sc else sc) 0 p.2) (next st)

theorem nextObjectItem_safe : NextSafe nextObjectItem := by
  intro st c sc hs
  have h1 := nextNonSpace_le st
  have h2 := peekNonSpace_le st
  have h3 := nextChar_le (peekNonSpace st).2
  unfold nextObjectItem
  rw [hs]
  dsimp only
  -- the `step` part leaves the scope stack alone and gives no input back
  generalize hg : (if rObjNotFirst c then _ else _ : Except Err (Bool × RState)) = step
  have hstep : Safe (fun p => Adv st st.scope 0 p.2) step := by
    subst hg
    split
    · split
      · exact ⟨rfl, h1⟩
      · split
        · exact ⟨rfl, h1⟩
        · split
          · exact ⟨rfl, h1⟩
          · rfl
    · split
      · exact ⟨nextChar_scope _, Nat.le_trans h3 h2⟩
      · exact ⟨rfl, h2⟩
  rcases step with e | ⟨_ | _, st1⟩
  · exact hstep
  · exact ⟨rfl, hstep.2⟩
  · dsimp only
    have h4 := readString_safe { st1 with scope := (c + 1) :: sc }
    generalize readString { st1 with scope := (c + 1) :: sc } = rs at h4 ⊢
    rcases rs with e | ⟨key, st2⟩
    · exact h4
    · have h5 := nextNonSpace_le st2
      have h6 : st2.inp.length + 1 ≤ st1.inp.length := h4.2
      have h7 : st1.inp.length ≤ st.inp.length := hstep.2
      dsimp only
      split
      · rfl
      · split
        · exact ⟨h4.1, Nat.le_trans h5 (Nat.le_trans (Nat.le_of_succ_le h6) h7)⟩
        · rfl

theorem arrNext_safe : NextSafe arrNext := fun hs =>
  (nextArrayItem_safe hs).bind fun ⟨more, st1⟩ h => by cases more <;> exact h

theorem memberRd_safe {look : Bytes → Option Rd} (h : ∀ key rd, look key = some rd → RdOK rd) (key : Bytes) :
    Consumes (memberRd look key) := fun st => by
  unfold memberRd
  cases hl : look key with
  | none => rfl
  | some rd => exact ((h key rd hl).safe st).bind fun ⟨v, st1⟩ h1 => h1

/-- `next` gives no input back and each item consumes some: the budget stays above the remaining input length -/
theorem itemLoop_safe {κ α : Type} {next : RState → Except Err (Option κ × RState)}
    {item : κ → RState → Except Err (α × RState)} (hnext : NextSafe next)
    (hitem : ∀ k, Consumes (item k)) :
    ∀ (fuel : Nat) {st : RState} {c : Nat} {sc : List Nat}, st.scope = c :: sc → st.inp.length < fuel →
      Safe (fun p => Adv st sc 0 p.2) (itemLoop next item fuel st)
  | 0, _, _, _, _, hf => absurd hf (Nat.not_lt_zero _)
  | fuel + 1, st, c, sc, hs, hf => by
    rw [itemLoop]
    refine (hnext hs).bind fun ⟨k?, st1⟩ h1 => ?_
    cases k? with
    | none => exact h1
    | some k =>
      refine (hitem k st1).bind fun ⟨x, st2⟩ h2 => ?_
      have h12 := h1.trans h2
      refine (itemLoop_safe hnext hitem fuel (h2.1.trans h1.1) (Nat.lt_of_succ_le
        (Nat.le_trans h12.2 (Nat.le_of_lt_succ hf)))).bind fun ⟨xs, st3⟩ h3 => ?_
      exact (h12.trans h3).le (Nat.zero_le _)

theorem lookRd_ok {look : Bytes → Option (Nat × Rd)} (h : ∀ key i rd, look key = some (i, rd) → RdOK rd)
    (key : Bytes) (rd : Rd) (e : (look key).map (·.2) = some rd) : RdOK rd := by
  obtain ⟨⟨i, rd'⟩, hl, rfl⟩ := Option.map_eq_some_iff.mp e
  exact h key i _ hl

theorem objectLoop_ok (rd : Rd) (h : RdOK rd) (fuel : Nat) (st : RState) (c : Nat) (sc : List Nat)
    (hs : st.scope = c :: sc) (hf : st.inp.length < fuel) :
    objectLoop rd fuel st ≠ .error .fuel ∧ objectLoop rd fuel st ≠ .error .scope ∧
    objectLoop rd fuel st ≠ .error .type ∧
    ∀ kvs st', objectLoop rd fuel st = .ok (kvs, st') → st'.scope = sc ∧ st'.inp.length ≤ st.inp.length :=
  have h : Safe (fun p => Adv st sc 0 p.2) (objectLoop rd fuel st) := objectLoop_eq rd fuel st ▸
    itemLoop_safe nextObjectItem_safe (memberRd_safe fun _ _ e => Option.some.inj e ▸ h) fuel hs hf
  ⟨h.unpack.1, h.unpack.2.1, h.unpack.2.2.1, fun kvs st' => h.unpack.2.2.2 (kvs, st')⟩

theorem fieldLoop_ok (look : Bytes → Option (Nat × Rd))
    (h : ∀ key i rd, look key = some (i, rd) → RdOK rd)
    (fuel : Nat) (st : RState) (slots : List (Option Val)) (c : Nat) (sc : List Nat)
    (hs : st.scope = c :: sc) (hf : st.inp.length < fuel) :
    fieldLoop look fuel st slots ≠ .error .fuel ∧ fieldLoop look fuel st slots ≠ .error .scope ∧
    fieldLoop look fuel st slots ≠ .error .type ∧
    ∀ sl st', fieldLoop look fuel st slots = .ok (sl, st') →
      st'.scope = sc ∧ st'.inp.length ≤ st.inp.length :=
  have h : Safe (fun p => Adv st sc 0 p.2) (fieldLoop look fuel st slots) := fieldLoop_eq look fuel st slots ▸
    (itemLoop_safe nextObjectItem_safe (memberRd_safe (lookRd_ok h)) fuel hs hf).bind fun _ h1 => h1
  ⟨h.unpack.1, h.unpack.2.1, h.unpack.2.2.1, fun sl st' => h.unpack.2.2.2 (sl, st')⟩

theorem primRd_ok {α : Type} {prim : RState → Except Err (α × RState)} {mk : α → Val}
    (h : Consumes prim) : RdOK (primRd prim mk) :=
  RdOK.intro fun st => (h st).bind fun _ h1 => h1

theorem seqRd_ok {κ α : Type} {opn : RState → Except Err RState} {next : RState → Except Err (Option κ × RState)}
    {item : κ → RState → Except Err (α × RState)} (hopn : ∀ st, Safe (Adv st (0 :: st.scope) 1) (opn st))
    (hnext : NextSafe next) (hitem : ∀ k, Consumes (item k)) (fin : List α → Option Val) :
    RdOK (seqRd opn next item fin) :=
  RdOK.intro fun st => by
    refine (hopn st).bind fun st0 h0 => ?_
    refine (itemLoop_safe hnext hitem _ h0.1 (Nat.lt_succ_self _)).bind fun ⟨xs, st1⟩ h1 => ?_
    dsimp only
    cases fin xs with
    | none => rfl
    | some v => exact h0.trans h1

theorem pairRd_ok {α : Type} {ra : RState → Except Err (α × RState)} {rb : α → Option Rd} {mk : α → Val → Val}
    (ha : Consumes ra) (hb : ∀ x rd, rb x = some rd → RdOK rd) :
    RdOK (pairRd ra rb mk) :=
  RdOK.intro fun st => by
    refine (rBegin_safe rOpenArr st).bind fun st0 h0 => ?_
    refine (expectItem_safe true h0.1).bind fun st1 h1 => ?_
    refine (ha st1).bind fun ⟨x, st2⟩ h2 => ?_
    dsimp only
    cases hl : rb x with
    | none => rfl
    | some rd =>
      refine (expectItem_safe true (h2.1.trans h1.1)).bind fun st3 h3 => ?_
      refine ((hb x rd hl).safe st3).bind fun ⟨y, st4⟩ h4 => ?_
      refine (expectItem_safe false (h4.1.trans h3.1)).bind fun st5 h5 => ?_
      exact (((((h0.trans h1).trans h2).trans h3).trans h4).trans h5).le (by decide)

mutual
theorem read_ok : (t : JTy) → RdOK (read t)
  | .str => read_str_eq ▸ primRd_ok readString_safe
  | .int bits sg => read_int_eq bits sg ▸ primRd_ok (readNumber_safe bits sg)
  | .bool => read_bool_eq ▸ primRd_ok readBool_safe
  | .pair a b => read_pair_eq a b ▸ pairRd_ok (read_ok a).safe fun _ _ h => Option.some.inj h ▸ read_ok b
  | .vec e => read_vec_eq e ▸ seqRd_ok (rBegin_safe rOpenArr) arrNext_safe (fun _ => (read_ok e).safe) _
  | .list e => read_list_eq e ▸ seqRd_ok (rBegin_safe rOpenArr) arrNext_safe (fun _ => (read_ok e).safe) _
  | .map e => read_map_eq e ▸ seqRd_ok (rBegin_safe rOpenObj) nextObjectItem_safe
    (memberRd_safe fun _ _ h => Option.some.inj h ▸ read_ok e) _
  | .umap e => read_umap_eq e ▸ seqRd_ok (rBegin_safe rOpenObj) nextObjectItem_safe
    (memberRd_safe fun _ _ h => Option.some.inj h ▸ read_ok e) _
  | .any alts => read_any_eq alts ▸ pairRd_ok readString_safe (readAlt_ok alts)
  | .cls pod fs => read_cls_eq pod fs ▸ seqRd_ok (rBegin_safe rOpenObj) nextObjectItem_safe
    (memberRd_safe (lookRd_ok fun key i rd h => readField_ok fs key 0 (i, rd) h)) _
theorem readAlt_ok : (alts : Alts) → ∀ name rd, readAlt alts name = some rd → RdOK rd
  | .nil => by
    intro name rd h
    simp [readAlt] at h
  | .cons n t r => by
    intro name rd h
    rw [readAlt] at h
    split at h
    · cases h
      exact read_ok t
    · exact readAlt_ok r name rd h
theorem readField_ok : (fs : Fields) → ∀ key i p, readField fs key i = some p → RdOK p.2
  | .nil => by
    intro key i p h
    simp [readField] at h
  | .cons n o t r => by
    intro key i p h
    rw [readField] at h
    split at h
    · cases h
      exact read_ok t
    · exact readField_ok r key (i + 1) p h
end

theorem readTop_ok (t : JTy) (s : Bytes) :
    readTop t s ≠ .error .fuel ∧ readTop t s ≠ .error .scope ∧ readTop t s ≠ .error .type ∧
    ∀ v st', readTop t s = .ok (v, st') → st'.scope = [] ∧ st'.inp.length < s.length :=
  read_ok t { inp := s }

end DmlcModel.Json
