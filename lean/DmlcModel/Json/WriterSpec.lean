/-
The state-machine writer (`write`) agrees with the compositional specification (`enc`).
-/
import DmlcModel.Json.Model
import DmlcModel.Json.Typed

namespace DmlcModel.Json
open DmlcModel DmlcModel.Gen.Json

theorem writeArraySeperator_eq (o : Bytes) (n : Nat) (cs : List Nat) (ml : List Bool) :
    writeArraySeperator { out := o, cnt := n :: cs, ml := ml } =
      .ok { out := o ++ ((if wArrNeedSep n then arraySep else []) ++ sepBytes ml),
            cnt := (n + 1) :: cs, ml := ml } := by
  simp only [writeArraySeperator, writeSeperator, WState.emit]
  cases wArrNeedSep n <;> simp

theorem writeObjectKey_eq (k : Bytes) (o : Bytes) (n : Nat) (cs : List Nat) (ml : List Bool) :
    writeObjectKey k { out := o, cnt := n :: cs, ml := ml } =
      .ok { out := o ++ ((if wObjNeedSep n then objectSep else []) ++ sepBytes ml ++ encKey k ++ keyValueSep),
            cnt := (n + 1) :: cs, ml := ml } := by
  simp only [writeObjectKey, writeSeperator, WState.emit]
  cases wObjNeedSep n <;> simp

theorem wEndArray_eq (o : Bytes) (n : Nat) (cs : List Nat) (m : Bool) (ml : List Bool) :
    wEndArray { out := o, cnt := n :: cs, ml := m :: ml } =
      .ok { out := o ++ encClose true m n ml, cnt := cs, ml := ml } := by
  simp only [wEndArray, writeSeperator, WState.emit, encClose]
  cases wEndArrNewline m n <;> simp

theorem wEndObject_eq (o : Bytes) (n : Nat) (cs : List Nat) (m : Bool) (ml : List Bool) :
    wEndObject { out := o, cnt := n :: cs, ml := m :: ml } =
      .ok { out := o ++ encClose false m n ml, cnt := cs, ml := ml } := by
  simp only [wEndObject, writeSeperator, WState.emit, encClose]
  cases wEndObjNewline m n <;> simp

theorem writeItems_eq (w : Val → WState → Except Err WState) (f : Val → Bytes) (ml : List Bool)
    (xs : List Val) (hw : ∀ x ∈ xs, ∀ o c, w x ⟨o, c, ml⟩ = .ok ⟨o ++ f x, c, ml⟩)
    (o : Bytes) (n : Nat) (cs : List Nat) :
    writeItems w xs ⟨o, n :: cs, ml⟩ = .ok ⟨o ++ encItems f ml n xs, (n + xs.length) :: cs, ml⟩ := by
  induction xs generalizing o n with
  | nil => simp [writeItems, encItems]
  | cons x xs ih =>
    simp only [writeItems, bind, Except.bind, writeArraySeperator_eq, hw x (by simp),
      ih (fun y hy => hw y (by simp [hy]))]
    simp [encItems, List.append_assoc, Nat.add_assoc, Nat.add_comm 1]

theorem writeMembers_eq (w : Val → WState → Except Err WState) (f : Val → Bytes) (ml : List Bool)
    (kvs : List (Bytes × Val)) (hw : ∀ kv ∈ kvs, ∀ o c, w kv.2 ⟨o, c, ml⟩ = .ok ⟨o ++ f kv.2, c, ml⟩)
    (o : Bytes) (n : Nat) (cs : List Nat) :
    writeMembers w kvs ⟨o, n :: cs, ml⟩ = .ok ⟨o ++ encMembers f ml n kvs, (n + kvs.length) :: cs, ml⟩ := by
  induction kvs generalizing o n with
  | nil => simp [writeMembers, encMembers]
  | cons kv kvs ih =>
    simp only [writeMembers, bind, Except.bind, writeObjectKey_eq, hw kv (by simp),
      ih (fun y hy => hw y (by simp [hy]))]
    simp [encMembers, List.append_assoc, Nat.add_assoc, Nat.add_comm 1]

theorem write_all :
    (∀ t v, hasType t v = true → ∀ st : WState,
      write t v st = .ok { out := st.out ++ enc t v st.ml, cnt := st.cnt, ml := st.ml }) ∧
    (∀ fs vs, hasTypeFields fs vs = true → fs.length = vs.length ∧ ∀ o n cs ml,
      writeFields fs vs ⟨o, n :: cs, ml⟩ = .ok ⟨o ++ encFields fs vs ml n, (n + vs.length) :: cs, ml⟩) ∧
    (∀ alts name v, hasTypeAlt alts name v = true → ∀ st : WState,
      writeAlt alts name v st = .ok { out := st.out ++ encAlt alts name v st.ml, cnt := st.cnt, ml := st.ml }) := by
  refine typed_induct ?_
  constructor
  case str | int | bool => intros; simp [write, enc, WState.emit]
  case pair =>
    intro a b x y _ _ iha ihb ⟨o, c, ml⟩
    simp only [write, wBeginArray, bind, Except.bind, writeArraySeperator_eq, iha, ihb, wEndArray_eq]
    simp [enc, List.append_assoc, wArrNeedSep]
  case vec | list =>
    intro e xs ih ⟨o, c, ml⟩
    simp only [write, wBeginArray, bind, Except.bind]
    rw [writeItems_eq (write e) (fun x => enc e x (arrayMultiLine xs.length (isPod e) :: ml)) _ xs
      (fun x hx _ _ => (ih x hx).2 _)]
    simp only [wEndArray_eq]
    simp [enc, List.append_assoc]
  case map | umap =>
    intro e kvs _ ih ⟨o, c, ml⟩
    simp only [write, wBeginObject, bind, Except.bind]
    rw [writeMembers_eq (write e) (fun x => enc e x (objectMultiLine kvs.length :: ml)) _ kvs
      (fun kv hkv _ _ => (ih kv hkv).2 _)]
    simp only [wEndObject_eq]
    simp [enc, List.append_assoc]
  case any =>
    intro alts name x _ ih ⟨o, c, ml⟩
    simp only [write, wBeginArray, bind, Except.bind, writeArraySeperator_eq, WState.emit, ih, wEndArray_eq]
    simp [enc, List.append_assoc, wArrNeedSep]
  case cls =>
    intro pod fs vs _ ih ⟨o, c, ml⟩
    simp only [write, wBeginObject, bind, Except.bind, ih.2, wEndObject_eq]
    simp [enc, List.append_assoc, ih.1]
  case hit =>
    intro t r name v _ ih st
    -- `write` leaves `ml` as it found it (`ih`), so the `CHECK_EQ(nscope, …)` after the held value passes
    simp [writeAlt, encAlt, bind, Except.bind, ih]
  case miss =>
    intro n t r name v hne _ ih st
    simpa [writeAlt, encAlt, hne] using ih st
  case fnil => exact ⟨rfl, fun o n cs ml => by simp [writeFields, encFields]⟩
  case fcons =>
    intro k _ t r v vs _ _ iht ihr
    refine ⟨by simp [Fields.length, ihr.1], fun o n cs ml => ?_⟩
    simp only [writeFields, bind, Except.bind, writeObjectKey_eq, iht, ihr.2]
    simp [encFields, List.append_assoc, Nat.add_assoc, Nat.add_comm 1]

theorem write_eq_enc : (t : JTy) → (v : Val) → (ht : hasType t v = true) → (st : WState) →
    write t v st = .ok { out := st.out ++ enc t v st.ml, cnt := st.cnt, ml := st.ml } :=
  write_all.1

theorem writeAlt_eq : (alts : Alts) → (name : Bytes) → (v : Val) → (st : WState) →
    hasTypeAlt alts name v = true →
    writeAlt alts name v st = .ok { out := st.out ++ encAlt alts name v st.ml, cnt := st.cnt, ml := st.ml } :=
  fun alts name v st h => write_all.2.2 alts name v h st

theorem writeFields_eq : (fs : Fields) → (vs : List Val) → (st : WState) → (n : Nat) → (cs : List Nat) →
    hasTypeFields fs vs = true → st.cnt = n :: cs →
    writeFields fs vs st =
      .ok { out := st.out ++ encFields fs vs st.ml n, cnt := (n + vs.length) :: cs, ml := st.ml }
  | fs, vs, ⟨o, _, ml⟩, n, cs, h, rfl => (write_all.2.1 fs vs h).2 o n cs ml

theorem writeTop_eq_enc (t : JTy) (v : Val) (ht : hasType t v = true) : writeTop t v = .ok (enc t v []) := by
  simp [writeTop, write_eq_enc t v ht]

theorem write_no_scope_error (t : JTy) (v : Val) (ht : hasType t v = true) (st : WState) :
    write t v st ≠ .error .scope ∧ write t v st ≠ .error .check ∧ write t v st ≠ .error .type := by
  rw [write_eq_enc t v ht st]
  simp

-- the `#print axioms` lines of the Json files are audits of what C16's theorems rest on
#print axioms write_eq_enc
#print axioms writeTop_eq_enc
#print axioms write_no_scope_error

end DmlcModel.Json
