/-
The handlers of `JSONReader` as programs in the exception monad over arbitrary element readers, followed step by
step through `Res`.  vector / list, map / unordered_map and classes are one handler, `seqRd`, over one loop,
`itemLoop`: they differ in the bracket, in how the next item is announced, in the item reader and in what is
made of the items.
-/
import DmlcModel.Json.Model

namespace DmlcModel.Json
open DmlcModel DmlcModel.Gen.Json

/-- a postcondition on an outcome: `E` for the errors it admits, `P` for the value it returns -/
def Res {β : Type} (E : Err → Prop) (P : β → Prop) : Except Err β → Prop
  | .error e => E e
  | .ok b => P b

theorem Res.bind {β γ : Type} {E : Err → Prop} {P : β → Prop} {Q : γ → Prop} {x : Except Err β}
    {k : β → Except Err γ} (hx : Res E P x) (hk : ∀ b, P b → Res E Q (k b)) : Res E Q (x >>= k) := by
  cases x with
  | error e => exact hx
  | ok b => exact hk b hx

theorem Res.imp {β : Type} {E : Err → Prop} {P Q : β → Prop} {x : Except Err β} (hx : Res E P x)
    (h : ∀ b, P b → Q b) : Res E Q x := by
  cases x with
  | error e => exact hx
  | ok b => exact h b hx

theorem Res.ne_error {β : Type} {E : Err → Prop} {P : β → Prop} {x : Except Err β} (h : Res E P x)
    {e : Err} (he : ¬ E e) : x ≠ .error e := by
  rintro rfl
  exact he h

theorem Res.of_ok {β : Type} {E : Err → Prop} {P : β → Prop} {x : Except Err β} (h : Res E P x)
    {b : β} (hb : x = .ok b) : P b := by
  subst hb
  exact h

/-- the only error is a `CHECK` (a thrown dmlc::Error) -/
abbrev Safe {β : Type} (P : β → Prop) (x : Except Err β) : Prop := Res (· = .check) P x

/-- no error -/
abbrev Ok {β : Type} (P : β → Prop) (x : Except Err β) : Prop := Res (fun _ => False) P x

theorem Ok.exists {β : Type} {P : β → Prop} {x : Except Err β} (h : Ok P x) : ∃ b, x = .ok b ∧ P b := by
  cases x with
  | error e => exact h.elim
  | ok b => exact ⟨b, rfl, h⟩

theorem nonSpaceGo_eq (s : Bytes) : ∀ r n,
    (nextNonSpaceGo s r n).1 = (s.dropWhile (Gen.Json.isSpace ·.toNat)).head? ∧
    (nextNonSpaceGo s r n).2.1 = (s.dropWhile (Gen.Json.isSpace ·.toNat)).tail ∧
    (peekNonSpaceGo s r n).1 = (s.dropWhile (Gen.Json.isSpace ·.toNat)).head? ∧
    (peekNonSpaceGo s r n).2.1 = s.dropWhile (Gen.Json.isSpace ·.toNat) := by
  induction s with
  | nil => intro r n; simp [nextNonSpaceGo, peekNonSpaceGo]
  | cons c cs ih =>
    intro r n
    by_cases h : Gen.Json.isSpace c.toNat = true <;> simp [nextNonSpaceGo, peekNonSpaceGo, h, ih]

theorem nonSpace_eq (st : RState) :
    (nextNonSpace st).1 = (st.inp.dropWhile (Gen.Json.isSpace ·.toNat)).head? ∧
    (nextNonSpace st).2.inp = (st.inp.dropWhile (Gen.Json.isSpace ·.toNat)).tail ∧
    (peekNonSpace st).1 = (st.inp.dropWhile (Gen.Json.isSpace ·.toNat)).head? ∧
    (peekNonSpace st).2.inp = st.inp.dropWhile (Gen.Json.isSpace ·.toNat) :=
  nonSpaceGo_eq st.inp st.lineR st.lineN

/-- `BeginArray` / `BeginObject` -/
def rBegin (opn : UInt8) (st : RState) : Except Err RState :=
  let p := nextNonSpace st
  match p.1 with
  | none => .error .check
  | some c => if c == opn then .ok { p.2 with scope := 0 :: p.2.scope } else .error .check

theorem rBeginArray_eq : rBeginArray = rBegin rOpenArr := rfl

theorem rBeginObject_eq : rBeginObject = rBegin rOpenObj := rfl

/-- `Handler<std::string>`, `NumericHandler<T>` -/
def primRd {α : Type} (prim : RState → Except Err (α × RState)) (mk : α → Val) : Rd := fun st => do
  let (a, st1) ← prim st
  pure (mk a, st1)

/-- `CHECK(reader->NextArrayItem())` (`more = true`) / `CHECK(!reader->NextArrayItem())` -/
def expectItem (more : Bool) (st : RState) : Except Err RState := do
  let (b, st1) ← nextArrayItem st
  if b = more then pure st1 else .error .check

/-- `PairHandler::Read` and `Handler<any>::Read` (second reader chosen by the first value: `type_map_.find(name)`) -/
def pairRd {α : Type} (ra : RState → Except Err (α × RState)) (rb : α → Option Rd) (mk : α → Val → Val) : Rd :=
  fun st => do
  let st0 ← rBegin rOpenArr st
  let st1 ← expectItem true st0
  let (x, st2) ← ra st1
  let some rd := rb x | .error .check
  let st3 ← expectItem true st2
  let (y, st4) ← rd st3
  let st5 ← expectItem false st4
  pure (mk x y, st5)

/-- the `while (reader->Next…Item(&key))` loop of a container handler; the items in reading order -/
def itemLoop {κ α : Type} (next : RState → Except Err (Option κ × RState))
    (item : κ → RState → Except Err (α × RState)) : Nat → RState → Except Err (List α × RState)
  | 0, _ => .error .fuel
  | fuel + 1, st => do
    let (k?, st1) ← next st
    let some k := k? | pure ([], st1)
    let (x, st2) ← item k st1
    let (xs, st3) ← itemLoop next item fuel st2
    pure (x :: xs, st3)

def seqRd {κ α : Type} (opn : RState → Except Err RState) (next : RState → Except Err (Option κ × RState))
    (item : κ → RState → Except Err (α × RState)) (fin : List α → Option Val) : Rd := fun st => do
  let st0 ← opn st
  let (xs, st1) ← itemLoop next item (st0.inp.length + 1) st0
  let some v := fin xs | .error .check
  pure (v, st1)

def arrNext (st : RState) : Except Err (Option Unit × RState) := do
  let (more, st1) ← nextArrayItem st
  pure (if more then some () else none, st1)

def memberRd (look : Bytes → Option Rd) (key : Bytes) (st : RState) : Except Err ((Bytes × Val) × RState) := do
  let some rd := look key | .error .check
  let (v, st1) ← rd st
  pure ((key, v), st1)

/-- `ArrayHandler::Read` -/
def arrRd (rd : Rd) : Rd := seqRd (rBegin rOpenArr) arrNext (fun _ => rd) fun vs => some (.arr vs)

/-- `MapHandler::Read` -/
def objRd (rd : Rd) : Rd :=
  seqRd (rBegin rOpenObj) nextObjectItem (memberRd fun _ => some rd) fun kvs => some (.obj (mapOfList kvs))

def slotOf (look : Bytes → Option (Nat × Rd)) (key : Bytes) : Nat :=
  match look key with
  | some (i, _) => i
  | none => 0

/-- `(*slot_i) = value` for the fields read -/
def fillSlots (look : Bytes → Option (Nat × Rd)) (slots : List (Option Val)) (kvs : List (Bytes × Val)) :
    List (Option Val) :=
  kvs.foldl (fun sl kv => setSlot sl (slotOf look kv.1) kv.2) slots

/-- `Load` through `JSONObjectReadHelper`; `fin`: the check for missing fields -/
def clsRd (look : Bytes → Option (Nat × Rd)) (n : Nat) (fin : List (Option Val) → Option (List Val)) : Rd :=
  seqRd (rBegin rOpenObj) nextObjectItem (memberRd fun key => (look key).map (·.2)) fun kvs =>
    (fin (fillSlots look (List.replicate n none) kvs)).map .cls

/-! The equations below walk through the `match`es of the model (`split`) and rewrite the other side with the case
equation; the `do` blocks are flattened first (`bind_assoc`), so that both sides test the same terms. -/

theorem arrayLoop_eq (rd : Rd) : ∀ fuel st, arrayLoop rd fuel st = itemLoop arrNext (fun _ => rd) fuel st
  | 0, _ => rfl
  | fuel + 1, st => by
    rw [arrayLoop, itemLoop]
    simp only [arrNext, arrayLoop_eq rd fuel, bind_assoc, pure_bind]
    simp only [bind, Except.bind, pure, Except.pure]
    repeat' (split <;> simp only [*, ↓reduceIte, Bool.false_eq_true])

theorem objectLoop_eq (rd : Rd) : ∀ fuel st,
    objectLoop rd fuel st = itemLoop nextObjectItem (memberRd fun _ => some rd) fuel st
  | 0, _ => rfl
  | fuel + 1, st => by
    rw [objectLoop, itemLoop]
    simp only [memberRd, objectLoop_eq rd fuel, bind_assoc, pure_bind]
    simp only [bind, Except.bind, pure, Except.pure]
    repeat' (split <;> simp only [*])

theorem fieldLoop_eq (look : Bytes → Option (Nat × Rd)) : ∀ fuel st slots, fieldLoop look fuel st slots = (do
    let (kvs, st1) ← itemLoop nextObjectItem (memberRd fun key => (look key).map (·.2)) fuel st
    pure (fillSlots look slots kvs, st1))
  | 0, _, _ => rfl
  | fuel + 1, st, slots => by
    rw [fieldLoop, itemLoop]
    simp only [memberRd, fieldLoop_eq look fuel, bind_assoc]
    simp only [bind, Except.bind, pure, Except.pure]
    -- `setSlot slots i v` for `look key = some (i, _)` is the first `foldl` step of `fillSlots look slots ((key, v) :: _)`
    repeat' (split <;> simp_all [fillSlots, slotOf])

theorem read_str_eq : read .str = primRd readString .str := by
  funext st
  rw [read, primRd]
  cases readString st <;> rfl

theorem read_int_eq (bits : Nat) (sg : Bool) : read (.int bits sg) = primRd (readNumber bits sg) .int := by
  funext st
  rw [read, primRd]
  cases readNumber bits sg st <;> rfl

theorem read_bool_eq : read .bool = primRd readBool .bool := by
  funext st
  rw [read, primRd]
  cases readBool st <;> rfl

theorem read_pair_eq (a b : JTy) : read (.pair a b) = pairRd (read a) (fun _ => some (read b)) .pair := by
  funext st
  rw [read, rBeginArray_eq]
  simp only [pairRd, expectItem, bind, Except.bind, pure, Except.pure]
  repeat' (split <;> simp only [*, ↓reduceIte, Bool.false_eq_true, Bool.true_eq_false])

theorem read_vec_eq (e : JTy) : read (.vec e) = arrRd (read e) := by
  funext st
  rw [read, rBeginArray_eq]
  simp only [arrRd, seqRd, arrayLoop_eq, bind, Except.bind, pure, Except.pure]
  repeat' (split <;> simp only [*])

theorem read_list_eq (e : JTy) : read (.list e) = arrRd (read e) := by
  rw [← read_vec_eq]
  funext st
  rw [read, read]

theorem read_map_eq (e : JTy) : read (.map e) = objRd (read e) := by
  funext st
  rw [read, rBeginObject_eq]
  simp only [objRd, seqRd, objectLoop_eq, bind, Except.bind, pure, Except.pure]
  repeat' (split <;> simp only [*])

theorem read_umap_eq (e : JTy) : read (.umap e) = objRd (read e) := by
  rw [← read_map_eq]
  funext st
  rw [read, read]

theorem read_any_eq (alts : Alts) : read (.any alts) = pairRd readString (readAlt alts) .any := by
  funext st
  rw [read, rBeginArray_eq]
  simp only [pairRd, expectItem, bind, Except.bind, pure, Except.pure]
  repeat' (split <;> simp only [*, ↓reduceIte, Bool.false_eq_true, Bool.true_eq_false])

theorem read_cls_eq (pod : Bool) (fs : Fields) :
    read (.cls pod fs) = clsRd (fun key => readField fs key 0) fs.length (finishFields fs) := by
  funext st
  rw [read, rBeginObject_eq]
  simp only [clsRd, seqRd, fieldLoop_eq, bind, Except.bind, pure, Except.pure]
  rcases rBegin rOpenObj st with e | st0 <;> dsimp only
  rcases itemLoop _ _ _ st0 with e | ⟨kvs, st1⟩ <;> dsimp only
  cases finishFields fs _ <;> rfl

end DmlcModel.Json
