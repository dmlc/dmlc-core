/-
Lemmas about the libstdc++ formatted-integer I/O model: `render` / `extract` round trip, progress of `extract`.
-/
import DmlcModel.Json.IStreamInt
import DmlcModel.BasicLemmas

namespace DmlcModel.IStreamInt
open DmlcModel

theorem digitByte_facts : ∀ d, d < 10 →
    (isDigit (digitByte d) = true ∧ digitVal (digitByte d) = d ∧ (d ≠ 0 → digitByte d ≠ 48)) := by
  decide

/-- a fact about every byte follows from its 256 instances (which `decide` can check) -/
theorem byte_sweep {P : UInt8 → Prop} (h : ∀ n, n < 256 → P (UInt8.ofNat n)) (c : UInt8) : P c := by
  have := h c.toNat c.toNat_lt
  rwa [UInt8.ofNat_toNat] at this

theorem isDigit_facts : ∀ c, isDigit c = true → isSpace c = false ∧ c ≠ 45 ∧ c ≠ 43 :=
  byte_sweep (by decide +kernel)

theorem natDigitsAux_eq (n : Nat) : ∀ fuel acc, n < fuel → natDigitsAux fuel n acc = natDigits n ++ acc := by
  induction n using Nat.strongRecOn with
  | ind n ih =>
    intro fuel acc h
    obtain ⟨fuel, rfl⟩ : ∃ f, fuel = f + 1 := ⟨fuel - 1, by omega⟩
    simp only [natDigits, natDigitsAux]
    split
    · rfl
    · rw [ih (n / 10) (by omega) fuel _ (by omega), ih (n / 10) (by omega) n _ (by omega), List.append_assoc]
      rfl

theorem natDigits_unfold (n : Nat) :
    natDigits n = if n < 10 then [digitByte n] else natDigits (n / 10) ++ [digitByte (n % 10)] := by
  show natDigitsAux (n + 1) n [] = _
  rw [natDigitsAux]
  split
  · rfl
  · exact natDigitsAux_eq _ _ _ (by omega)

/-- induction along the digits of a rendered number, most significant first -/
theorem natDigits_induction {P : Nat → Bytes → Prop} (base : ∀ d, d < 10 → P d [digitByte d])
    (step : ∀ n d, n ≠ 0 → d < 10 → P n (natDigits n) → P (n * 10 + d) (natDigits n ++ [digitByte d])) :
    ∀ n, P n (natDigits n) := by
  intro n
  induction n using Nat.strongRecOn with
  | ind n ih =>
    rw [natDigits_unfold]
    split
    · exact base n ‹_›
    · have := step (n / 10) (n % 10) (by omega) (by omega) (ih _ (by omega))
      rwa [Nat.div_add_mod' n 10] at this

theorem natDigits_ne_nil (n : Nat) : natDigits n ≠ [] :=
  natDigits_induction (P := fun _ ds => ds ≠ []) (fun _ _ => by simp) (fun _ _ _ _ _ => by simp) n

theorem natDigits_all_digit (n : Nat) : ∀ c ∈ natDigits n, isDigit c = true :=
  natDigits_induction (P := fun _ ds => ∀ c ∈ ds, isDigit c = true)
    (fun d hd c hc => by rw [List.mem_singleton.mp hc]; exact (digitByte_facts d hd).1)
    (fun n d _ hd ih c hc => by
      rcases List.mem_append.mp hc with hc | hc
      · exact ih c hc
      · rw [List.mem_singleton.mp hc]; exact (digitByte_facts d hd).1) n

theorem digitsVal_snoc (ds : Bytes) (c : UInt8) :
    digitsVal (ds ++ [c]) = digitsVal ds * 10 + digitVal c := by
  simp [digitsVal, List.foldl_append]

theorem digitsVal_natDigits (n : Nat) : digitsVal (natDigits n) = n :=
  natDigits_induction (P := fun n ds => digitsVal ds = n)
    (fun d hd => by simp [digitsVal, (digitByte_facts d hd).2.1])
    (fun n d _ hd ih => by rw [digitsVal_snoc, ih, (digitByte_facts d hd).2.1]) n

theorem natDigits_head_ne_zero (n : Nat) (h : n ≠ 0) : ∃ c cs, natDigits n = c :: cs ∧ c ≠ 48 :=
  natDigits_induction (P := fun n ds => n ≠ 0 → ∃ c cs, ds = c :: cs ∧ c ≠ 48)
    (fun d hd h => ⟨_, [], rfl, (digitByte_facts d hd).2.2 h⟩)
    (fun n d hn _ ih _ => by
      obtain ⟨c, cs, hcs, hc⟩ := ih hn
      exact ⟨c, cs ++ [digitByte d], by rw [hcs]; rfl, hc⟩) n h

theorem natDigits_head_digit (n : Nat) : ∃ c cs, natDigits n = c :: cs ∧ isDigit c = true := by
  cases hnd : natDigits n with
  | nil => exact absurd hnd (natDigits_ne_nil n)
  | cons c cs => exact ⟨c, cs, rfl, natDigits_all_digit n c (by simp [hnd])⟩

theorem skipSpace_eq : ∀ s, skipSpace s = s.dropWhile isSpace
  | [] => rfl
  | c :: cs => by by_cases h : isSpace c = true <;> simp [skipSpace, List.dropWhile, h, skipSpace_eq cs]

theorem takeDigits_eq : ∀ s, takeDigits s = (s.takeWhile isDigit, s.dropWhile isDigit)
  | [] => rfl
  | c :: cs => by by_cases h : isDigit c = true <;> simp [takeDigits, h, takeDigits_eq cs]

theorem startsWithDigit_iff (s : Bytes) : startsWithDigit s = false ↔ ∀ y ∈ s.head?, isDigit y = false := by
  cases s <;> simp [startsWithDigit]

theorem takeDigits_append (ds rest : Bytes) (hd : ∀ c ∈ ds, isDigit c = true)
    (hr : startsWithDigit rest = false) : takeDigits (ds ++ rest) = (ds, rest) := by
  have h := scan_append_stop _ ds rest hd ((startsWithDigit_iff _).mp hr)
  rw [takeDigits_eq, h.1, h.2]

theorem skipSpace_append (ws rest : Bytes) (hws : ∀ c ∈ ws, isSpace c = true)
    (hr : ∀ c cs, rest = c :: cs → isSpace c = false) : skipSpace (ws ++ rest) = rest := by
  rw [skipSpace_eq]
  exact (scan_append_stop _ ws rest hws (by cases rest <;> simp_all)).1

theorem skipSpace_length_le (s : Bytes) : (skipSpace s).length ≤ s.length := by
  rw [skipSpace_eq]
  exact (List.dropWhile_sublist _).length_le

theorem takeDigits_length (s : Bytes) : (takeDigits s).1.length + (takeDigits s).2.length = s.length := by
  rw [takeDigits_eq, ← List.length_append, List.takeWhile_append_dropWhile]

theorem render_ne_nil (v : Int) : render v ≠ [] := by
  unfold render
  split
  · simp
  · exact natDigits_ne_nil _

theorem render_eq (v : Int) : render v = (if v < 0 then [45] else []) ++ natDigits v.natAbs := by
  unfold render
  by_cases h : v < 0
  · simp [h]
  · have : v.toNat = v.natAbs := by omega
    simp [h, this]

theorem renderBool_eq (b : Bool) : renderBool b = render (if b then 1 else 0) := by cases b <;> decide

theorem extract_digits (t : IntTy) (neg : Bool) (ws ds rest : Bytes) (hws : ∀ c ∈ ws, isSpace c = true)
    (hne : ds ≠ []) (hd : ∀ c ∈ ds, isDigit c = true) (hr : startsWithDigit rest = false) :
    extract t (ws ++ ((if neg then [45] else []) ++ ds ++ rest)) =
      if t.limit neg < digitsVal ds then ⟨some (if t.signed && neg then t.minVal else t.maxVal), true, rest⟩
      else if neg then
        ⟨some (if t.signed then -(digitsVal ds : Int) else (((2 ^ t.bits - digitsVal ds) % 2 ^ t.bits : Nat) : Int)),
          false, rest⟩
      else ⟨some (digitsVal ds : Int), false, rest⟩ := by
  obtain ⟨c, cs, rfl⟩ := List.exists_cons_of_ne_nil hne
  have hc := isDigit_facts c (hd c (by simp))
  have htd : takeDigits (c :: (cs ++ rest)) = (c :: cs, rest) := takeDigits_append (c :: cs) rest hd hr
  unfold extract
  cases neg
  · rw [skipSpace_append ws _ hws (fun c' _ h => by cases h; exact hc.1)]
    simp [hc.2.2, htd, beq_eq_false_iff_ne.mpr hc.2.1]
  · rw [skipSpace_append ws _ hws (fun c' _ h => by cases h; decide)]
    simp [htd]

theorem two_pow_cast (k : Nat) : (2 : Int) ^ k = ((2 ^ k : Nat) : Int) := by
  simp [Int.natCast_pow]

theorem extract_render (t : IntTy) (v : Int) (hv : t.inRange v = true) (ws rest : Bytes)
    (hws : ∀ c ∈ ws, isSpace c = true) (hr : startsWithDigit rest = false) :
    extract t (ws ++ render v ++ rest) = ⟨some v, false, rest⟩ := by
  have h := extract_digits t (decide (v < 0)) ws _ rest hws (natDigits_ne_nil v.natAbs) (natDigits_all_digit _) hr
  simp only [digitsVal_natDigits, decide_eq_true_eq, ← render_eq] at h
  rw [List.append_assoc, h]
  simp only [IntTy.inRange, IntTy.minVal, IntTy.maxVal, Bool.and_eq_true, decide_eq_true_eq, two_pow_cast] at hv
  have hP : 0 < 2 ^ (t.bits - 1) := Nat.two_pow_pos _
  have hQ : 0 < 2 ^ t.bits := Nat.two_pow_pos _
  simp only [IntTy.limit, IntTy.minVal, IntTy.maxVal]
  obtain ⟨bits, sg⟩ := t
  -- by signedness and sign: a value in range has a magnitude within `limit`, so no clamping (`if_neg`), and
  -- the sign put back on `natAbs` gives `v`; a negative value of an unsigned type is not in range
  cases sg <;> by_cases hneg : v < 0 <;>
    simp only [hneg, decide_true, decide_false, Bool.false_eq_true, if_false, if_true, Bool.and_true,
      Bool.and_false] at hv ⊢
  · omega
  · rw [if_neg (by omega), show (v.natAbs : Int) = v by omega]
  · rw [if_neg (by omega), show -(v.natAbs : Int) = v by omega]
  · rw [if_neg (by omega), show (v.natAbs : Int) = v by omega]

theorem extract_rest (t : IntTy) (s : Bytes) :
    (extract t s).rest.length + (if (extract t s).fail then 0 else 1) ≤ s.length := by
  have h1 := skipSpace_length_le s
  unfold extract
  split
  · simp
  · rename_i c cs hs
    have h0 : (if c == 45 || c == 43 then cs else c :: cs).length ≤ cs.length + 1 := by split <;> simp
    have h2 := takeDigits_length (if c == 45 || c == 43 then cs else c :: cs)
    simp only []
    generalize (if c == 45 || c == 43 then cs else c :: cs) = body at *
    rw [hs, List.length_cons] at h1
    -- `c :: cs` is what the sentry left, `body` what follows the sign: digits and rest add up to `body`, so
    -- with no digit (failbit) nothing is given back, and with one digit at least a byte is gone
    cases hd : (takeDigits body).1 with
    | nil => simp; omega
    | cons d ds =>
      rw [hd, List.length_cons] at h2
      simp only [List.isEmpty_cons, Bool.false_eq_true, if_false]
      split
      · simp; omega
      · split <;> simp <;> omega

theorem extract_ok_consumes (t : IntTy) (s : Bytes) (h : (extract t s).fail = false) :
    (extract t s).rest.length < s.length := by
  have := extract_rest t s
  rw [h] at this
  exact this

theorem extractBool_rest (s : Bytes) : (extractBool s).rest = (extract ⟨64, true⟩ s).rest := by
  unfold extractBool
  simp only []
  split
  · rfl
  · split
    · rfl
    · split <;> rfl

theorem extractBool_fail (s : Bytes) (h : (extractBool s).fail = false) :
    (extract ⟨64, true⟩ s).fail = false := by
  unfold extractBool at h
  simp only [] at h
  split at h
  · exact h
  · split at h
    · exact h
    · split at h
      · exact h
      · simp at h

theorem extractBool_renderBool (b : Bool) (ws rest : Bytes) (hws : ∀ c ∈ ws, isSpace c = true)
    (hr : startsWithDigit rest = false) :
    extractBool (ws ++ renderBool b ++ rest) = ⟨some b, false, rest⟩ := by
  have hin : IntTy.inRange ⟨64, true⟩ (if b then 1 else 0) = true := by cases b <;> decide
  have := extract_render ⟨64, true⟩ (if b then 1 else 0) hin ws rest hws hr
  unfold extractBool
  rw [renderBool_eq, this]
  cases b <;> simp

theorem extractBool_rest_length (s : Bytes) : (extractBool s).rest.length ≤ s.length := by
  rw [extractBool_rest]
  exact Nat.le_of_add_right_le (extract_rest _ s)

theorem extractBool_ok_consumes (s : Bytes) (h : (extractBool s).fail = false) :
    (extractBool s).rest.length < s.length := by
  rw [extractBool_rest]
  exact extract_ok_consumes _ s (extractBool_fail s h)

-- "-1" read into `unsigned` wraps without failbit
example : extract ⟨32, false⟩ [45, 49] = ⟨some 4294967295, false, []⟩ := by decide
-- "32768" into `short`: failbit, clamped to max
example : extract ⟨16, true⟩ [51, 50, 55, 54, 56] = ⟨some 32767, true, []⟩ := by decide
-- " -32768," into `short`
example : extract ⟨16, true⟩ [32, 45, 51, 50, 55, 54, 56, 44] = ⟨some (-32768), false, [44]⟩ := by decide
-- "-32769" into `short`: failbit, clamped to min
example : extract ⟨16, true⟩ [45, 51, 50, 55, 54, 57] = ⟨some (-32768), true, []⟩ := by decide
-- only white space: sentry fails, variable untouched
example : extract ⟨32, true⟩ [32, 9, 10] = ⟨none, true, []⟩ := by decide
-- no digit: failbit, value 0
example : extract ⟨32, true⟩ [120] = ⟨some 0, true, [120]⟩ := by decide
example : render (-120) = [45, 49, 50, 48] := by decide
example : render 0 = [48] := by decide
example : extractBool [50] = ⟨some true, true, []⟩ := by decide
example : extractBool [32, 49, 44] = ⟨some true, false, [44]⟩ := by decide

end DmlcModel.IStreamInt
