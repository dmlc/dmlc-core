/-
Well-formed output: the independent RFC 8259 recogniser `Rfc.value` accepts `enc t v ml` and consumes exactly
that text, when strings, keys and schema names hold no control character other than TAB, LF, CR.
-/
import DmlcModel.Json.Layout
import DmlcModel.Json.Typed

namespace DmlcModel.Json
open DmlcModel DmlcModel.Gen.Json

def numStop (c : UInt8) : Bool := !IStreamInt.isDigit c && c != 46 && c != 101 && c != 69

/-- the rest cannot extend a number token (digit, `.`, `e`, `E`) -/
def NumEnd (rest : Bytes) : Prop :=
  ∀ c cs, rest = c :: cs → IStreamInt.isDigit c = false ∧ c ≠ 46 ∧ c ≠ 101 ∧ c ≠ 69

theorem NumEnd.nil : NumEnd [] := by
  intro c cs h; cases h

theorem NumEnd.cons {c : UInt8} (cs : Bytes) (h : numStop c = true) : NumEnd (c :: cs) := by
  intro c' cs' h'
  cases h'
  simpa [numStop, and_assoc] using h

theorem isWs_facts : ∀ c, Rfc.isWs c = true →
    numStop c = true ∧ c ≠ 93 ∧ c ≠ 125 ∧ c ≠ 44 ∧ c ≠ 58 ∧ c ≠ 34 :=
  IStreamInt.byte_sweep (by decide +kernel)

theorem numStart_facts : ∀ c, (c == 45 || IStreamInt.isDigit c) = true →
    c ≠ 34 ∧ c ≠ 91 ∧ c ≠ 123 ∧ c ≠ 116 ∧ c ≠ 102 ∧ c ≠ 110 :=
  IStreamInt.byte_sweep (by decide +kernel)

theorem NumEnd.ws_append (ws : Bytes) (c : UInt8) (cs : Bytes) (hws : ∀ w ∈ ws, Rfc.isWs w = true)
    (h : numStop c = true) : NumEnd (ws ++ c :: cs) := by
  cases ws with
  | nil => exact NumEnd.cons cs h
  | cons w ws => exact NumEnd.cons _ (isWs_facts w (hws w (by simp))).1

theorem skipWs_eq : ∀ s, Rfc.skipWs s = s.dropWhile Rfc.isWs
  | [] => rfl
  | c :: cs => by by_cases h : Rfc.isWs c = true <;> simp [Rfc.skipWs, List.dropWhile, h, skipWs_eq cs]

theorem skipWs_ws (ws s : Bytes) (h : ∀ c ∈ ws, Rfc.isWs c = true) :
    Rfc.skipWs (ws ++ s) = Rfc.skipWs s := by
  rw [skipWs_eq, skipWs_eq, List.dropWhile_append_of_pos h]

theorem skipWs_cons (c : UInt8) (cs : Bytes) (h : Rfc.isWs c = false) : Rfc.skipWs (c :: cs) = c :: cs := by
  simp [Rfc.skipWs, h]

theorem skipWs_sepBytes (ml : List Bool) (s : Bytes) : Rfc.skipWs (sepBytes ml ++ s) = Rfc.skipWs s :=
  skipWs_ws _ _ (sepBytes_ws ml)

def Starts (s : Bytes) : Prop := ∃ c cs, s = c :: cs ∧ Rfc.isWs c = false ∧ c ≠ 93 ∧ c ≠ 125

theorem Starts.skipWs {s : Bytes} (h : Starts s) (t : Bytes) : Rfc.skipWs (s ++ t) = s ++ t := by
  obtain ⟨c, cs, rfl, hw, _, _⟩ := h
  exact skipWs_cons c _ hw

def Good (b : Bytes) : Prop :=
  ∀ (rest : Bytes) (fuel : Nat), b.length < fuel → NumEnd rest → Rfc.value fuel (b ++ rest) = some rest

theorem string_esc (e : UInt8) (cs : Bytes)
    (h : (e == 34 || e == 92 || e == 47 || e == 98 || e == 102 || e == 110 || e == 114 || e == 116) = true) :
    Rfc.string (92 :: e :: cs) = Rfc.string cs := by
  rw [Rfc.string.eq_def]
  simp only [h, if_true]

theorem string_plain (c : UInt8) (cs : Bytes) (h34 : c ≠ 34) (h92 : c ≠ 92) (h32 : ¬ c < 32) :
    Rfc.string (c :: cs) = Rfc.string cs := by
  rw [Rfc.string.eq_def]
  split
  · rename_i heq; cases heq
  · rename_i heq; cases heq; exact absurd rfl h34
  · rename_i heq; cases heq; exact absurd rfl h92
  · rename_i heq; cases heq; simp [h32, h92]

theorem string_escape_byte (c : UInt8) (hc : (32 ≤ c || c == 9 || c == 10 || c == 13) = true) (tail : Bytes) :
    Rfc.string (escape c ++ tail) = Rfc.string tail := by
  rcases escape_cases c with ⟨he, _, _, _, h34, h92, h32⟩ | ⟨e, hmem, he, _⟩
  · rw [he]
    exact string_plain c tail h34 h92 (h32 hc)
  · rw [he]
    exact string_esc e tail ((by decide : ∀ e ∈ [(114 : UInt8), 110, 92, 116, 34],
      (e == 34 || e == 92 || e == 47 || e == 98 || e == 102 || e == 110 || e == 114 || e == 116) = true) e hmem)

theorem string_escape (s : Bytes) (hc : cleanStr s = true) (rest : Bytes) :
    Rfc.string (s.flatMap escape ++ 34 :: rest) = some rest := by
  induction s with
  | nil =>
    rw [List.flatMap_nil, List.nil_append, Rfc.string.eq_def]
    rfl
  | cons c s ih =>
    simp only [cleanStr, List.all_cons, Bool.and_eq_true] at hc
    rw [List.flatMap_cons, List.append_assoc, string_escape_byte c hc.1]
    exact ih (by simpa [cleanStr] using hc.2)

theorem good_encString (s : Bytes) (hc : cleanStr s = true) : Good (encString s) := by
  intro rest fuel hf _
  cases fuel with
  | zero => omega
  | succ f =>
    rw [encString_eq]
    simp only [List.cons_append, List.append_assoc, List.nil_append]
    simp only [Rfc.value]
    simp [string_escape s hc rest]

theorem digits_eq : ∀ s, Rfc.digits s = s.dropWhile Rfc.isDigit
  | [] => rfl
  | c :: cs => by by_cases h : Rfc.isDigit c = true <;> simp [Rfc.digits, List.dropWhile, h, digits_eq cs]

theorem digits_append (ds rest : Bytes) (hd : ∀ c ∈ ds, IStreamInt.isDigit c = true) (hr : NumEnd rest) :
    Rfc.digits (ds ++ rest) = rest := by
  rw [digits_eq]
  exact (scan_append_stop _ ds rest hd (by cases rest <;> simp_all [NumEnd])).1

/-! `Rfc.number` cut into its four stages -/

def stripMinus (s : Bytes) : Bytes :=
  match s with
  | 45 :: r => r
  | _ => s
def afterInt (s1 : Bytes) : Option Bytes :=
  match s1 with
  | 48 :: r => some r
  | c :: r => if Rfc.isDigit c then some (Rfc.digits r) else none
  | [] => none
def afterFrac (s2 : Bytes) : Option Bytes :=
  match s2 with
  | 46 :: c :: r => if Rfc.isDigit c then some (Rfc.digits r) else none
  | 46 :: [] => none
  | _ => some s2
def afterExp (s3 : Bytes) : Option Bytes :=
  match s3 with
  | e :: r =>
    if e == 101 || e == 69 then
      let r1 := match r with
        | 43 :: r' => r'
        | 45 :: r' => r'
        | _ => r
      match r1 with
      | c :: r2 => if Rfc.isDigit c then some (Rfc.digits r2) else none
      | [] => none
    else some s3
  | [] => some s3

theorem number_eq (s : Bytes) : Rfc.number s =
    match afterInt (stripMinus s) with
    | none => none
    | some s2 =>
      match afterFrac s2 with
      | none => none
      | some s3 => afterExp s3 := by
  rfl

theorem stripMinus_ne (c : UInt8) (r : Bytes) (h : c ≠ 45) : stripMinus (c :: r) = c :: r := by
  unfold stripMinus
  split
  · rename_i heq; cases heq; exact absurd rfl h
  · rfl

theorem afterInt_ne (c : UInt8) (r : Bytes) (h : c ≠ 48) (hd : Rfc.isDigit c = true) :
    afterInt (c :: r) = some (Rfc.digits r) := by
  unfold afterInt
  split
  · rename_i heq; cases heq; exact absurd rfl h
  · rename_i heq; cases heq; simp [hd]
  · rename_i heq; cases heq

theorem afterFrac_end (rest : Bytes) (h : NumEnd rest) : afterFrac rest = some rest := by
  unfold afterFrac
  split
  · exact absurd rfl (h _ _ rfl).2.1
  · exact absurd rfl (h _ _ rfl).2.1
  · rfl

theorem afterExp_end (rest : Bytes) (h : NumEnd rest) : afterExp rest = some rest := by
  cases rest with
  | nil => rfl
  | cons e r =>
    obtain ⟨_, _, h1, h2⟩ := h e r rfl
    simp [afterExp, h1, h2]

theorem closer_facts : ∀ c : UInt8, (Rfc.isWs c || c == 93 || c == 125) = true →
    c ≠ 34 ∧ c ≠ 91 ∧ c ≠ 123 ∧ c ≠ 116 ∧ c ≠ 102 ∧ c ≠ 110 ∧ c ≠ 45 ∧ Rfc.isDigit c = false :=
  IStreamInt.byte_sweep (by decide +kernel)

theorem number_none (c : UInt8) (cs : Bytes) (h45 : c ≠ 45) (hd : Rfc.isDigit c = false) :
    Rfc.number (c :: cs) = none := by
  have : afterInt (c :: cs) = none := by
    unfold afterInt
    split
    · rename_i heq; cases heq; cases hd
    · rename_i heq; cases heq; simp [hd]
    · rfl
  rw [number_eq, stripMinus_ne _ _ h45, this]

theorem value_head (fuel : Nat) (s r : Bytes) (h : Rfc.value fuel s = some r) : Starts s := by
  cases fuel with
  | zero => simp [Rfc.value] at h
  | succ f =>
    cases s with
    | nil => simp [Rfc.value] at h
    | cons c cs =>
      refine ⟨c, cs, rfl, ?_⟩
      by_cases hb : (Rfc.isWs c || c == 93 || c == 125) = true
      · obtain ⟨h1, h2, h3, h4, h5, h6, h7, h8⟩ := closer_facts c hb
        simp [Rfc.value, h1, h2, h3, h4, h5, h6, number_none c cs h7 h8] at h
      · simpa [not_or, and_assoc] using hb

theorem Good.starts {b : Bytes} (h : Good b) : Starts b := by
  have := h [] (b.length + 1) (by omega) NumEnd.nil
  rw [List.append_nil] at this
  exact value_head _ _ _ this

/-- a digit string without a superfluous leading zero is a number -/
theorem number_nat (ds rest : Bytes) (hne : ds ≠ []) (hd : ∀ c ∈ ds, IStreamInt.isDigit c = true)
    (hz : ∀ c cs, ds = c :: cs → c = 48 → cs = []) (hr : NumEnd rest) :
    Rfc.number (ds ++ rest) = some rest := by
  cases ds with
  | nil => exact absurd rfl hne
  | cons c cs =>
    -- `Rfc.isDigit` and `IStreamInt.isDigit` are the same test, by definition
    have hc : Rfc.isDigit c = true := hd c (by simp)
    have hc45 : c ≠ 45 := (IStreamInt.isDigit_facts c hc).2.1
    have hcs : ∀ x ∈ cs, IStreamInt.isDigit x = true := fun x hx => hd x (by simp [hx])
    have hdig := digits_append cs rest hcs hr
    rw [number_eq, List.cons_append, stripMinus_ne _ _ hc45]
    by_cases h48 : c = 48
    · subst h48
      have := hz 48 cs rfl rfl
      subst this
      simp [afterInt, afterFrac_end rest hr, afterExp_end rest hr]
    · rw [afterInt_ne _ _ h48 hc, hdig]
      simp [afterFrac_end rest hr, afterExp_end rest hr]

theorem number_minus (c : UInt8) (cs : Bytes) (hc : c ≠ 45) :
    Rfc.number (45 :: c :: cs) = Rfc.number (c :: cs) := by
  rw [number_eq, number_eq, stripMinus_ne _ _ hc]
  rfl

theorem number_natDigits (n : Nat) (rest : Bytes) (hr : NumEnd rest) :
    Rfc.number (IStreamInt.natDigits n ++ rest) = some rest := by
  apply number_nat _ _ (IStreamInt.natDigits_ne_nil n) (IStreamInt.natDigits_all_digit n) _ hr
  intro c cs hcs h48
  by_cases hn : n = 0
  · subst hn
    rw [show IStreamInt.natDigits 0 = [48] from by decide] at hcs
    cases hcs; rfl
  · obtain ⟨c', cs', hcs', hc'⟩ := IStreamInt.natDigits_head_ne_zero n hn
    rw [hcs'] at hcs
    cases hcs
    exact absurd h48 hc'

theorem number_render (i : Int) (rest : Bytes) (hr : NumEnd rest) :
    Rfc.number (IStreamInt.render i ++ rest) = some rest := by
  rw [IStreamInt.render_eq]
  by_cases h : i < 0
  · simp only [h, if_true, List.cons_append, List.nil_append]
    obtain ⟨c, cs, hcs, hc⟩ := IStreamInt.natDigits_head_digit i.natAbs
    have hc45 : c ≠ 45 := (IStreamInt.isDigit_facts c hc).2.1
    have := number_natDigits i.natAbs rest hr
    rw [hcs, List.cons_append] at this ⊢
    rw [number_minus c _ hc45]
    exact this
  · simp only [h, if_false, List.nil_append]
    exact number_natDigits _ rest hr

theorem value_number (fuel : Nat) (c : UInt8) (cs : Bytes) (h : c = 45 ∨ IStreamInt.isDigit c = true) :
    Rfc.value (fuel + 1) (c :: cs) = Rfc.number (c :: cs) := by
  simp [Rfc.value, numStart_facts c (by simpa using h)]

theorem good_number (b : Bytes) (hb : ∃ c cs, b = c :: cs ∧ (c = 45 ∨ IStreamInt.isDigit c = true))
    (hn : ∀ rest, NumEnd rest → Rfc.number (b ++ rest) = some rest) : Good b := by
  intro rest fuel hf hr
  obtain ⟨c, cs, rfl, hc⟩ := hb
  cases fuel with
  | zero => omega
  | succ f =>
    rw [List.cons_append, value_number f c _ hc]
    exact hn rest hr

theorem good_render (i : Int) : Good (IStreamInt.render i) := by
  apply good_number _ _ (fun rest hr => number_render i rest hr)
  rw [IStreamInt.render_eq]
  by_cases h : i < 0
  · exact ⟨45, IStreamInt.natDigits i.natAbs, by simp [h], Or.inl rfl⟩
  · obtain ⟨c, cs, hcs, hc⟩ := IStreamInt.natDigits_head_digit i.natAbs
    exact ⟨c, cs, by simp [h, hcs], Or.inr hc⟩

theorem good_renderBool (b : Bool) : Good (IStreamInt.renderBool b) := by
  rw [IStreamInt.renderBool_eq]
  exact good_render _

theorem value_arr_empty (f : Nat) (cs r : Bytes) (h : Rfc.skipWs cs = 93 :: r) :
    Rfc.value (f + 1) (91 :: cs) = some r := by
  simp [Rfc.value, h]

theorem value_arr (f : Nat) (cs : Bytes) (h : Starts (Rfc.skipWs cs)) :
    Rfc.value (f + 1) (91 :: cs) = Rfc.elements f (Rfc.skipWs cs) := by
  obtain ⟨c, cs', hcs, _, h93, _⟩ := h
  have : Rfc.value (f + 1) (91 :: cs) =
      match Rfc.skipWs cs with
      | 93 :: r => some r
      | s1 => Rfc.elements f s1 := by simp [Rfc.value]; rfl
  rw [this, hcs]
  split
  · rename_i heq; cases heq; exact absurd rfl h93
  · rfl

theorem value_obj_empty (f : Nat) (cs r : Bytes) (h : Rfc.skipWs cs = 125 :: r) :
    Rfc.value (f + 1) (123 :: cs) = some r := by
  simp [Rfc.value, h]

theorem value_obj (f : Nat) (cs : Bytes) (h : Starts (Rfc.skipWs cs)) :
    Rfc.value (f + 1) (123 :: cs) = Rfc.members f (Rfc.skipWs cs) := by
  obtain ⟨c, cs', hcs, _, _, h125⟩ := h
  have : Rfc.value (f + 1) (123 :: cs) =
      match Rfc.skipWs cs with
      | 125 :: r => some r
      | s1 => Rfc.members f s1 := by simp [Rfc.value]; rfl
  rw [this, hcs]
  split
  · rename_i heq; cases heq; exact absurd rfl h125
  · rfl

theorem elements_close (f : Nat) (s r r' : Bytes) (h1 : Rfc.value f s = some r) (h2 : Rfc.skipWs r = 93 :: r') :
    Rfc.elements (f + 1) s = some r' := by
  simp [Rfc.elements, h1, h2]

theorem elements_comma (f : Nat) (s r r' : Bytes) (h1 : Rfc.value f s = some r) (h2 : Rfc.skipWs r = 44 :: r') :
    Rfc.elements (f + 1) s = Rfc.elements f (Rfc.skipWs r') := by
  simp [Rfc.elements, h1, h2]

theorem members_close (f : Nat) (cs r r1 r2 r' : Bytes) (h1 : Rfc.string cs = some r)
    (h2 : Rfc.skipWs r = 58 :: r1) (h3 : Rfc.value f (Rfc.skipWs r1) = some r2) (h4 : Rfc.skipWs r2 = 125 :: r') :
    Rfc.members (f + 1) (34 :: cs) = some r' := by
  simp [Rfc.members, h1, h2, h3, h4]

theorem members_comma (f : Nat) (cs r r1 r2 r' : Bytes) (h1 : Rfc.string cs = some r)
    (h2 : Rfc.skipWs r = 58 :: r1) (h3 : Rfc.value f (Rfc.skipWs r1) = some r2) (h4 : Rfc.skipWs r2 = 44 :: r') :
    Rfc.members (f + 1) (34 :: cs) = Rfc.members f (Rfc.skipWs r') := by
  simp [Rfc.members, h1, h2, h3, h4]

theorem skipWs_close (ws : Bytes) (c : UInt8) (rest : Bytes) (hws : ∀ w ∈ ws, Rfc.isWs w = true)
    (hc : Rfc.isWs c = false) : Rfc.skipWs (ws ++ c :: rest) = c :: rest := by
  rw [skipWs_ws ws _ hws, skipWs_cons c rest hc]

theorem skipWs_space (s : Bytes) : Rfc.skipWs (32 :: s) = Rfc.skipWs s := by
  simp [Rfc.skipWs, Rfc.isWs]

/-- the two places where an item text `b` can stand for `seq` (`Rfc.elements`, `Rfc.members`): last, or before a
comma -/
structure Item (seq : Nat → Bytes → Option Bytes) (close : UInt8) (b : Bytes) : Prop where
  starts : Starts b
  last : ∀ (f : Nat) (ws rest : Bytes), b.length < f → (∀ w ∈ ws, Rfc.isWs w = true) →
    seq (f + 1) (b ++ (ws ++ close :: rest)) = some rest
  more : ∀ (f : Nat) (X : Bytes), b.length < f → seq (f + 1) (b ++ 44 :: X) = seq f (Rfc.skipWs X)

/-- `b0`: the first of the items left, already positioned at its first byte -/
theorem seq_items {seq : Nat → Bytes → Option Bytes} {close : UInt8} (ml : List Bool) (bs : List Bytes) :
    ∀ (b0 : Bytes) (i fuel : Nat) (ws rest : Bytes), Item seq close b0 → (∀ b ∈ bs, Item seq close b) →
    (∀ w ∈ ws, Rfc.isWs w = true) → b0.length + (itemsB ml (i + 1) bs).length + ws.length + 1 < fuel →
    seq fuel (b0 ++ (itemsB ml (i + 1) bs ++ (ws ++ close :: rest))) = some rest := by
  induction bs with
  | nil =>
    intro b0 i fuel ws rest hb0 _ hws hf
    cases fuel with
    | zero => omega
    | succ f =>
      simp only [itemsB, List.nil_append, List.length_nil] at hf ⊢
      exact hb0.last f ws rest (by omega) hws
  | cons b1 bs ih =>
    intro b0 i fuel ws rest hb0 hbs hws hf
    cases fuel with
    | zero => omega
    | succ f =>
      have hb1 := hbs b1 (by simp)
      have hsep : wArrNeedSep (i + 1) = true := by simp [wArrNeedSep]
      simp only [itemsB, hsep, if_true, arraySep, List.cons_append, List.nil_append, List.append_assoc,
        List.length_cons, List.length_append] at hf ⊢
      rw [hb0.more f _ (by omega), skipWs_space, skipWs_sepBytes, hb1.starts.skipWs]
      exact ih b1 (i + 1) f ws rest hb1 (fun b hb => hbs b (by simp [hb])) hws (by omega)

theorem good_seq {seq : Nat → Bytes → Option Bytes} {opn close : UInt8} (hcl : Rfc.isWs close = false)
    (hempty : ∀ f cs r, Rfc.skipWs cs = close :: r → Rfc.value (f + 1) (opn :: cs) = some r)
    (henter : ∀ f cs, Starts (Rfc.skipWs cs) → Rfc.value (f + 1) (opn :: cs) = seq f (Rfc.skipWs cs))
    (ml : List Bool) (bs : List Bytes) (hbs : ∀ b ∈ bs, Item seq close b) {ct : Bytes}
    (hct : ∃ ws, (∀ w ∈ ws, Rfc.isWs w = true) ∧ ct = ws ++ [close]) : Good ([opn] ++ itemsB ml 0 bs ++ ct) := by
  obtain ⟨ws, hws, rfl⟩ := hct
  intro rest fuel hf _
  cases fuel with
  | zero => omega
  | succ f =>
    cases bs with
    | nil =>
      simp only [itemsB, List.cons_append, List.nil_append, List.append_assoc]
      exact hempty f _ rest (skipWs_close ws close rest hws hcl)
    | cons b0 bs =>
      have hb0 := hbs b0 (by simp)
      have hsep : wArrNeedSep 0 = false := by simp [wArrNeedSep]
      simp only [itemsB, hsep, List.cons_append, List.nil_append, List.append_assoc, List.length_cons,
        List.length_append, List.length_nil, Bool.false_eq_true, if_false] at hf ⊢
      have hskip : ∀ X, Rfc.skipWs (sepBytes ml ++ (b0 ++ X)) = b0 ++ X := fun X => by
        rw [skipWs_sepBytes, hb0.starts.skipWs]
      rw [henter f _ (by
        rw [hskip]
        obtain ⟨c, cs, rfl, h⟩ := hb0.starts
        exact ⟨c, _, rfl, h⟩), hskip]
      exact seq_items ml bs b0 0 f ws rest hb0 (fun b hb => hbs b (by simp [hb])) hws (by omega)

theorem Good.item {b : Bytes} (h : Good b) : Item Rfc.elements 93 b where
  starts := h.starts
  last f ws rest hf hws := elements_close f _ _ rest (h _ f hf (NumEnd.ws_append ws 93 rest hws (by decide)))
    (skipWs_close ws 93 rest hws (by decide))
  more f X hf := elements_comma f _ _ X (h _ f hf (NumEnd.cons _ (by decide))) (skipWs_cons 44 _ (by decide))

theorem good_array (m : Bool) (ml : List Bool) (n : Nat) (bs : List Bytes) (hbs : ∀ b ∈ bs, Good b) :
    Good ([wOpenArr] ++ itemsB (m :: ml) 0 bs ++ encClose true m n ml) :=
  good_seq (by decide) value_arr_empty value_arr (m :: ml) bs (fun b hb => (hbs b hb).item) (encClose_eq true m n ml)

/-- the two-element array of `PairHandler` and `Handler<any>` -/
theorem good_pair (m : Bool) (ml : List Bool) {b1 b2 : Bytes} (h1 : Good b1) (h2 : Good b2) :
    Good ([wOpenArr] ++ sepBytes (m :: ml) ++ b1 ++ arraySep ++ sepBytes (m :: ml) ++ b2 ++ encClose true m 2 ml) := by
  have := good_array m ml 2 [b1, b2] (by
    intro b hb
    simp only [List.mem_cons, List.not_mem_nil, or_false] at hb
    rcases hb with rfl | rfl
    · exact h1
    · exact h2)
  simpa [itemsB, wArrNeedSep] using this

theorem member_item {k b : Bytes} (hk : cleanStr k = true) (hb : Good b) :
    Item Rfc.members 125 (encKey k ++ keyValueSep ++ b) where
  starts := ⟨34, _, rfl, by decide, by decide, by decide⟩
  last f ws rest hf hws := by
    rw [encKey_eq, encString_eq] at hf ⊢
    simp only [keyValueSep, List.cons_append, List.append_assoc, List.nil_append, List.length_cons,
      List.length_append] at hf ⊢
    refine members_close f _ _ _ _ rest (string_escape k hk _) (skipWs_cons 58 _ (by decide)) ?_
      (skipWs_close ws 125 rest hws (by decide))
    rw [skipWs_space, hb.starts.skipWs]
    exact hb _ f (by omega) (NumEnd.ws_append ws 125 rest hws (by decide))
  more f X hf := by
    rw [encKey_eq, encString_eq] at hf ⊢
    simp only [keyValueSep, List.cons_append, List.append_assoc, List.nil_append, List.length_cons,
      List.length_append] at hf ⊢
    refine members_comma f _ _ _ _ X (string_escape k hk _) (skipWs_cons 58 _ (by decide)) ?_
      (skipWs_cons 44 _ (by decide))
    rw [skipWs_space, hb.starts.skipWs]
    exact hb _ f (by omega) (NumEnd.cons _ (by decide))

theorem good_object {X : Type} (m : Bool) (ml : List Bool) (n : Nat) (xs : List X) (key text : X → Bytes)
    (h : ∀ x ∈ xs, cleanStr (key x) = true ∧ Good (text x)) :
    Good ([wOpenObj] ++ itemsB (m :: ml) 0 (xs.map fun x => encKey (key x) ++ keyValueSep ++ text x)
      ++ encClose false m n ml) :=
  good_seq (by decide) value_obj_empty value_obj (m :: ml) _ (fun b hb => by
    obtain ⟨x, hx, rfl⟩ := List.mem_map.mp hb
    exact member_item (h x hx).1 (h x hx).2) (encClose_eq false m n ml)

theorem good_all :
    (∀ t v, hasType t v = true → ∀ ml, cleanTy t = true → clean t v = true → Good (enc t v ml)) ∧
    (∀ fs vs, hasTypeFields fs vs = true → ∀ ml, cleanFields fs = true → cleanFieldVals fs vs = true →
      ∀ p ∈ fieldPairs fs vs ml, cleanStr p.1 = true ∧ Good p.2) ∧
    (∀ alts name v, hasTypeAlt alts name v = true → (cleanAlts alts = true → cleanStr name = true) ∧
      ∀ ml, cleanAlts alts = true → cleanAlt alts name v = true → Good (encAlt alts name v ml)) := by
  refine typed_induct ?_
  constructor
  case str => intro s ml _ hc; exact good_encString s hc
  case int => intro _ _ i _ ml _ _; exact good_render i
  case bool => intro b ml _ _; exact good_renderBool b
  case pair =>
    intro a b x y _ _ iha ihb ml hct hc
    simp only [cleanTy, clean, Bool.and_eq_true] at hct hc
    exact good_pair _ ml (iha _ hct.1 hc.1) (ihb _ hct.2 hc.2)
  case vec | list =>
    intro e xs ih ml hct hc
    simp only [clean, List.all_eq_true] at hc
    simp only [enc, encItems_eq]
    exact good_array _ ml _ _ fun b hb => by
      obtain ⟨x, hx, rfl⟩ := List.mem_map.mp hb
      exact (ih x hx).2 _ hct (hc x hx)
  case map | umap =>
    intro e kvs _ ih ml hct hc
    simp only [clean, List.all_eq_true, Bool.and_eq_true] at hc
    simp only [enc, encMembers_items]
    exact good_object _ ml _ kvs (·.1) _ fun kv hkv => ⟨(hc kv hkv).1, (ih kv hkv).2 _ hct (hc kv hkv).2⟩
  case any =>
    intro alts name v _ ih ml hct hc
    exact good_pair _ ml (good_encString name (ih.1 hct)) (ih.2 _ hct hc)
  case cls =>
    intro pod fs vs _ ih ml hct hc
    simp only [enc, encFields_eq]
    exact good_object _ ml _ (fieldPairs fs vs (defaultObjectMultiLine :: ml)) (·.1) (·.2) (ih _ hct hc)
  case hit =>
    intro t r name v _ ih
    refine ⟨fun hct => ?_, fun ml hct hc => ?_⟩ <;> simp only [cleanAlts, Bool.and_eq_true] at hct
    · exact hct.1.1
    · simp only [cleanAlt, if_true] at hc
      simpa [encAlt] using ih ml hct.1.2 hc
  case miss =>
    intro n t r name v hne _ ih
    refine ⟨fun hct => ?_, fun ml hct hc => ?_⟩ <;> simp only [cleanAlts, Bool.and_eq_true] at hct
    · exact ih.1 hct.2
    · simp only [cleanAlt, hne, if_false] at hc
      simpa [encAlt, hne] using ih.2 ml hct.2 hc
  case fnil => intro ml _ _ p hp; cases hp
  case fcons =>
    intro n o t r v vs _ _ iht ihr ml hct hc p hp
    simp only [cleanFields, cleanFieldVals, Bool.and_eq_true] at hct hc
    rcases List.mem_cons.mp hp with rfl | hp
    · exact ⟨hct.1.1, iht ml hct.1.2 hc.1⟩
    · exact ihr ml hct.2 hc.2 p hp

theorem good_enc : ∀ (t : JTy) (v : Val) (ml : List Bool),
    hasType t v = true → cleanTy t = true → clean t v = true → Good (enc t v ml) :=
  fun t v ml ht => good_all.1 t v ht ml

theorem good_encAlt : ∀ (alts : Alts) (name : Bytes) (v : Val) (ml : List Bool),
    hasTypeAlt alts name v = true → cleanAlts alts = true → cleanAlt alts name v = true →
    Good (encAlt alts name v ml) :=
  fun alts name v ml ht => (good_all.2.2 alts name v ht).2 ml

theorem good_fields : ∀ (fs : Fields) (vs : List Val) (ml : List Bool),
    hasTypeFields fs vs = true → cleanFields fs = true → cleanFieldVals fs vs = true →
    ∀ p ∈ fieldPairs fs vs ml, cleanStr p.1 = true ∧ Good p.2 :=
  fun fs vs ml ht => good_all.2.1 fs vs ht ml

theorem value_enc (t : JTy) (v : Val) (ml : List Bool) (rest : Bytes) (fuel : Nat)
    (ht : hasType t v = true) (hct : cleanTy t = true) (hc : clean t v = true)
    (hfuel : (enc t v ml).length < fuel) (hrest : NumEnd rest) :
    Rfc.value fuel (enc t v ml ++ rest) = some rest :=
  good_enc t v ml ht hct hc rest fuel hfuel hrest

/-- the bytes the writer puts after a value: ',' ']' '}' ' ' '\n' -/
theorem numEnd_follow (c : UInt8) (cs : Bytes) (h : c = 44 ∨ c = 93 ∨ c = 125 ∨ c = 32 ∨ c = 10) :
    NumEnd (c :: cs) := by
  apply NumEnd.cons
  rcases h with rfl | rfl | rfl | rfl | rfl <;> decide

theorem enc_starts (t : JTy) (v : Val) (ml : List Bool) (ht : hasType t v = true) (hct : cleanTy t = true)
    (hc : clean t v = true) : Starts (enc t v ml) := by
  obtain ⟨c, cs, h, hf⟩ := enc_first t v ml ht
  exact ⟨c, cs, h, (first_facts c hf).2⟩

theorem wellFormed_enc (t : JTy) (v : Val) (ht : hasType t v = true) (hct : cleanTy t = true)
    (hc : clean t v = true) : wellFormed (enc t v []) = true := by
  have hg := good_enc t v [] ht hct hc
  have h1 := hg [] ((enc t v []).length + 1) (by omega) NumEnd.nil
  have h2 := hg.starts.skipWs []
  rw [List.append_nil] at h1 h2
  simp [wellFormed, h1, h2, Rfc.skipWs]

theorem value_enc_follow (t : JTy) (v : Val) (ml : List Bool) (c : UInt8) (cs : Bytes) (fuel : Nat)
    (ht : hasType t v = true) (hct : cleanTy t = true) (hc : clean t v = true)
    (hfuel : (enc t v ml).length < fuel) (hfollow : c = 44 ∨ c = 93 ∨ c = 125 ∨ c = 32 ∨ c = 10) :
    Rfc.value fuel (enc t v ml ++ c :: cs) = some (c :: cs) :=
  value_enc t v ml (c :: cs) fuel ht hct hc hfuel (numEnd_follow c cs hfollow)

theorem value_enc_nil (t : JTy) (v : Val) (ml : List Bool) (fuel : Nat)
    (ht : hasType t v = true) (hct : cleanTy t = true) (hc : clean t v = true)
    (hfuel : (enc t v ml).length < fuel) :
    Rfc.value fuel (enc t v ml) = some [] := by
  have := value_enc t v ml [] fuel ht hct hc hfuel NumEnd.nil
  rwa [List.append_nil] at this

end DmlcModel.Json
