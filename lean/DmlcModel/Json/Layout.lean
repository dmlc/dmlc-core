/-
The text `JSONWriter` produces, as byte strings.  The items of an array, the members of an object and the fields of
a class share one layout, `itemsB`, an item of the latter two being key, colon and value; the generated items of the
writer enter through their `_spec` lemmas.
-/
import DmlcModel.Json.Model
import DmlcModel.Json.IStreamIntLemmas
import DmlcModel.Json.Lemmas

namespace DmlcModel.Json
open DmlcModel DmlcModel.Gen.Json

theorem sepBytes_ws (ml : List Bool) : ∀ c ∈ sepBytes ml, Rfc.isWs c = true := by
  have h : ∀ (b : Bool) (n : Nat), ∀ c ∈ (if b then sepChar :: List.replicate n indentChar else []),
      Rfc.isWs c = true := by
    intro b n c hc
    split at hc
    · simp only [List.mem_cons, List.mem_replicate] at hc
      rcases hc with rfl | ⟨_, rfl⟩ <;> decide
    · cases hc
  cases ml with
  | nil => exact h (sepNewline 0 false) (indentWidth 0)
  | cons b r => exact h (sepNewline (r.length + 1) b) (indentWidth (r.length + 1))

/-- the writer's escape table: a byte is copied (the reader's string loop then leaves it alone and, unless it is a
control character, RFC 8259 admits it raw) or written as backslash + a letter that the reader's table maps back -/
theorem escape_cases (c : UInt8) :
    (escape c = [c] ∧ strIsEscLead c.toNat = false ∧ strIsClose c.toNat = false ∧ strIsFatal c.toNat = false ∧
      c ≠ 34 ∧ c ≠ 92 ∧ ((32 ≤ c || c == 9 || c == 10 || c == 13) = true → ¬ c < 32)) ∨
    (∃ e ∈ [(114 : UInt8), 110, 92, 116, 34], escape c = [92, e] ∧ unescape e = some c) := by
  -- the five escaped bytes by evaluation; for every other byte `escape_spec` says that it is copied
  by_cases h : c = 13 ∨ c = 10 ∨ c = 92 ∨ c = 9 ∨ c = 34
  · rcases h with rfl | rfl | rfl | rfl | rfl <;> exact .inr (by decide)
  · have he := escape_spec c.toNat c.toNat_lt
    simp only [not_or, ← UInt8.toNat_inj, UInt8.reduceToNat] at h
    obtain ⟨h13, h10, h92, h9, h34⟩ := h
    rw [UInt8.ofNat_toNat, if_neg h13, if_neg h10, if_neg h92, if_neg h9, if_neg h34] at he
    refine .inl ⟨he, ?_⟩
    simp [strIsEscLead, strIsClose, strIsFatal, ← UInt8.toNat_inj, UInt8.le_iff_toNat_le, UInt8.lt_iff_toNat_lt, *]

theorem encString_eq (s : Bytes) : encString s = 34 :: (s.flatMap escape ++ [34]) := by
  rw [encString, quotes_spec.1, quotes_spec.2.1]

theorem encKey_eq (k : Bytes) : encKey k = encString k := by
  rw [encKey, keyEscaped_spec]
  rfl

theorem encString_append (s r : Bytes) : encString s ++ r = 34 :: (s.flatMap escape ++ 34 :: r) := by
  simp [encString_eq]

/-- `encItems` over already encoded elements -/
def itemsB (ml : List Bool) : Nat → List Bytes → Bytes
  | _, [] => []
  | i, b :: bs => (if wArrNeedSep i then arraySep else []) ++ sepBytes ml ++ b ++ itemsB ml (i + 1) bs

theorem encItems_eq (f : Val → Bytes) (ml : List Bool) (i : Nat) (xs : List Val) :
    encItems f ml i xs = itemsB ml i (xs.map f) := by
  induction xs generalizing i with
  | nil => rfl
  | cons x xs ih => simp [encItems, itemsB, ih]

theorem encClose_eq (isArr m : Bool) (n : Nat) (ml : List Bool) :
    ∃ ws, (∀ w ∈ ws, Rfc.isWs w = true) ∧ encClose isArr m n ml = ws ++ [if isArr then 93 else 125] := by
  have hws : ∀ b : Bool, ∀ w ∈ (if b then sepBytes ml else []), Rfc.isWs w = true := by
    intro b
    cases b
    · simp
    · exact sepBytes_ws ml
  cases isArr
  · exact ⟨_, hws (wEndObjNewline m n), rfl⟩
  · exact ⟨_, hws (wEndArrNewline m n), rfl⟩

theorem sepObj_eq (i : Nat) :
    (if wObjNeedSep i then objectSep else []) = if wArrNeedSep i then arraySep else [] := by
  rw [(counterTests_spec i false).1, (counterTests_spec i false).2.1, separators_spec.1, separators_spec.2.1]
  cases i <;> rfl

theorem encMembers_items (f : Val → Bytes) (ml : List Bool) (kvs : List (Bytes × Val)) : ∀ i,
    encMembers f ml i kvs = itemsB ml i (kvs.map fun kv => encKey kv.1 ++ keyValueSep ++ f kv.2) := by
  induction kvs with
  | nil => intro i; rfl
  | cons kv kvs ih => intro i; simp [encMembers, itemsB, ih, sepObj_eq]

def fieldPairs : Fields → List Val → List Bool → List (Bytes × Bytes)
  | .cons n _ t r, v :: vs, ml => (n, enc t v ml) :: fieldPairs r vs ml
  | _, _, _ => []

theorem encFields_eq : ∀ (fs : Fields) (vs : List Val) (ml : List Bool) (i : Nat),
    encFields fs vs ml i = itemsB ml i ((fieldPairs fs vs ml).map fun p => encKey p.1 ++ keyValueSep ++ p.2)
  | .nil, _, _, _ => by simp [encFields, fieldPairs, itemsB]
  | .cons _ _ _ _, [], _, _ => by simp [encFields, fieldPairs, itemsB]
  | .cons n o t r, v :: vs, ml, i => by
    simp [encFields, fieldPairs, itemsB, encFields_eq r vs ml, sepObj_eq]

/-- quote, minus, a digit or an opening bracket -/
theorem enc_first (t : JTy) (v : Val) (ml : List Bool) (ht : hasType t v = true) :
    ∃ c cs, enc t v ml = c :: cs ∧ (c = 34 ∨ c = 45 ∨ IStreamInt.isDigit c = true ∨ c = 91 ∨ c = 123) := by
  cases t <;> cases v <;> simp [hasType] at ht
  case int.int i =>
    rw [enc, IStreamInt.render_eq]
    by_cases hneg : i < 0
    · exact ⟨45, IStreamInt.natDigits i.natAbs, by simp [hneg], .inr (.inl rfl)⟩
    · obtain ⟨c, cs, hcs, hc⟩ := IStreamInt.natDigits_head_digit i.natAbs
      exact ⟨c, cs, by simp [hneg, hcs], .inr (.inr (.inl hc))⟩
  case bool.bool b => cases b <;> exact ⟨_, _, rfl, by decide⟩
  all_goals exact ⟨_, _, rfl, by decide⟩

theorem first_facts : ∀ c : UInt8, (c = 34 ∨ c = 45 ∨ IStreamInt.isDigit c = true ∨ c = 91 ∨ c = 123) →
    Gen.Json.isSpace c.toNat = false ∧ Rfc.isWs c = false ∧ c ≠ 93 ∧ c ≠ 125 :=
  IStreamInt.byte_sweep (by decide +kernel)

end DmlcModel.Json
