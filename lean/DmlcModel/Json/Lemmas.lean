/-
Specification lemmas for the generated items of `Gen/Json.lean`: each says what the extracted C++ fragment is
expected to mean, so that an edit of json.h that changes a fragment stops the build here.
-/
import DmlcModel.Json.Model

namespace DmlcModel.Json
open DmlcModel DmlcModel.Gen.Json

/-- writer escape table: exactly CR LF backslash TAB quote are escaped, to `\r \n \\ \t \"` -/
theorem escape_spec : ∀ n, n < 256 → escape (UInt8.ofNat n) =
    (if n = 13 then [92, 114] else if n = 10 then [92, 110] else if n = 92 then [92, 92]
     else if n = 9 then [92, 116] else if n = 34 then [92, 34] else [UInt8.ofNat n]) := by decide +kernel

/-- reader unescape table: the inverse of the writer's table and nothing else -/
theorem unescape_spec : ∀ n, n < 256 → unescape (UInt8.ofNat n) =
    (if n = 114 then some 13 else if n = 110 then some 10 else if n = 92 then some 92
     else if n = 116 then some 9 else if n = 34 then some 34 else none) := by decide +kernel

/-- one byte through the writer's table and back through the reader's string loop: copied (then none of backslash,
quote, CR, LF) or written as backslash + a letter that unescapes to it -/
def escapeInverts (n : Nat) : Bool :=
  match escape (UInt8.ofNat n) with
  | [a] => a == UInt8.ofNat n && !strIsEscLead n && !strIsClose n && !strIsFatal n
  | [l, e] => strIsEscLead l.toNat && unescape e == some (UInt8.ofNat n)
  | _ => false

theorem escape_unescape : ∀ n, n < 256 → escapeInverts n = true := by decide +kernel

theorem strTests_spec (c : Nat) :
    strIsEscLead c = (c == 92) ∧ strIsClose c = (c == 34) ∧ strIsFatal c = (c == 13 || c == 10) :=
  ⟨rfl, rfl, rfl⟩

theorem quotes_spec : strOpen = 34 ∧ strClose = 34 ∧ rStrOpen = 34 := ⟨rfl, rfl, rfl⟩

/-- the whitespace set of the reader: TAB LF VT FF CR SPACE -/
theorem isSpace_spec : ∀ n, n < 256 → isSpace n = (n = 9 ∨ n = 10 ∨ n = 11 ∨ n = 12 ∨ n = 13 ∨ n = 32) := by
  decide +kernel

theorem lineChars_spec : lineN = 10 ∧ lineR = 13 := ⟨rfl, rfl⟩

theorem arrayMultiLine_spec (size : Nat) (pod : Bool) : arrayMultiLine size pod = (decide (10 < size) || !pod) := rfl
theorem objectMultiLine_spec (size : Nat) : objectMultiLine size = decide (1 < size) := rfl
theorem defaults_spec : defaultArrayMultiLine = true ∧ defaultObjectMultiLine = true ∧ anyMultiLine = false :=
  ⟨rfl, rfl, rfl⟩
theorem sepNewline_spec (depth : Nat) (back : Bool) : sepNewline depth back = (depth == 0 || back) := rfl
theorem indentWidth_spec (depth : Nat) (h : depth < 2 ^ 63) : indentWidth depth = 2 * depth := by
  unfold indentWidth u64; omega
theorem sepChars_spec : sepChar = 10 ∧ indentChar = 32 := ⟨rfl, rfl⟩

theorem separators_spec : arraySep = [44, 32] ∧ objectSep = [44, 32] ∧ keyValueSep = [58, 32] := ⟨rfl, rfl, rfl⟩
/-- the object key goes through `WriteString`: json.h with fixes/C16-1.diff (on the pinned tree the item is
`false` and this lemma does not compile: finding C16-F9) -/
theorem keyEscaped_spec : keyEscaped = true := rfl
theorem counterTests_spec (n : Nat) (m : Bool) :
    wArrNeedSep n = (n != 0) ∧ wObjNeedSep n = decide (0 < n) ∧ rArrNotFirst n = (n != 0) ∧ rObjNotFirst n = (n != 0) ∧
    wEndArrNewline m n = (m && n != 0) ∧ wEndObjNewline m n = (m && n != 0) := ⟨rfl, rfl, rfl, rfl, rfl, rfl⟩
theorem delimiters_spec :
    wOpenArr = 91 ∧ wCloseArr = 93 ∧ wOpenObj = 123 ∧ wCloseObj = 125 ∧ rOpenArr = 91 ∧ rArrClose = 93 ∧
    rArrCloseFirst = 93 ∧ rArrComma = 44 ∧ rOpenObj = 123 ∧ rObjClose = 125 ∧ rObjCloseFirst = 125 ∧ rObjComma = 44 ∧
    rColon = 58 := ⟨rfl, rfl, rfl, rfl, rfl, rfl, rfl, rfl, rfl, rfl, rfl, rfl, rfl⟩

end DmlcModel.Json
