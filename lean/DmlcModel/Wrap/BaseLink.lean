/-
The Wrap model treats a pass of the base split over partition `(k, n)` as a fixed chunk list `B k n` (`BasePass`).  For the
instance the driver runs, `splitPass`, the chunk bytes are `Split.partBlobs`, the `NextChunk` blobs of a freshly constructed
split; that every pass of a split delivers exactly those is C05.
-/
import DmlcModel.Wrap.Base
import DmlcModel.Wrap.Defs
import DmlcModel.Split.Spec

namespace DmlcModel.Wrap

def convRes : Except Split.Err (List Bytes) → Except Err (List Bytes)
  | .ok l => .ok l
  | .error e => .error (convErr e)

theorem chunkGo_drain (F : Split.Fmt) : ∀ (fuel i : Nat) (s : Split.St) (acc : List Chunk),
    (chunkGo F fuel s acc).map allBytes = convRes (Split.drainGo F (fun _ => false) fuel i s (allBytes acc)).2 := by
  intro fuel
  induction fuel with
  | zero => intro i s acc; rfl
  | succ fuel ih =>
    intro i s acc
    simp only [chunkGo, Split.drainGo, Bool.false_eq_true, if_false]
    rcases hst : Split.step F s .nextChunk with ⟨s', out⟩
    cases out with
    | blob b =>
      simp only
      rw [ih (i + 1) s' _]
      simp [allBytes]
    | eof => rfl
    | done => rfl
    | err e => rfl

theorem splitPass_partBlobs (F : Split.Fmt) (files : List Bytes) (w dw k n : Nat) (hn : n ≠ 0) :
    (splitPass F files w dw k n).map allBytes = convRes (Split.partBlobs F files k n w dw (fun _ => false)) := by
  unfold splitPass Split.partBlobs
  simp only [hn, if_false]
  cases hm : Split.mkSt F files k n w false dw with
  | error e => rfl
  | ok s =>
    simp only
    have := chunkGo_drain F (Split.drainFuel s) 0 s []
    simpa [Split.drain, allBytes] using this

theorem mkSt_bare (F : Split.Fmt) (files : List Bytes) (k n w dw : Nat) (fresh : Split.St)
    (h : Split.mkSt F files k n w false dw = .ok fresh) : fresh.wrap = none := by
  unfold Split.mkSt at h
  split at h
  · cases h
  · injection h with h; subst h; rfl

end DmlcModel.Wrap
