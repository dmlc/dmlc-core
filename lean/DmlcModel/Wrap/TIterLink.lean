/-
`TIterFacts` (Threaded.lean) proved from the property theorems of C07 / C08, for every parameter set `P`.
-/
import DmlcModel.Wrap.Threaded
import DmlcModel.Props.C07
import DmlcModel.Props.C08

namespace DmlcModel.Wrap

theorem titerFacts (P : TIter.Params) : TIterFacts P where
  order := fun _ h => Props.C07.C07_order h
  produced := fun _ h => by rw [prodList_eq]; exact (Props.C07.C07_produced h).1
  endSound := fun _ _ _ h hs hr ht => have h := Props.C07.C07_end_sound h hs hr ht; ⟨h.1, h.2.1⟩
  srcEnd := fun _ h he => Props.C07.C07_src_end h he
  noThrow := fun h1 h2 _ h => (Props.C07.C07_no_failure ⟨h1, fun p => by rw [h2 p]; simp⟩ h).1
  freshPass := fun _ _ h hs hx hr => have h := Props.C08.C08_fresh_pass h hs hx hr; ⟨h.1, h.2.1⟩
  cells := fun _ h => Props.C07.C07_cells h

end DmlcModel.Wrap
