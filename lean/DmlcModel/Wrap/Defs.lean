/-
What the C10 statements about the cache wrapper use beside the model: what the iterator will still fetch (`upcoming`), the
states of the objects that live on one cache file (`CReach`).  Definitions only.
-/
import DmlcModel.Wrap.Model

namespace DmlcModel.Wrap

def allBytes (cs : List Chunk) : List Bytes := cs.map (·.bytes)

def itemBytes : Item → Option Bytes
  | .chunk b => some b
  | .bad => none

/-- the chunk byte strings the iterator will still fetch in the current pass -/
def upcoming (s : CSt) : List Bytes :=
  match s.phase with
  | .preproc => allBytes s.rest
  | .replay => s.items.filterMap itemBytes

/-- the first object over the base pass `cs`, its operations, and later objects that find the file the previous one left
behind (`cs'`: whatever base split the later object is given) -/
inductive CReach (cs : List Chunk) : CSt → Prop
  | first : CReach cs { phase := .preproc, rest := cs }
  | next {s s' : CSt} {ext : Extract} {r : Option Bytes} : CReach cs s → cNext ext s = .ok (r, s') → CReach cs s'
  | bf {s s' : CSt} : CReach cs s → cBeforeFirst s = .ok s' → CReach cs s'
  | reopen {s s' : CSt} {f : Bytes} (cs' : List Chunk) :
      CReach cs s → cClose s = some f → cOpen (some f) cs' = .ok s' → CReach cs s'

end DmlcModel.Wrap
