/-
Invariant `Good` of the CachedInputSplit machine (C10): in the first pass the cache file is the encoding of the chunks fetched
so far; after `BeforeFirst`, and in every object that reuses the file, the replay items are the chunks of the base pass.
About the chunks fetched and the file, not about the blobs `cNext` returns.
-/
import DmlcModel.Wrap.Lemmas
import DmlcModel.Wrap.Defs

namespace DmlcModel.Wrap
open DmlcModel.Gen.Wrap

/-- `all` = chunk byte strings of the base pass -/
def Good (all : List Bytes) (s : CSt) : Prop :=
  (s.phase = .preproc ∧ ∃ done, all = done ++ allBytes s.rest ∧ s.file = encAll done) ∨
  (s.phase = .replay ∧ s.file = encAll all ∧ ∃ k, s.items = chunkItems (all.drop k))

theorem filterMap_chunkItems (l : List Bytes) : (chunkItems l).filterMap itemBytes = l := by
  induction l with
  | nil => rfl
  | cons a t ih => simp [chunkItems, itemBytes] at ih ⊢; exact ih

def TeeOk (cs : List Chunk) (f : Bytes) (v : Option (Bytes × Win) × List Chunk × Bytes × Bool) : Prop :=
  ∃ mid, allBytes cs = mid ++ allBytes v.2.1 ∧ v.2.2.1 = f ++ encAll mid

theorem TeeOk.cons {c : Chunk} {cs : List Chunk} {f : Bytes} {v : Option (Bytes × Win) × List Chunk × Bytes × Bool}
    (h : TeeOk cs (f ++ encChunk c.bytes) v) : TeeOk (c :: cs) f v := by
  obtain ⟨mid, m1, m2⟩ := h
  exact ⟨c.bytes :: mid, by simp [allBytes] at m1 ⊢; exact m1, by rw [m2]; simp [encAll, List.append_assoc]⟩

theorem pullTee_spec (ext : Extract) : ∀ (cs : List Chunk) (w : Win) (f : Bytes) v,
    pullTee ext w cs f = .ok v → TeeOk cs f v := by
  intro cs
  induction cs with
  | nil =>
    intro w f v h
    unfold pullTee at h
    split at h
    · cases h
    · cases h; exact ⟨[], by simp, by simp [encAll]⟩
    · cases h; exact ⟨[], rfl, by simp [encAll]⟩
  | cons c cs ih =>
    intro w f v h
    unfold pullTee at h
    split at h
    · cases h
    · cases h; exact ⟨[], by simp, by simp [encAll]⟩
    · exact (ih _ _ v h).cons

theorem pullReplay_spec (ext : Extract) : ∀ (l : List Bytes) (w : Win) v,
    pullReplay ext w (chunkItems l) = .ok v → ∃ k, v.2 = chunkItems (l.drop k) := by
  intro l
  induction l with
  | nil =>
    intro w v h
    unfold pullReplay at h
    split at h
    · cases h
    · cases h; exact ⟨0, rfl⟩
    · cases h; exact ⟨0, rfl⟩
  | cons b l ih =>
    intro w v h
    unfold pullReplay at h
    split at h
    · cases h
    · cases h; exact ⟨0, rfl⟩
    · simp only [chunkItems, List.map_cons] at h
      split at h
      · cases h
      · obtain ⟨k, hk⟩ := ih _ v h
        exact ⟨k + 1, hk⟩

/-- however the call enters the loop (with or without a lent window) -/
theorem cNext_preproc (ext : Extract) (s s' : CSt) (r : Option Bytes) (hp : s.phase = .preproc)
    (h : cNext ext s = .ok (r, s')) :
    s'.phase = .preproc ∧ ∃ mid, allBytes s.rest = mid ++ allBytes s'.rest ∧ s'.file = s.file ++ encAll mid := by
  unfold cNext at h
  simp only [hp] at h
  split at h
  · cases h
  all_goals
    rename_i hv
    cases h
    refine ⟨rfl, ?_⟩
    revert hv
    cases s.tmp with
    | some w => exact pullTee_spec ext _ _ _ _
    | none =>
      cases s.rest with
      | nil => intro hv; cases hv <;> exact ⟨[], rfl, by simp [encAll]⟩
      | cons c cs => exact fun hv => (pullTee_spec ext _ _ _ _ hv).cons

theorem cNext_replay (ext : Extract) (s s' : CSt) (r : Option Bytes) (l : List Bytes) (hp : s.phase = .replay)
    (hl : s.items = chunkItems l) (h : cNext ext s = .ok (r, s')) :
    s'.phase = .replay ∧ s'.file = s.file ∧ ∃ k, s'.items = chunkItems (l.drop k) := by
  unfold cNext at h
  simp only [hp, hl] at h
  split at h
  · cases h
  all_goals
    rename_i hv
    cases h
    refine ⟨rfl, rfl, ?_⟩
    revert hv
    cases s.tmp with
    | some w => exact pullReplay_spec ext _ _ _
    | none =>
      cases l with
      | nil => intro hv; cases hv <;> exact ⟨0, rfl⟩
      | cons b l =>
        simp only [chunkItems, List.map_cons]
        split
        · nofun
        · intro hv
          obtain ⟨k, e⟩ := pullReplay_spec ext _ _ _ hv
          exact ⟨k + 1, e⟩

theorem good_next (all : List Bytes) (ext : Extract) (s s' : CSt) (r : Option Bytes)
    (hg : Good all s) (h : cNext ext s = .ok (r, s')) : Good all s' := by
  rcases hg with ⟨hp, done, h1, h2⟩ | ⟨hp, h1, k, hk⟩
  · obtain ⟨hp', mid, m1, m2⟩ := cNext_preproc ext s s' r hp h
    exact Or.inl ⟨hp', done ++ mid, by rw [h1, m1, List.append_assoc], by rw [m2, h2, encAll_append]⟩
  · obtain ⟨hp', hf, k', e⟩ := cNext_replay ext s s' r _ hp hk h
    exact Or.inr ⟨hp', hf ▸ h1, k + k', by rw [← List.drop_drop]; exact e⟩

theorem startReplay_encAll (all : List Bytes) (hl : ∀ b ∈ all, b.length < 2 ^ 64) :
    startReplay (encAll all) = .ok { phase := .replay, file := encAll all, items := chunkItems all } := by
  unfold startReplay
  simp [decodeFile_encAll all hl, readOverflows_chunkItems all hl]

theorem good_beforeFirst (all : List Bytes) (hl : ∀ b ∈ all, b.length < 2 ^ 64) (s : CSt) (hg : Good all s) :
    ∃ s', cBeforeFirst s = .ok s' ∧ s'.phase = .replay ∧ s'.file = encAll all ∧ s'.items = chunkItems all ∧ s'.tmp = none := by
  rcases hg with ⟨hp, done, h1, h2⟩ | ⟨hp, h1, k, _⟩
  · refine ⟨{ phase := .replay, file := encAll all, items := chunkItems all }, ?_, rfl, rfl, rfl, rfl⟩
    unfold cBeforeFirst
    rw [hp]
    simp only
    have : s.file ++ encAll (List.map (fun x => x.bytes) s.rest) = encAll all := by
      rw [h1, h2, encAll_append]; rfl
    rw [this]
    exact startReplay_encAll all hl
  · refine ⟨{ s with items := chunkItems all, tmp := none }, ?_, hp, h1, rfl, rfl⟩
    unfold cBeforeFirst
    rw [hp]
    simp only [rewindPos_val, List.drop_zero, h1, decodeFile_encAll all hl]

/-- the repair of the destructor (fixes/C10-3.diff) is present -/
theorem fix_dtorDrains : dtorDrains = true := by decide

/-- the destructor finishes a first pass (`fix_dtorDrains`) -/
theorem good_close (all : List Bytes) (s : CSt) (hg : Good all s) : cClose s = some (encAll all) := by
  unfold cClose
  rcases hg with ⟨hp, done, h1, h2⟩ | ⟨hp, h1, _⟩
  · rw [hp, h1, h2, encAll_append]
    simp [fix_dtorDrains, allBytes]
  · rw [hp, h1]

theorem good_of_reach (cs : List Chunk) (hl : ∀ b ∈ allBytes cs, b.length < 2 ^ 64) (s : CSt) (h : CReach cs s) :
    Good (allBytes cs) s := by
  induction h with
  | first => exact Or.inl ⟨rfl, [], by simp, rfl⟩
  | next _ hn ih => exact good_next _ _ _ _ _ ih hn
  | bf _ hb ih =>
    obtain ⟨s'', h1, h2, h3, h4, _⟩ := good_beforeFirst _ hl _ ih
    rw [h1] at hb
    injection hb with hb
    subst hb
    exact Or.inr ⟨h2, h3, 0, by simpa using h4⟩
  | reopen cs' _ hc ho ih =>
    cases (good_close _ _ ih).symm.trans hc
    unfold cOpen at ho
    simp only at ho
    rw [startReplay_encAll _ hl] at ho
    injection ho with ho
    subst ho
    exact Or.inr ⟨rfl, rfl, 0, by simp⟩

theorem upcoming_of_good (all : List Bytes) (s : CSt) (hg : Good all s) : ∃ k, upcoming s = all.drop k := by
  rcases hg with ⟨hp, done, h1, _⟩ | ⟨hp, _, k, hk⟩
  · refine ⟨done.length, ?_⟩
    unfold upcoming
    rw [hp, h1]
    simp
  · refine ⟨k, ?_⟩
    unfold upcoming
    rw [hp, hk]
    exact filterMap_chunkItems _

end DmlcModel.Wrap
