/-
Lemmas for the Wrap model (C10): specification of the generated buffer-size expression and the cache file
format (encode / decode round trip, `replayWin` on a chunk that fits).
-/
import DmlcModel.Wrap.Model

namespace DmlcModel.Wrap
open DmlcModel.Gen.Wrap

/-- the replay buffer holds the chunk and the terminator `ExtractNextRecord` may store at `end` -/
theorem cacheBufWords_fits (len : Nat) (h : len < 2 ^ 64) : len + 1 ≤ 4 * cacheBufWords len := by
  unfold cacheBufWords u64
  omega

theorem lenBytes_agree : cacheLenBytesW = cacheLenBytesR := by decide
theorem lenBytesR_val : cacheLenBytesR = 8 := by decide
theorem rewindPos_val : cacheRewindPos = 0 := by decide

theorem leBytes_length (n v : Nat) : (leBytes n v).length = n := by
  induction n generalizing v with
  | zero => rfl
  | succ n ih => simp [leBytes, ih]

theorem leVal_leBytes (n v : Nat) (h : v < 256 ^ n) : leVal (leBytes n v) = v := by
  induction n generalizing v with
  | zero =>
    simp at h
    simp [leBytes, leVal, h]
  | succ n ih =>
    have h2 : v / 256 < 256 ^ n := by
      apply Nat.div_lt_of_lt_mul
      rw [Nat.pow_succ, Nat.mul_comm] at h
      exact h
    simp only [leBytes, leVal, UInt8.toNat_ofNat', ih _ h2, Nat.reducePow]
    omega

theorem encAll_append (a b : List Bytes) : encAll (a ++ b) = encAll a ++ encAll b := by
  induction a with
  | nil => rfl
  | cons x xs ih => simp [encAll, ih, List.append_assoc]

def chunkItems (cs : List Bytes) : List Item := cs.map Item.chunk

theorem decodeAll_enc (fuel : Nat) (b rest : Bytes) (hb : b.length < 2 ^ 64) :
    decodeAll (fuel + 1) (encChunk b ++ rest) = Item.chunk b :: decodeAll fuel rest := by
  have hlen : (leBytes 8 b.length).length = 8 := leBytes_length 8 b.length
  have htake : (leBytes 8 b.length ++ (b ++ rest)).take 8 = leBytes 8 b.length := by
    rw [List.take_left' hlen]
  have hdrop : (leBytes 8 b.length ++ (b ++ rest)).drop 8 = b ++ rest := by
    rw [List.drop_left' hlen]
  have hval : leVal (leBytes 8 b.length) = b.length := leVal_leBytes 8 b.length (by simpa using hb)
  have e : encChunk b ++ rest = leBytes 8 b.length ++ (b ++ rest) := by
    simp [encChunk, cacheLenBytesW, List.append_assoc]
  rw [e]
  simp only [decodeAll, lenBytesR_val, htake, hdrop, hlen, hval, crEof]
  simp

theorem decodeAll_encAll (cs : List Bytes) (h : ∀ c ∈ cs, c.length < 2 ^ 64) (fuel : Nat) (hf : cs.length < fuel) :
    decodeAll fuel (encAll cs) = chunkItems cs := by
  induction cs generalizing fuel with
  | nil =>
    cases fuel with
    | zero => omega
    | succ f => simp [encAll, decodeAll, chunkItems, crEof]
  | cons c cs ih =>
    cases fuel with
    | zero => omega
    | succ f =>
      simp only [encAll]
      rw [decodeAll_enc f c (encAll cs) (h c (by simp))]
      rw [ih (fun x hx => h x (by simp [hx])) f (by simp at hf; omega)]
      rfl

theorem encChunk_length (b : Bytes) : (encChunk b).length = 8 + b.length := by
  simp [encChunk, cacheLenBytesW, leBytes_length]

theorem encAll_length_ge (cs : List Bytes) : cs.length ≤ (encAll cs).length := by
  induction cs with
  | nil => simp [encAll]
  | cons c cs ih => simp [encAll, encChunk_length]; omega

theorem decodeFile_encAll (cs : List Bytes) (h : ∀ c ∈ cs, c.length < 2 ^ 64) :
    decodeFile (encAll cs) = chunkItems cs := by
  unfold decodeFile
  exact decodeAll_encAll cs h _ (by have := encAll_length_ge cs; omega)

theorem readOverflows_chunkItems (cs : List Bytes) (h : ∀ c ∈ cs, c.length < 2 ^ 64) :
    readOverflows (chunkItems cs) = false := by
  unfold readOverflows chunkItems
  rw [List.any_eq_false]
  intro it hit
  simp only [List.mem_map] at hit
  obtain ⟨c, hc, rfl⟩ := hit
  have := cacheBufWords_fits c.length (h c hc)
  simp
  omega

theorem replayWin_ok (b : Bytes) (h : b.length < 2 ^ 64) :
    replayWin b = .ok { cap := 4 * cacheBufWords b.length, rest := b } := by
  unfold replayWin
  have := cacheBufWords_fits b.length h
  simp
  omega

end DmlcModel.Wrap
