/- the cache-file name of `URISpec` is injective in `(k, n)` (C10): decimal rendering is injective and
consists of digits only, the tags start with a non-digit -/
import DmlcModel.Wrap.Name

namespace DmlcModel.Wrap
open DmlcModel.Gen.Wrap

def digitVal (c : Char) : Nat := c.toNat - 48

def fromDigits (l : List Char) (start : Nat) : Nat := l.foldl (fun a c => 10 * a + digitVal c) start

theorem digitChar_eq : ∀ d, d < 10 → digitChar d = Nat.digitChar d := by decide

/-- `dec` is core's decimal rendering, whose lemmas give the rest -/
theorem decGo_eq : ∀ (f n : Nat) (acc : List Char), decGo f n acc = Nat.toDigitsCore 10 f n acc
  | 0, _, _ => rfl
  | f + 1, n, acc => by
    rw [decGo, Nat.toDigitsCore, digitChar_eq (n % 10) (Nat.mod_lt _ (by decide)), ← decGo_eq f]
    by_cases h : n < 10
    · simp [h, Nat.div_eq_of_lt h, Nat.mod_eq_of_lt h, digitChar_eq n h]
    · simp [h, show n / 10 ≠ 0 by omega]

theorem dec_eq (n : Nat) : dec n = Nat.toDigits 10 n := decGo_eq _ _ _

theorem fromDigits_dec (n : Nat) : fromDigits (dec n) 0 = n := dec_eq n ▸ Nat.ofDigitChars_ten_toDigits

theorem dec_injective (a b : Nat) (h : dec a = dec b) : a = b := by
  rw [← fromDigits_dec a, ← fromDigits_dec b, h]

theorem dec_digits (n : Nat) : ∀ c ∈ dec n, c.isDigit = true :=
  fun _ hc => Nat.isDigit_of_mem_toDigits (by decide) (by decide) (dec_eq n ▸ hc)

theorem dec_ne_nil (n : Nat) : dec n ≠ [] := dec_eq n ▸ Nat.toDigits_ne_nil

theorem digits_tag_split (a b r1 r2 : List Char) (t : Char) (ht : t.isDigit = false)
    (ha : ∀ c ∈ a, c.isDigit = true) (hb : ∀ c ∈ b, c.isDigit = true)
    (h : a ++ t :: r1 = b ++ t :: r2) : a = b ∧ r1 = r2 := by
  have h1 : (a ++ t :: r1).takeWhile Char.isDigit = a := by
    rw [List.takeWhile_append_of_pos ha]; simp [List.takeWhile, ht]
  have h2 : (b ++ t :: r2).takeWhile Char.isDigit = b := by
    rw [List.takeWhile_append_of_pos hb]; simp [List.takeWhile, ht]
  have hab : a = b := by rw [← h1, ← h2, h]
  subst hab
  have := List.append_cancel_left h
  injection this with _ hr
  exact ⟨rfl, hr⟩

theorem partTag_shape : ∃ t r, cachePartTag.toList = t :: r ∧ t.isDigit = false := ⟨'.', ['p', 'a', 'r', 't'], by decide, by decide⟩

theorem cacheSuffix_nil_iff (k n : Nat) : cacheSuffixChars k n = [] ↔ n = 1 := by
  unfold cacheSuffixChars cacheSuffixNeeded
  by_cases h : n = 1
  · simp [h]
  · simp [h, dec_ne_nil]

theorem cacheSuffix_injective (k n k' n' : Nat) (hk : k < n) (hk' : k' < n')
    (h : cacheSuffixChars k n = cacheSuffixChars k' n') : k = k' ∧ n = n' := by
  have hiff : n = 1 ↔ n' = 1 := by rw [← cacheSuffix_nil_iff k n, ← cacheSuffix_nil_iff k' n', h]
  by_cases h1 : n = 1
  · have := hiff.mp h1; omega
  · have h2 : ¬ n' = 1 := fun h' => h1 (hiff.mpr h')
    obtain ⟨t, r, htag, ht⟩ := partTag_shape
    simp only [cacheSuffixChars, cacheSuffixNeeded, bne_iff_ne, ne_eq, h1, h2, not_false_eq_true, if_true,
      List.append_assoc, htag, List.cons_append] at h
    obtain ⟨hn, hrest⟩ := digits_tag_split _ _ _ _ t ht (dec_digits n) (dec_digits n') (List.append_cancel_left h)
    exact ⟨dec_injective _ _ (List.append_cancel_left hrest), dec_injective _ _ hn⟩

end DmlcModel.Wrap
