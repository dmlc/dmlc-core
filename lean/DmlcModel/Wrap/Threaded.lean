/-
ThreadedInputSplit over ThreadedIter (C10): `TIterFacts` lists what `C10_threaded_transparent` takes from C07 / C08 (no lemma
here has it as a hypothesis); the chunk sequence the iterator's items stand for; the invariant of the wrapper layer `TW`.
-/
import DmlcModel.Wrap.Model
import DmlcModel.TIter.Trans

namespace DmlcModel.Wrap
open DmlcModel.Gen.Wrap

/-- the same function as `TIter.prodList` (`prodList_eq`), under a name of its own because `TIterFacts.produced` is stated
with it -/
def prodList (src : Nat → Nat → TIter.SrcRes) (p : Nat) : Nat → List TIter.Item
  | 0 => []
  | n + 1 =>
    prodList src p n ++ (match src p n with
      | .item v => [⟨p, n, v⟩]
      | _ => [])

theorem prodList_eq (src : Nat → Nat → TIter.SrcRes) (p n : Nat) : prodList src p n = TIter.prodList src p n := by
  induction n with
  | zero => rfl
  | succ n ih =>
    simp only [prodList, TIter.prodList, ih]
    congr 1

/-- what C07 / C08 establish for every reachable state of `ThreadedIter` (theorem names in brackets).  It buys nothing over
citing them directly in Props/C10: a fixed structure with one producer (`titerFacts`) and one consumer. -/
structure TIterFacts (P : TIter.Params) : Prop where
  /-- [C07_order] -/
  order : ∀ s, TIter.Reachable P s → s.delivered ++ TIter.qitems s ++ TIter.optList s.pitem = s.produced
  /-- [C07_produced] -/
  produced : ∀ s, TIter.Reachable P s → s.produced = prodList P.src s.pass s.pidx
  /-- [C07_end_sound] -/
  endSound : ∀ s s' e, TIter.Reachable P s → TIter.step P s e = some s' → s'.ret = .nextEnd → s.thrown = false →
    s.srcEnded = true ∧ s.delivered = s.produced
  /-- [C07_src_end: invariant of the ghost field `srcEnded`] -/
  srcEnd : ∀ s, TIter.Reachable P s → s.srcEnded = true → P.src s.pass s.pidx = .fin
  /-- [C07_no_failure: invariant of the ghost field `thrown`] -/
  noThrow : (∀ p i, P.src p i ≠ .throw) → (∀ p, P.rew p = .ok) → ∀ s, TIter.Reachable P s → s.thrown = false
  /-- [C08_fresh_pass] -/
  freshPass : ∀ s s', TIter.Reachable P s → TIter.step P s .xStep = some s' → s.xloc = .bExc1 → s'.ret = .ok →
    s'.pass = s'.bfPass + 1 ∧ s'.delivered = []
  /-- [C07_cells] -/
  cells : ∀ s, TIter.Reachable P s → ∀ c, (TIter.cells s).count c = if c < s.allocated then 1 else 0

theorem prodList_chunks (B : Nat → Nat → List Chunk) (parts : Nat → Nat × Nat) (p n : Nat) :
    (prodList (iterParams B parts).src p n).filterMap (chunkOf B parts) = (B (parts p).1 (parts p).2).take n := by
  induction n with
  | zero => simp [prodList]
  | succ n ih =>
    simp only [prodList, List.filterMap_append, ih, List.take_add_one]
    congr 1
    by_cases hn : n < (B (parts p).1 (parts p).2).length
    · simp [iterParams, hn, chunkOf]
    · have : (B (parts p).1 (parts p).2)[n]? = none := by
        rw [List.getElem?_eq_none_iff]; omega
      simp [iterParams, hn]

theorem prodList_all_chunks (B : Nat → Nat → List Chunk) (parts : Nat → Nat × Nat) (p n : Nat) :
    ∀ it ∈ prodList (iterParams B parts).src p n, (chunkOf B parts it).isSome = true := by
  induction n with
  | zero => simp [prodList]
  | succ n ih =>
    intro it hit
    simp only [prodList, List.mem_append] at hit
    rcases hit with hit | hit
    · exact ih it hit
    · by_cases hn : n < (B (parts p).1 (parts p).2).length
      · simp [iterParams, hn] at hit
        subst hit
        simp [chunkOf, List.getElem?_eq_getElem hn]
      · simp [iterParams, hn] at hit

theorem iterParams_noThrow (B : Nat → Nat → List Chunk) (parts : Nat → Nat × Nat) :
    (∀ p i, (iterParams B parts).src p i ≠ .throw) ∧ (∀ p, (iterParams B parts).rew p = .ok) := by
  constructor
  · intro p i
    simp only [iterParams]
    split <;> simp
  · intro p; rfl

theorem wstep_iter (P : TIter.Params) (s s' : TW) (ie : TIter.Event) (h : wstep P s (.iter ie) = some s') :
    ∃ it', TIter.step P s.it ie = some it' ∧ s' = { s with it := it' } ∧ recyclesTouched s.touching ie = false := by
  simp only [wstep, wstepR] at h
  split at h
  · cases h
  · rename_i hrt
    cases hst : TIter.step P s.it ie with
    | none => rw [hst] at h; cases h
    | some it' => rw [hst] at h; exact ⟨it', rfl, (Option.some.inj h).symm, by simpa using hrt⟩

/-- with the repair (`resetOnCaller = false`) the calling thread has no way into the base split -/
theorem wreach_inv (hfix : resetOnCaller = false) (P : TIter.Params) (s : TW) (h : WReachable P s) :
    TIter.Reachable P s.it ∧ s.callerInBase = false ∧ ∀ c, s.touching = some c → c ∈ s.it.lent := by
  induction h with
  | init => exact ⟨.init, rfl, nofun⟩
  | @step s0 s1 e _ hs ih =>
    obtain ⟨hr, hcb, ht⟩ := ih
    cases e with
    | iter ie =>
      obtain ⟨it', h1, rfl, h3⟩ := wstep_iter P s0 _ ie hs
      refine ⟨.step ie hr h1, hcb, fun c hc => TIter.stepR_lent h1 (ht c hc) ?_⟩
      rintro rfl
      simp [recyclesTouched, show s0.touching = some c from hc] at h3
    | resetEnter => simp [wstep, wstepR, hfix] at hs
    | resetExit => simp [wstep, wstepR, hcb] at hs
    | touch c' =>
      simp only [wstep, wstepR] at hs
      split at hs
      · rename_i hg
        cases hs
        exact ⟨hr, hcb, fun c hc => Option.some.inj hc ▸ hg.1⟩
      · cases hs
    | untouch =>
      simp only [wstep, wstepR] at hs
      split at hs
      · cases hs; exact ⟨hr, hcb, nofun⟩
      · cases hs

end DmlcModel.Wrap
