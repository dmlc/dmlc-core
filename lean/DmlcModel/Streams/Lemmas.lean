/-
What the generated Streams kernels (`Gen/Streams.lean`) compute, stated for the *repaired* source: against the pinned
tree (bounds tests `curr_ptr_ + size <= buffer_size_`) these lemmas, hence everything downstream, stop compiling.
Then list facts about `poke` / `peek`.
-/
import DmlcModel.Streams.Spec
import DmlcModel.BasicLemmas

namespace DmlcModel.Streams
open DmlcModel DmlcModel.Gen.Streams

theorem u64_lt (n : Nat) : u64 n < M64 := by unfold u64; omega
theorem u64_add_u64 (a b : Nat) : u64 (u64 a + b) = u64 (a + b) := by unfold u64; omega

/-! ### MemoryFixedSizeStream

The lemmas that hold by unfolding are proved with `unfold … ; exact Eq.refl _`, not `rfl`: a lemma proved by `rfl` is
applied by `simp` definitionally, and the kernel check of `fx_step` / `ms_step` then runs out of recursion depth. -/

theorem fxReadOk_spec (cur size bs : Nat) : fxReadOk cur size bs = decide (cur ≤ bs) := by
  unfold fxReadOk; exact Eq.refl _

theorem fxReadN_spec {cur size bs : Nat} (h : cur ≤ bs) (hb : bs < M64) :
    fxReadN cur size bs = min (bs - cur) size := by
  unfold fxReadN; rw [sub64_of_le hb h]

theorem fxReadCopies_spec (n : Nat) : fxReadCopies n = decide (n ≠ 0) := by
  unfold fxReadCopies; by_cases h : n = 0 <;> simp [h]

theorem fxReadCur_spec {cur n : Nat} (h : cur + n < M64) : fxReadCur cur n = cur + n := u64_of_lt h
theorem fxReadRet_spec (n : Nat) : fxReadRet n = n := by
  unfold fxReadRet; exact Eq.refl _
theorem fxWriteEmpty_spec (n : Nat) : fxWriteEmpty n = decide (n = 0) := by
  unfold fxWriteEmpty; by_cases h : n = 0 <;> simp [h]

/-- the repaired bounds test of `Write`: true exactly when the range fits, without wrap-around -/
theorem fxWriteOk_spec {cur size bs : Nat} (hb : bs < M64) :
    fxWriteOk cur size bs = decide (cur + size ≤ bs) := by
  unfold fxWriteOk
  by_cases h : cur ≤ bs
  · rw [sub64_of_le hb h]
    by_cases h2 : size ≤ bs - cur
    · have : cur + size ≤ bs := by omega
      simp [h, h2, this]
    · have : ¬ cur + size ≤ bs := by omega
      simp [h, h2, this]
  · have : ¬ cur + size ≤ bs := by omega
    simp [h, this]

theorem fxWriteCur_spec {cur n : Nat} (h : cur + n < M64) : fxWriteCur cur n = cur + n := u64_of_lt h
theorem fxWriteRet_spec (n : Nat) : fxWriteRet n = n := by
  unfold fxWriteRet; exact Eq.refl _
theorem fxSeek_spec {p : Nat} (h : p < M64) : fxSeek p = p := u64_of_lt h

/-! ### MemoryStringStream -/

theorem msReadOk_spec (cur len : Nat) : msReadOk cur len = decide (cur ≤ len) := by
  unfold msReadOk; exact Eq.refl _

theorem msReadN_spec {cur size len : Nat} (h : cur ≤ len) (hb : len < M64) :
    msReadN cur size len = min (len - cur) size := by
  unfold msReadN; rw [sub64_of_le hb h]

theorem msReadCopies_spec (n : Nat) : msReadCopies n = decide (n ≠ 0) := by
  unfold msReadCopies; by_cases h : n = 0 <;> simp [h]

theorem msReadCur_spec {cur n : Nat} (h : cur + n < M64) : msReadCur cur n = cur + n := u64_of_lt h
theorem msReadRet_spec (n : Nat) : msReadRet n = n := by
  unfold msReadRet; exact Eq.refl _
theorem msWriteEmpty_spec (n : Nat) : msWriteEmpty n = decide (n = 0) := by
  unfold msWriteEmpty; by_cases h : n = 0 <;> simp [h]

/-- the added overflow test of `Write`: true exactly when the end position is representable -/
theorem msWriteOk_spec {cur size len : Nat} (hc : cur < M64) (hs : size < M64) :
    msWriteOk cur size len = decide (cur + size < M64) := by
  unfold msWriteOk u64
  by_cases h : cur + size < M64
  · have : (cur + size) % 18446744073709551616 ≥ cur := by omega
    simp [h, this]
  · have : ¬ (cur + size) % 18446744073709551616 ≥ cur := by omega
    simp [h, this]

theorem msWriteGrows_spec {cur size len : Nat} (h : cur + size < M64) :
    msWriteGrows cur size len = decide (len < cur + size) := by
  unfold msWriteGrows; rw [u64_of_lt h]

theorem msWriteNewLen_spec {cur n : Nat} (h : cur + n < M64) : msWriteNewLen cur n = cur + n := u64_of_lt h
theorem msWriteCur_spec {cur n : Nat} (h : cur + n < M64) : msWriteCur cur n = cur + n := u64_of_lt h
theorem msWriteRet_spec (n : Nat) : msWriteRet n = n := by
  unfold msWriteRet; exact Eq.refl _
theorem msSeek_spec {p : Nat} (h : p < M64) : msSeek p = p := u64_of_lt h

/-! ### FileStream -/

theorem fsSeekOff_spec {p : Nat} (h : p < M64) : fsSeekOff p = p := u64_of_lt h
theorem fsWriteRet_spec (n : Nat) : fsWriteRet n = 0 := by
  unfold fsWriteRet; exact Eq.refl _

/-! ### OutBuf / InBuf -/

theorem obZero_spec (n : Nat) : obZero n = decide (n = 0) := by
  unfold obZero; by_cases h : n = 0 <;> simp [h]
theorem obZeroSize_spec : obZeroSize = 2 := by
  unfold obZeroSize; exact Eq.refl _
theorem obPutEnd_spec {cap : Nat} (h1 : 1 ≤ cap) (h : cap < M64) : obPutEnd cap = cap - 1 := sub64_of_le h h1
theorem obSyncN_spec {p : Nat} (h : p < M64) : obSyncN p 0 = p := by unfold obSyncN sub64; omega
theorem obSyncLen_spec (n : Nat) : obSyncLen n = n := by
  unfold obSyncLen; exact Eq.refl _
theorem obOvN_spec {p : Nat} (h : p < M64) : obOvN p 0 = p := by unfold obOvN sub64; omega
theorem obOvEofLen_spec (n : Nat) : obOvEofLen n = n := by
  unfold obOvEofLen; exact Eq.refl _
theorem obOvLen_spec {n : Nat} (h : n + 1 < M64) : obOvLen n = n + 1 := u64_of_lt h
theorem obSyncCount_spec (c n : Nat) : obSyncCount c n = u64 (c + n) := by
  unfold obSyncCount; exact Eq.refl _
theorem obOvEofCount_spec (c n : Nat) : obOvEofCount c n = u64 (c + n) := by
  unfold obOvEofCount; exact Eq.refl _
theorem obOvCount_spec {c n : Nat} (h : n + 1 < M64) : obOvCount c n = u64 (c + (n + 1)) := by
  unfold obOvCount; rw [u64_of_lt h]
theorem obOvIsEof_spec (c e : Nat) : obOvIsEof c e = decide (c = e) := by
  unfold obOvIsEof; by_cases h : c = e <;> simp [h]

/-- `pbump(-static_cast<int>(n))` moves the put pointer back by `n` (for `n < 2^31`) -/
theorem bump_neg {p n : Nat} (hn : n < 2147483648) (hp : n ≤ p) :
    bump p (sub32 0 (u32 n)) = some (p - n) := by
  by_cases h0 : n = 0
  · have hd : sub32 0 (u32 n) = 0 := by unfold sub32 u32; omega
    rw [hd, h0]; unfold bump
    rw [if_pos (by omega)]; rfl
  · have hd : sub32 0 (u32 n) = 4294967296 - n := by unfold sub32 u32; omega
    rw [hd]; unfold bump
    rw [if_neg (by omega), if_pos (by omega)]
    exact congrArg some (by omega)

theorem obSyncBump_spec (n : Nat) : obSyncBump n = sub32 0 (u32 n) := by
  unfold obSyncBump; exact Eq.refl _
theorem obOvBump_spec (n : Nat) : obOvBump n = sub32 0 (u32 n) := by
  unfold obOvBump; exact Eq.refl _

theorem ibZero_spec (n : Nat) : ibZero n = decide (n = 0) := by
  unfold ibZero; by_cases h : n = 0 <;> simp [h]
theorem ibZeroSize_spec : ibZeroSize = 2 := by
  unfold ibZeroSize; exact Eq.refl _
theorem ibNeedsRefill_spec (g e : Nat) : ibNeedsRefill g e = decide (g = e) := by
  unfold ibNeedsRefill; by_cases h : g = e <;> simp [h]
theorem ibIsEmpty_spec (g e : Nat) : ibIsEmpty g e = decide (g = e) := by
  unfold ibIsEmpty; by_cases h : g = e <;> simp [h]
theorem ibReadSize_spec (cap : Nat) : ibReadSize cap = cap := by
  unfold ibReadSize; exact Eq.refl _
theorem ibNewEnd_spec {sz : Nat} (h : sz < M64) : ibNewEnd 0 sz = sz := by
  unfold ibNewEnd; rw [Nat.zero_add]; exact u64_of_lt h
theorem ibCount_spec (c n : Nat) : ibCount c n = u64 (c + n) := by
  unfold ibCount; exact Eq.refl _

theorem isSetStreamRdbuf_spec : isSetStreamRdbuf = true := by unfold isSetStreamRdbuf; exact Eq.refl _
theorem osSetStreamRdbuf_spec : osSetStreamRdbuf = true := by unfold osSetStreamRdbuf; exact Eq.refl _

/-! ### lists -/

theorem inBounds_of_le {len a n : Nat} (h : a + n ≤ len) : inBounds len a n = true := by
  simp only [inBounds, Bool.and_eq_true, decide_eq_true_eq]; omega

theorem zeros_length (n : Nat) : (zeros n).length = n := by simp [zeros]

theorem peek_length (buf : Bytes) (a n : Nat) : (peek buf a n).length = min n (buf.length - a) := by
  simp [peek]

theorem peek_min (buf : Bytes) (a n : Nat) : peek buf a (min (buf.length - a) n) = peek buf a n := by
  unfold peek; rw [List.take_eq_take_iff]; simp only [List.length_drop]; omega

theorem peek_nil_of_le (buf : Bytes) (a n : Nat) (h : buf.length ≤ a) : peek buf a n = [] := by
  unfold peek; rw [List.drop_of_length_le h]; simp

theorem peek_zero (buf : Bytes) (a : Nat) : peek buf a 0 = [] := by simp [peek]

theorem poke_length_fit (buf : Bytes) (a : Nat) (src : Bytes) (h : a + src.length ≤ buf.length) :
    (poke buf a src).length = buf.length := by
  simp only [poke, List.length_append, List.length_take, List.length_drop]; omega

theorem poke_nil (buf : Bytes) (a : Nat) : poke buf a [] = buf := by simp [poke]

theorem poke_take (buf : Bytes) (a : Nat) (src : Bytes) (h : a ≤ buf.length) :
    (poke buf a src).take (a + src.length) = buf.take a ++ src := by
  have h1 := List.length_take_of_le h
  simp [poke, List.take_append, h1, List.take_of_length_le (Nat.le_add_right_of_le (Nat.le_of_eq h1))]

theorem poke_take_before (buf : Bytes) (a : Nat) (src : Bytes) (h : a ≤ buf.length) :
    (poke buf a src).take a = buf.take a := by
  have h1 := List.length_take_of_le h
  simp [poke, h1]

theorem peek_poke (buf : Bytes) (a : Nat) (src : Bytes) (h : a ≤ buf.length) :
    peek (poke buf a src) a src.length = src := by
  have h1 := List.length_take_of_le h
  simp [peek, poke, h1]

theorem poke_drop (buf : Bytes) (a : Nat) (src : Bytes) (h : a ≤ buf.length) :
    (poke buf a src).drop (a + src.length) = buf.drop (a + src.length) := by
  have h1 := List.length_take_of_le h
  simp [poke, List.drop_append, h1]

theorem take_append_zeros (buf : Bytes) (c k : Nat) (h : c - buf.length ≤ k) :
    (buf ++ zeros k).take c = buf.take c ++ zeros (c - buf.length) := by
  rw [List.take_append]; congr 1
  simp only [zeros, List.take_replicate]; congr 1; omega

/-- a write that ends behind the buffer: whether the buffer is first grown with zeros up to the end of the written
range (`std::string::resize`) or only up to the cursor, the write leaves the same bytes -- the extra zeros are overwritten -/
theorem poke_grown (buf : Bytes) (cur : Nat) (bs : Bytes) (h : buf.length < cur + bs.length) :
    poke (buf ++ zeros (cur + bs.length - buf.length)) cur bs = poke (buf ++ zeros (cur - buf.length)) cur bs := by
  unfold poke
  rw [take_append_zeros _ _ _ (by omega), take_append_zeros _ _ _ (Nat.le_refl _),
    List.drop_of_length_le (by simp only [List.length_append, zeros_length]; omega),
    List.drop_of_length_le (by simp only [List.length_append, zeros_length]; omega)]

end DmlcModel.Streams
