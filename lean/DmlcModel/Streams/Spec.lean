/-
The vocabulary the C19 theorems are stated in, beside the model: the stores read as a byte array with a cursor, the
invariants of the two adaptors and what they hold (`pending`, `ahead`), the in-order consumers they are compared with.
Definitions only.
-/
import DmlcModel.Streams.Model

namespace DmlcModel.Streams
open DmlcModel

/-- 2^64 -/
scoped notation "M64" => (18446744073709551616 : Nat)

def MemFixed.abs (s : MemFixed) : Arr := { data := s.buf, cur := s.cur }

def MemStr.abs (s : MemStr) : Arr := { data := s.buf, cur := s.cur }

def File.abs (s : File) : Arr := { data := s.data, cur := s.pos }

structure OInv (s : OBuf) : Prop where
  len : s.buf.length = s.cap
  pos : 1 ≤ s.cap
  /-- 2^31: `pbump` takes an `int` -/
  small : s.cap < 2147483648
  ep : s.epptr = s.cap - 1
  pp : s.pptr ≤ s.epptr
  cnt : s.count < M64

/-- the bytes sitting in the put area `[pbase, pptr)` -/
def OBuf.pending (s : OBuf) : Bytes := s.buf.take s.pptr

def OOp.syncs : OOp → Bool
  | .flush | .reattach | .setStream _ | .ovEof | .destroy => true
  | _ => false

structure IInv (s : ISt) : Prop where
  len : s.ib.buf.length = s.ib.cap
  pos : 1 ≤ s.ib.cap
  small : s.ib.cap < M64
  ge : s.ib.gptr ≤ s.ib.egptr
  ee : s.ib.egptr ≤ s.ib.cap
  cnt : s.ib.count < M64

/-- the bytes sitting in the get area `[gptr, egptr)` -/
def ISt.buffered (s : ISt) : Bytes := peek s.ib.buf s.ib.gptr (s.ib.egptr - s.ib.gptr)

/-- everything a consumer is still going to see: the get area, then the rest of the stream -/
def ISt.ahead (s : ISt) : Bytes := s.buffered ++ s.src.data.drop s.src.cur

def ispec (rest : Bytes) : IOp → Bytes × IOut
  | .get => (rest.drop 1, .char rest.head?)
  | .peek => (rest, .char rest.head?)
  | .read n => (rest.drop n, .block (rest.take n))
  | .useek _ => (rest, .unit)

def ispecRun : Bytes → List IOp → List IOut × Bytes
  | rest, [] => ([], rest)
  | rest, op :: ops => ((ispec rest op).2 :: (ispecRun (ispec rest op).1 ops).1, (ispecRun (ispec rest op).1 ops).2)

def IOp.isSeek : IOp → Bool
  | .useek _ => true
  | _ => false

def IOut.delivered : IOp → IOut → Bytes
  | .get, .char (some c) => [c]
  | .read _, .block bs => bs
  | _, _ => []

structure FSpec where
  rest : Bytes
  eofbit : Bool
  failbit : Bool
  deriving Repr, DecidableEq

def FSpec.extract (c : FSpec) (op : FOp) (iop : IOp) : FSpec × IOut :=
  if c.eofbit || c.failbit then ({ c with failbit := true }, sentryFail op)
  else ({ rest := (ispec c.rest iop).1, eofbit := (shortFlags op (ispec c.rest iop).2).1,
          failbit := (shortFlags op (ispec c.rest iop).2).2 }, (ispec c.rest iop).2)

/-- `prov` = what the streams attached by the `set_stream` calls of the history provide, in order -/
def fspecStep (c : FSpec) (prov : List Bytes) : FOp → FSpec × List Bytes × IOut
  | .get => ((c.extract .get .get).1, prov, (c.extract .get .get).2)
  | .peek => ((c.extract .peek .peek).1, prov, (c.extract .peek .peek).2)
  | .read n => ((c.extract (.read n) (.read n)).1, prov, (c.extract (.read n) (.read n)).2)
  | .raw iop => ({ c with rest := (ispec c.rest iop).1 }, prov, (ispec c.rest iop).2)
  | .clear => ({ c with eofbit := false, failbit := false }, prov, .unit)
  | .useek _ _ => (c, prov, .unit)
  | .setStream _ =>
    match prov with
    | p :: pr => ({ rest := p, eofbit := false, failbit := false }, pr, .unit)
    | [] => (c, [], .unit)

def fspecRun : FSpec → List Bytes → List FOp → List IOut
  | _, _, [] => []
  | c, prov, op :: ops => (fspecStep c prov op).2.2 :: fspecRun (fspecStep c prov op).1 (fspecStep c prov op).2.1 ops

/-- histories the specification speaks about: `set_stream` names an existing stream (`n` streams), and
the attached stream is not repositioned behind the adaptor's back while it is attached (a stream may
be repositioned while detached, e.g. before it is attached again) -/
def okHistory (n : Nat) : Nat → List FOp → Prop
  | _, [] => True
  | _, .setStream j :: ops => j < n ∧ okHistory n j ops
  | idx, .useek j _ :: ops => j ≠ idx ∧ okHistory n idx ops
  | idx, .raw iop :: ops => iop.isSeek = false ∧ okHistory n idx ops
  | idx, .get :: ops => okHistory n idx ops
  | idx, .peek :: ops => okHistory n idx ops
  | idx, .read _ :: ops => okHistory n idx ops
  | idx, .clear :: ops => okHistory n idx ops

structure FRel (n : Nat) (s : IOS) (c : FSpec) : Prop where
  inv : IInv s.st
  rest : c.rest = s.st.ahead
  eofbit : c.eofbit = s.eofbit
  failbit : c.failbit = s.failbit
  len : s.parked.length = n
  idx : s.idx < n

end DmlcModel.Streams
