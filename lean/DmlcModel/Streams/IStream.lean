/-
`istream::InBuf` under the libstdc++ get protocol: every operation is described by its effect `IEff` on what is ahead.
-/
import DmlcModel.Streams.Lemmas

namespace DmlcModel.Streams
open DmlcModel DmlcModel.Gen.Streams

/-- effect of a get-side operation that consumes `k` of the bytes ahead (what it hands out is then a function of
`s.ahead`); past the end of the stream `k` may exceed what was there -/
structure IEff (s s' : ISt) (k : Nat) : Prop where
  inv : IInv s'
  data : s'.src.data = s.src.data
  ahead : s'.ahead = s.ahead.drop k
  /-- the wrapped stream is only read forward (needed to add up `count` along a history) -/
  mono : s.src.cur ≤ s'.src.cur
  count : s'.ib.count = u64 (s.ib.count + (s'.src.cur - s.src.cur))
  /-- a cursor inside the stream stays inside (a `Seek` behind the adaptor's back may have put it outside) -/
  le : s.src.cur ≤ s.src.data.length → s'.src.cur ≤ s'.src.data.length

theorem IInv.buffered_length {s : ISt} (h : IInv s) : s.buffered.length = s.ib.egptr - s.ib.gptr := by
  have := h.len; have := h.ge; have := h.ee
  simp only [ISt.buffered, peek_length]; omega

theorem IEff.refl {s : ISt} (h : IInv s) : IEff s s 0 :=
  ⟨h, rfl, rfl, Nat.le_refl _, by simp [u64_of_lt h.cnt], id⟩

theorem IEff.trans {s s1 s2 : ISt} {k1 k2 : Nat} (h1 : IEff s s1 k1) (h2 : IEff s1 s2 k2) :
    IEff s s2 (k1 + k2) := by
  refine ⟨h2.inv, by rw [h2.data, h1.data], by rw [h2.ahead, h1.ahead, List.drop_drop],
    Nat.le_trans h1.mono h2.mono, ?_, fun h => h2.le (h1.le h)⟩
  rw [h2.count, h1.count, u64_add_u64]
  have := h1.mono; have := h2.mono
  congr 1; omega

theorem IEff.past_end {s s' : ISt} {k : Nat} (h : IEff s s' k) (hk : s.ahead.length ≤ k) {k' : Nat} (hk' : k ≤ k') :
    IEff s s' k' :=
  { h with ahead := by rw [h.ahead, List.drop_of_length_le hk, List.drop_of_length_le (by omega)] }

theorem take_append_drop_length (l : Bytes) (n : Nat) : l.take n ++ l.drop (l.take n).length = l := by
  rw [List.length_take]
  by_cases h : n ≤ l.length
  · rw [Nat.min_eq_left h]; exact List.take_append_drop n l
  · rw [Nat.min_eq_right (by omega), List.drop_of_length_le (Nat.le_refl _), List.take_of_length_le (by omega)]
    simp

theorem create_iinv (b : Nat) (hb : b < M64) (src : Arr) :
    IInv { ib := IBuf.create b, src := src } ∧
    (ISt.ahead { ib := IBuf.create b, src := src }) = src.data.drop src.cur ∧
    (IBuf.create b).count = 0 := by
  have key : ∀ cap : Nat, 1 ≤ cap → cap < M64 →
      IInv { ib := { cap := cap, buf := zeros cap, gptr := 0, egptr := 0, count := 0 }, src := src } :=
    fun cap h1 h2 => ⟨zeros_length cap, h1, h2, Nat.le_refl _, Nat.zero_le _, by simp⟩
  unfold IBuf.create
  simp only [ibZero_spec, ibZeroSize_spec]
  by_cases h0 : b = 0
  · simp only [h0, decide_true, if_true]
    exact ⟨key 2 (by omega) (by omega), by simp [ISt.ahead, ISt.buffered, peek], trivial⟩
  · simp only [h0, decide_false, if_false, Bool.false_eq_true]
    exact ⟨key b (by omega) hb, by simp [ISt.ahead, ISt.buffered, peek], trivial⟩

theorem advance_eff (s : ISt) (h : IInv s) (k : Nat) (hk : k ≤ s.ib.egptr - s.ib.gptr) :
    IEff s { s with ib := { s.ib with gptr := s.ib.gptr + k } } k ∧
    peek s.ib.buf s.ib.gptr k = s.ahead.take k := by
  have hlen := h.len; have hge := h.ge; have hee := h.ee
  have hbl := h.buffered_length
  have hpk : peek s.ib.buf s.ib.gptr k = s.buffered.take k := by
    simp only [ISt.buffered, peek, List.take_take]; congr 1; omega
  have hdr : peek s.ib.buf (s.ib.gptr + k) (s.ib.egptr - (s.ib.gptr + k)) = s.buffered.drop k := by
    simp only [ISt.buffered, peek, List.drop_take, List.drop_drop]
    congr 1; omega
  refine ⟨⟨⟨hlen, h.pos, h.small, by simp only; omega, hee, h.cnt⟩, rfl, ?_, Nat.le_refl _, ?_, id⟩, ?_⟩
  · simp only [ISt.ahead]
    rw [List.drop_append_of_le_length (by omega), ← hdr]; rfl
  · simp [u64_of_lt h.cnt]
  · rw [hpk]; simp only [ISt.ahead]
    rw [List.take_append_of_le_length (by omega)]

theorem deref_gptr (s : ISt) (h : IInv s) (hlt : s.ib.gptr < s.ib.egptr) :
    ∃ c rest, s.ib.buf.drop s.ib.gptr = c :: rest ∧ s.ahead.head? = some c := by
  have hlen := h.len; have hee := h.ee
  have hg : s.ib.gptr < s.ib.buf.length := by omega
  refine ⟨s.ib.buf[s.ib.gptr], s.ib.buf.drop (s.ib.gptr + 1), List.drop_eq_getElem_cons hg, ?_⟩
  simp only [ISt.ahead, ISt.buffered, peek, List.drop_eq_getElem_cons hg]
  have : s.ib.egptr - s.ib.gptr = (s.ib.egptr - s.ib.gptr - 1) + 1 := by omega
  rw [this, List.take_succ_cons]; rfl

theorem refilled_eff (s : ISt) (h : IInv s) (hg : s.ib.gptr = s.ib.egptr) :
    IEff s s.refilled 0 ∧ (s.refilled.ib.gptr = s.refilled.ib.egptr → s.refilled.ahead = []) := by
  have hlen := h.len; have hge := h.ge; have hee := h.ee; have hsm := h.small; have hpos := h.pos
  have hbl : (peek s.src.data s.src.cur s.ib.cap).length ≤ s.ib.cap := by rw [peek_length]; omega
  have hne : ibNewEnd 0 (peek s.src.data s.src.cur s.ib.cap).length = (peek s.src.data s.src.cur s.ib.cap).length :=
    ibNewEnd_spec (by omega)
  have hgp : s.refilled.ib.gptr = 0 := rfl
  have hep : s.refilled.ib.egptr = (peek s.src.data s.src.cur s.ib.cap).length := by
    simp only [ISt.refilled, srcRead, ibReadSize_spec, hne]
  have hbf : s.refilled.ib.buf = poke s.ib.buf 0 (peek s.src.data s.src.cur s.ib.cap) := by
    simp only [ISt.refilled, srcRead, ibReadSize_spec]
  have hcur : s.refilled.src.cur = s.src.cur + (peek s.src.data s.src.cur s.ib.cap).length := by
    simp only [ISt.refilled, srcRead, ibReadSize_spec]
  have hdat : s.refilled.src.data = s.src.data := rfl
  have hcnt : s.refilled.ib.count = u64 (s.ib.count + (peek s.src.data s.src.cur s.ib.cap).length) := by
    simp only [ISt.refilled, srcRead, ibReadSize_spec, ibCount_spec]
  have hbuf : s.refilled.buffered = peek s.src.data s.src.cur s.ib.cap := by
    simp only [ISt.buffered, hgp, hep, hbf, peek, List.drop_zero, Nat.sub_zero]
    have := poke_take s.ib.buf 0 ((s.src.data.drop s.src.cur).take s.ib.cap) (Nat.zero_le _)
    simpa [peek] using this
  have hold : s.buffered = [] := by simp [ISt.buffered, hg, peek]
  have hah : s.refilled.ahead = s.src.data.drop s.src.cur := by
    simp only [ISt.ahead, hbuf, hdat, hcur]
    have := take_append_drop_length (s.src.data.drop s.src.cur) s.ib.cap
    simp only [List.drop_drop] at this
    simpa [peek] using this
  refine ⟨⟨⟨?_, hpos, hsm, by rw [hgp]; exact Nat.zero_le _, by rw [hep]; exact hbl, by rw [hcnt]; exact u64_lt _⟩,
    rfl, ?_, by rw [hcur]; omega, ?_, ?_⟩, ?_⟩
  · rw [hbf, poke_length_fit _ _ _ (by omega)]; exact hlen
  · rw [hah]; simp [ISt.ahead, hold]
  · rw [hcnt, hcur]; congr 2; omega
  · intro hle; rw [hcur, hdat]; simp only [peek_length]; omega
  · intro he
    rw [hgp, hep] at he
    have hnil : peek s.src.data s.src.cur s.ib.cap = [] := List.eq_nil_of_length_eq_zero he.symm
    have hl := congrArg List.length hnil
    simp only [peek_length, List.length_nil] at hl
    rw [hah]; exact List.drop_of_length_le (by omega)

theorem refill_eff (s : ISt) (h : IInv s) :
    ∃ s1, s.refill = some s1 ∧ IEff s s1 0 ∧ (s1.ib.gptr = s1.ib.egptr → s1.ahead = []) := by
  unfold ISt.refill
  simp only [ibNeedsRefill_spec, ibReadSize_spec, Nat.le_refl, if_true]
  by_cases hg : s.ib.gptr = s.ib.egptr
  · rw [if_pos (by simpa using hg)]
    obtain ⟨h1, h2⟩ := refilled_eff s h hg
    exact ⟨_, rfl, h1, h2⟩
  · rw [if_neg (by simpa using hg)]
    exact ⟨s, rfl, IEff.refl h, fun he => absurd he hg⟩

theorem underflow_eff (s : ISt) (h : IInv s) :
    ∃ s1, s.underflow = some (s1, s.ahead.head?) ∧ IEff s s1 0 ∧
      (s.ahead ≠ [] → s1.ib.gptr < s1.ib.egptr) := by
  obtain ⟨s1, hr, heff, hemp⟩ := refill_eff s h
  have hah : s1.ahead = s.ahead := heff.ahead
  unfold ISt.underflow
  rw [hr, ← hah]
  simp only [ibIsEmpty_spec]
  by_cases hg : s1.ib.gptr = s1.ib.egptr
  · simp only [hg, decide_true, if_true, hemp hg, List.head?_nil]
    exact ⟨s1, rfl, heff, fun hne => absurd rfl hne⟩
  · have hlt : s1.ib.gptr < s1.ib.egptr := by have := heff.inv.ge; omega
    obtain ⟨c, rest, hd, hhead⟩ := deref_gptr s1 heff.inv hlt
    simp only [hg, decide_false, if_false, Bool.false_eq_true, hd, hhead]
    exact ⟨s1, rfl, heff, fun _ => hlt⟩

theorem uflow_eff (s : ISt) (h : IInv s) :
    ∃ s2, s.uflow = some (s2, s.ahead.head?) ∧ IEff s s2 1 := by
  obtain ⟨s1, hu, heff, hlt⟩ := underflow_eff s h
  unfold ISt.uflow
  rw [hu]
  cases hA : s.ahead with
  | nil => exact ⟨s1, rfl, heff.past_end (by simp [hA]) (Nat.zero_le 1)⟩
  | cons a rest =>
    obtain ⟨c, r, hd, hhead⟩ := deref_gptr s1 heff.inv (hlt (by simp [hA]))
    simp only [List.head?_cons, hd]
    rw [heff.ahead, List.drop_zero, hA, List.head?_cons, Option.some.injEq] at hhead
    exact ⟨_, by rw [hhead], heff.trans (advance_eff s1 heff.inv 1 (by have := hlt (by simp [hA]); omega)).1⟩

theorem sgetc_eff (s : ISt) (h : IInv s) :
    ∃ s1, s.sgetc = some (s1, s.ahead.head?) ∧ IEff s s1 0 := by
  unfold ISt.sgetc
  by_cases hlt : s.ib.gptr < s.ib.egptr
  · obtain ⟨c, r, hd, hhead⟩ := deref_gptr s h hlt
    simp only [hlt, if_true, hd, hhead]
    exact ⟨s, rfl, IEff.refl h⟩
  · simp only [hlt, if_false]
    obtain ⟨s1, hu, heff, _⟩ := underflow_eff s h
    exact ⟨s1, hu, heff⟩

theorem sbumpc_eff (s : ISt) (h : IInv s) :
    ∃ s1, s.sbumpc = some (s1, s.ahead.head?) ∧ IEff s s1 1 := by
  unfold ISt.sbumpc
  by_cases hlt : s.ib.gptr < s.ib.egptr
  · obtain ⟨c, r, hd, hhead⟩ := deref_gptr s h hlt
    simp only [hlt, if_true, hd, hhead]
    exact ⟨_, rfl, (advance_eff s h 1 (by omega)).1⟩
  · simp only [hlt, if_false]
    exact uflow_eff s h

theorem xsgetnGo_eff : ∀ (fuel : Nat) (s : ISt) (want : Nat) (acc : Bytes), IInv s → want < fuel →
    ∃ s', ISt.xsgetnGo fuel s want acc = some (s', acc ++ s.ahead.take want) ∧ IEff s s' want := by
  intro fuel
  induction fuel with
  | zero => intro s want acc _ hf; omega
  | succ fuel ih =>
    intro s want acc h hf
    have hlen := h.len; have hge := h.ge; have hee := h.ee
    unfold ISt.xsgetnGo
    by_cases hw : want = 0
    · subst hw
      simp only [if_true, List.take_zero, List.append_nil]
      exact ⟨s, rfl, IEff.refl h⟩
    · have hng : ¬ s.ib.egptr < s.ib.gptr := by omega
      have hel : s.ib.egptr ≤ s.ib.buf.length := by omega
      simp only [hw, if_false, hng, hel, if_true]
      by_cases hfit : want ≤ s.ib.egptr - s.ib.gptr
      · obtain ⟨hadv, hpk⟩ := advance_eff s h want hfit
        simp only [hfit, if_true]
        exact ⟨_, by rw [hpk], hadv⟩
      · simp only [hfit, if_false]
        -- the whole get area (`b` bytes), then one character through `uflow`, then the rest
        generalize hb : s.ib.egptr - s.ib.gptr = b at hfit
        obtain ⟨hadv, hpk⟩ := advance_eff s h b (by omega)
        rw [show s.ib.gptr + b = s.ib.egptr by omega] at hadv
        obtain ⟨s1, hu, heff1⟩ := uflow_eff _ hadv.inv
        have htot := hadv.trans heff1
        rw [hu, hpk, hadv.ahead]
        cases hA : (s.ahead.drop b).head? with
        | none =>
          have hl : s.ahead.length ≤ b := List.drop_eq_nil_iff.1 (List.head?_eq_none_iff.1 hA)
          refine ⟨s1, ?_, htot.past_end (by omega) (by omega)⟩
          rw [List.take_of_length_le hl, List.take_of_length_le (by omega)]
        | some c =>
          obtain ⟨m, rfl⟩ : ∃ m, want = b + 1 + m := ⟨want - b - 1, by omega⟩
          obtain ⟨t, ht⟩ : ∃ t, s.ahead.drop b = c :: t := by
            cases hD : s.ahead.drop b with
            | nil => simp [hD] at hA
            | cons x t => exact ⟨t, by simpa [hD] using hA⟩
          obtain ⟨s', hrun, heff2⟩ := ih s1 m (acc ++ s.ahead.take b ++ [c]) heff1.inv (by omega)
          refine ⟨s', ?_, htot.trans heff2⟩
          simp only [show b + 1 + m - b - 1 = m by omega, hrun, htot.ahead]
          -- `take (b + 1 + m) ahead = take b ahead ++ c :: take m (drop (b + 1) ahead)`, with `drop b ahead = c :: t`
          rw [Nat.add_assoc, List.take_add, ht, Nat.add_comm 1 m, List.take_succ_cons, ← List.drop_drop, ht]
          simp

theorem xsgetn_eff (s : ISt) (h : IInv s) (n : Nat) :
    ∃ s', s.xsgetn n = some (s', s.ahead.take n) ∧ IEff s s' n := by
  obtain ⟨s', h1, h2⟩ := xsgetnGo_eff (n + 1) s n [] h (by omega)
  rw [List.nil_append] at h1
  exact ⟨s', h1, h2⟩

theorem istep_eff (s : ISt) (h : IInv s) (op : IOp) (hop : op.isSeek = false) :
    ∃ s' k, s.step op = some (s', (ispec s.ahead op).2) ∧ s'.ahead = (ispec s.ahead op).1 ∧ IEff s s' k := by
  cases op with
  | get =>
    obtain ⟨s1, h1, h2⟩ := sbumpc_eff s h
    exact ⟨s1, _, by simp only [ISt.step, h1, ispec], h2.ahead, h2⟩
  | peek =>
    obtain ⟨s1, h1, h2⟩ := sgetc_eff s h
    exact ⟨s1, _, by simp only [ISt.step, h1, ispec], h2.ahead, h2⟩
  | read n =>
    obtain ⟨s1, h1, h2⟩ := xsgetn_eff s h n
    exact ⟨s1, _, by simp only [ISt.step, h1, ispec], h2.ahead, h2⟩
  | useek p => simp [IOp.isSeek] at hop

/-- seeks of the wrapped stream behind the adaptor's back included -/
theorem istep_total (s : ISt) (h : IInv s) (op : IOp) : ∃ s' o, s.step op = some (s', o) ∧ IInv s' := by
  cases hs : op.isSeek with
  | false =>
    obtain ⟨s1, _, h1, _, h2⟩ := istep_eff s h op hs
    exact ⟨s1, _, h1, h2.inv⟩
  | true =>
    cases op <;> cases hs
    exact ⟨_, _, rfl, ⟨h.len, h.pos, h.small, h.ge, h.ee, h.cnt⟩⟩

theorem irun_total : ∀ (ops : List IOp) (s : ISt), IInv s → ∃ s' outs, irun s ops = some (s', outs) ∧ IInv s'
  | [], s, h => ⟨s, [], rfl, h⟩
  | op :: ops, s, h => by
    obtain ⟨s1, o, h1, h2⟩ := istep_total s h op
    obtain ⟨s2, os, h3, h4⟩ := irun_total ops s1 h2
    exact ⟨s2, o :: os, by simp only [irun, h1, h3], h4⟩

theorem irun_spec : ∀ (ops : List IOp) (s : ISt), IInv s → (∀ op ∈ ops, op.isSeek = false) →
    ∃ s' k, irun s ops = some (s', (ispecRun s.ahead ops).1) ∧ s'.ahead = (ispecRun s.ahead ops).2 ∧ IEff s s' k
  | [], s, h, _ => ⟨s, 0, rfl, rfl, IEff.refl h⟩
  | op :: ops, s, h, hops => by
    rw [List.forall_mem_cons] at hops
    obtain ⟨s1, _, h1, hA, heff⟩ := istep_eff s h op hops.1
    obtain ⟨s2, _, h3, hA2, heff2⟩ := irun_spec ops s1 heff.inv hops.2
    exact ⟨s2, _, by simp only [irun, h1, h3, ispecRun, hA], by simp only [ispecRun]; rw [← hA]; exact hA2,
      heff.trans heff2⟩

end DmlcModel.Streams
