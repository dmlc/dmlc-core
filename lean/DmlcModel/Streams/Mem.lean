/-
Refinement of the three stores (MemoryFixedSizeStream, MemoryStringStream, FileStream) to the byte
array with a cursor: one lemma per class for a single call, one generic induction over histories.
-/
import DmlcModel.Streams.Lemmas

namespace DmlcModel.Streams
open DmlcModel DmlcModel.Gen.Streams

theorem Arr.step_not_ub (F : Flavor) (a : Arr) (op : Op) : (Arr.step F a op).1.isUb = false := by
  cases op <;> simp only [Arr.step] <;> repeat' split
  all_goals rfl

theorem Arr.step_not_dead (F : Flavor) (a : Arr) (op : Op) : (Arr.step F a op).1 ≠ Out.dead := by
  cases op <;> simp only [Arr.step] <;> repeat' split
  all_goals simp

theorem run_refines {σ : Type} (step : σ → Op → Out × σ) (F : Flavor) (abs : σ → Arr) (Inv : σ → Prop)
    (hstep : ∀ s op, Inv s → op.fits64 →
      (step s op).1 = (Arr.step F (abs s) op).1 ∧ abs (step s op).2 = (Arr.step F (abs s) op).2 ∧ Inv (step s op).2) :
    ∀ (ops : List Op) (s : σ), Inv s → (∀ op ∈ ops, op.fits64) →
      (run step s ops).1 = (run (Arr.step F) (abs s) ops).1 ∧
      abs (run step s ops).2 = (run (Arr.step F) (abs s) ops).2 ∧ Inv (run step s ops).2
  | [], s, hs, _ => ⟨rfl, rfl, hs⟩
  | op :: ops, s, hs, hops => by
    rw [List.forall_mem_cons] at hops
    obtain ⟨h1, h2, h3⟩ := hstep s op hs hops.1
    have hnu := Arr.step_not_ub F (abs s) op
    have := run_refines step F abs Inv hstep ops (step s op).2 h3 hops.2
    simp only [run, hnu, h1 ▸ hnu]
    rw [h2] at this
    simp [h1, this]

/-- close `out = out' ∧ abs = abs' ∧ Inv` once `simp` has normalised both sides -/
local macro "close3 " x:term : tactic => `(tactic| (refine ⟨?_, ?_, $x⟩ <;> first | trivial | rfl))

/-- the left side is the text of the copying branch of `Read` in `MemFixed.step` / `MemStr.step` with the Gen items replaced
by their `_spec`s (`x` the state afterwards, `y` the state at `ub`) -/
theorem read_copy {α : Type} (buf : Bytes) (cur n : Nat) (hcl : cur ≤ buf.length) (x y : α) :
    (if decide (min (buf.length - cur) n ≠ 0) = true then
        if inBounds buf.length cur (min (buf.length - cur) n) = true then
          (Out.bytes (min (buf.length - cur) n) (peek buf cur (min (buf.length - cur) n)), x)
        else (Out.ub, y)
      else (Out.bytes (min (buf.length - cur) n) [], x)) =
      (Out.bytes (peek buf cur n).length (peek buf cur n), x) ∧
    (peek buf cur n).length = min (buf.length - cur) n := by
  have hk : (peek buf cur n).length = min (buf.length - cur) n := by rw [peek_length]; omega
  refine ⟨?_, hk⟩
  rw [peek_min, hk]
  by_cases h0 : min (buf.length - cur) n = 0
  · simp only [h0, ne_eq, not_true_eq_false, decide_false, Bool.false_eq_true, if_false,
      List.eq_nil_of_length_eq_zero (hk.trans h0)]
  · have hib : inBounds buf.length cur (min (buf.length - cur) n) = true := inBounds_of_le (by omega)
    simp only [h0, ne_eq, not_false_eq_true, decide_true, if_true, hib]

structure FxInv (N : Nat) (s : MemFixed) : Prop where
  len : s.buf.length = N
  cur : s.cur < M64

theorem fx_read (s : MemFixed) (hN : s.buf.length < M64) (n : Nat) (hcur : s.cur ≤ s.buf.length) :
    MemFixed.step Arith.gen s (.read n) =
      (.bytes (min n (s.buf.length - s.cur)) (peek s.buf s.cur n), { s with cur := s.cur + min n (s.buf.length - s.cur) }) := by
  obtain ⟨hrd, hk⟩ := read_copy s.buf s.cur n hcur
    ({ s with cur := s.cur + min (s.buf.length - s.cur) n } : MemFixed) s
  simp only [MemFixed.step, Arith.gen, fxReadOk_spec, fxReadCopies_spec, fxReadRet_spec, fxReadN_spec hcur hN,
    fxReadCur_spec (show s.cur + min (s.buf.length - s.cur) n < M64 by omega), hcur, decide_true,
    if_true, hrd, hk, Nat.min_comm n]

theorem fx_step (N : Nat) (hN : N < M64) (s : MemFixed) (h : FxInv N s) (op : Op) (hop : op.fits64) :
    (MemFixed.step Arith.gen s op).1 = (Arr.step (Flavor.fixed N) s.abs op).1 ∧
    (MemFixed.step Arith.gen s op).2.abs = (Arr.step (Flavor.fixed N) s.abs op).2 ∧
    FxInv N (MemFixed.step Arith.gen s op).2 := by
  obtain ⟨hl, hc⟩ := h
  have hlen : s.buf.length < M64 := by omega
  cases op with
  | read n =>
    by_cases hcl : s.cur ≤ s.buf.length
    · simp only [fx_read s hlen n hcl, Arr.step, MemFixed.abs, hcl, if_true, peek_length]
      close3 ⟨hl, by simp only; omega⟩
    · simp only [MemFixed.step, Arith.gen, Arr.step, MemFixed.abs, Flavor.fixed, fxReadOk_spec, hcl, decide_false,
        if_false, Bool.false_eq_true]
      close3 ⟨hl, hc⟩
  | write bs =>
    have hb : bs.length < M64 := hop
    simp only [MemFixed.step, Arith.gen, Arr.step, MemFixed.abs, Flavor.fixed, fxWriteEmpty_spec, fxWriteRet_spec,
      fxWriteOk_spec hlen]
    by_cases he : bs = []
    · subst he; simp only [List.length_nil, decide_true, if_true]
      close3 ⟨hl, hc⟩
    · have hne : bs.length ≠ 0 := fun h => he (List.eq_nil_of_length_eq_zero h)
      simp only [hne, decide_false, he, if_false, Bool.false_eq_true]
      by_cases hfit : s.cur + bs.length ≤ s.buf.length
      · have hib := inBounds_of_le hfit
        have hfitN : s.cur + bs.length ≤ N := by omega
        have hz : s.cur - s.buf.length = 0 := by omega
        have hcur : fxWriteCur s.cur bs.length = s.cur + bs.length := fxWriteCur_spec (by omega)
        simp only [hfit, hfitN, decide_true, if_true, hib, hz, hcur, zeros, List.replicate_zero, List.append_nil, id]
        close3 ⟨by simp only; rw [poke_length_fit _ _ _ hfit]; exact hl, by simp only; omega⟩
      · have hfitN : ¬ s.cur + bs.length ≤ N := by omega
        simp only [hfit, hfitN, decide_false, if_false, Bool.false_eq_true]
        close3 ⟨hl, hc⟩
  | seek p =>
    have hp : p < M64 := hop
    simp only [MemFixed.step, Arith.gen, Arr.step, MemFixed.abs, Flavor.fixed, fxSeek_spec hp, hp, if_true]
    close3 ⟨hl, hp⟩
  | tell =>
    simp only [MemFixed.step, Arr.step, MemFixed.abs]
    close3 ⟨hl, hc⟩

structure MsInv (s : MemStr) : Prop where
  len : s.buf.length ≤ strMax
  cur : s.cur < M64

theorem strMax_lt : strMax < M64 := by decide

theorem ms_read (s : MemStr) (hN : s.buf.length < M64) (n : Nat) (hcur : s.cur ≤ s.buf.length) :
    MemStr.step Arith.gen s (.read n) =
      (.bytes (min n (s.buf.length - s.cur)) (peek s.buf s.cur n), { s with cur := s.cur + min n (s.buf.length - s.cur) }) := by
  obtain ⟨hrd, hk⟩ := read_copy s.buf s.cur n hcur
    ({ s with cur := s.cur + min (s.buf.length - s.cur) n } : MemStr) s
  simp only [MemStr.step, Arith.gen, msReadOk_spec, msReadCopies_spec, msReadRet_spec, msReadN_spec hcur hN,
    msReadCur_spec (show s.cur + min (s.buf.length - s.cur) n < M64 by omega), hcur, decide_true,
    if_true, hrd, hk, Nat.min_comm n]

theorem ms_step (s : MemStr) (h : MsInv s) (op : Op) (hop : op.fits64) :
    (MemStr.step Arith.gen s op).1 = (Arr.step Flavor.string s.abs op).1 ∧
    (MemStr.step Arith.gen s op).2.abs = (Arr.step Flavor.string s.abs op).2 ∧
    MsInv (MemStr.step Arith.gen s op).2 := by
  obtain ⟨hl, hc⟩ := h
  have hsm := strMax_lt
  have hlen : s.buf.length < M64 := by omega
  cases op with
  | read n =>
    by_cases hcl : s.cur ≤ s.buf.length
    · simp only [ms_read s hlen n hcl, Arr.step, MemStr.abs, hcl, if_true, peek_length]
      close3 ⟨hl, by simp only; omega⟩
    · simp only [MemStr.step, Arith.gen, Arr.step, MemStr.abs, Flavor.string, msReadOk_spec, hcl, decide_false,
        if_false, Bool.false_eq_true]
      close3 ⟨hl, hc⟩
  | write bs =>
    have hb : bs.length < M64 := hop
    simp only [MemStr.step, Arith.gen, Arr.step, MemStr.abs, Flavor.string, msWriteEmpty_spec, msWriteRet_spec,
      msWriteOk_spec hc hb]
    by_cases he : bs = []
    · subst he; simp only [List.length_nil, decide_true, if_true]
      close3 ⟨hl, hc⟩
    · have hne : bs.length ≠ 0 := fun h => he (List.eq_nil_of_length_eq_zero h)
      simp only [hne, decide_false, he, if_false, Bool.false_eq_true]
      by_cases hrep : s.cur + bs.length < M64
      · simp only [hrep, decide_true, if_true, msWriteGrows_spec hrep, msWriteNewLen_spec hrep, msWriteCur_spec hrep]
        by_cases hg : s.buf.length < s.cur + bs.length
        · simp only [hg, decide_true, if_true, strResize]
          by_cases hmax : s.cur + bs.length ≤ strMax
          · have hnm : ¬ strMax < s.cur + bs.length := by omega
            have htk : List.take (s.cur + bs.length) s.buf = s.buf := List.take_of_length_le (by omega)
            have hib : inBounds (s.buf ++ zeros (s.cur + bs.length - s.buf.length)).length s.cur bs.length = true :=
              inBounds_of_le (by simp only [List.length_append, zeros_length]; omega)
            simp only [hnm, hmax, if_false, if_true, htk, hib, id]
            -- `resize` up to the end of the written range, the specification pads up to the cursor only
            rw [poke_grown s.buf s.cur bs hg]
            refine ⟨by first | trivial | rfl, by first | trivial | rfl, ⟨?_, by simp only; omega⟩⟩
            simp only [poke, List.length_append, List.length_take, List.length_drop, zeros_length]; omega
          · have hnm : strMax < s.cur + bs.length := by omega
            simp only [hnm, hmax, if_true, if_false]
            close3 ⟨hl, hc⟩
        · have hmax : s.cur + bs.length ≤ strMax := by omega
          have hib : inBounds s.buf.length s.cur bs.length = true := inBounds_of_le (by omega)
          have hz : s.cur - s.buf.length = 0 := by omega
          simp only [hg, decide_false, if_false, Bool.false_eq_true, hmax, if_true, hib, hz, zeros, List.replicate_zero,
            List.append_nil, id]
          refine ⟨by first | trivial | rfl, by first | trivial | rfl, ⟨?_, by simp only; omega⟩⟩
          simp only; rw [poke_length_fit _ _ _ (by omega)]; exact hl
      · simp only [hrep, decide_false, if_false, Bool.false_eq_true]
        close3 ⟨hl, hc⟩
  | seek p =>
    have hp : p < M64 := hop
    simp only [MemStr.step, Arith.gen, Arr.step, MemStr.abs, Flavor.string, msSeek_spec hp, hp, if_true]
    close3 ⟨hl, hp⟩
  | tell =>
    simp only [MemStr.step, Arr.step, MemStr.abs]
    close3 ⟨hl, hc⟩

theorem file_step (s : File) (op : Op) (hop : op.fits64) :
    (File.step s op).1 = (Arr.step Flavor.file s.abs op).1 ∧
    (File.step s op).2.abs = (Arr.step Flavor.file s.abs op).2 := by
  cases op with
  | read n =>
    simp only [File.step, File.fread, Arr.step, File.abs, Flavor.file]
    by_cases hcl : s.pos ≤ s.data.length
    · simp [hcl]
    · have hnil : peek s.data s.pos n = [] := peek_nil_of_le _ _ _ (by omega)
      simp [hcl, hnil]
  | write bs =>
    simp only [File.step, File.fwrite, Arr.step, File.abs, Flavor.file, fsWriteRet_spec]
    by_cases he : bs = []
    · subst he; simp
    · simp [he]
  | seek p =>
    have hp : p < M64 := hop
    simp only [File.step, File.fseekSet, Arr.step, File.abs, Flavor.file, fsSeekOff_spec hp]
    by_cases h : p < 9223372036854775808
    · simp [h]
    · simp [h]
  | tell => simp [File.step, Arr.step, File.abs]

end DmlcModel.Streams
