/-
`dmlc::istream` as a whole: state bits of the `basic_istream`, `set_stream`, several streams.
-/
import DmlcModel.Streams.IStream

namespace DmlcModel.Streams
open DmlcModel DmlcModel.Gen.Streams

theorem attach_inv (s : ISt) (h : IInv s) (a : Arr) :
    IInv { ib := s.ib.setStream, src := a } ∧
    ISt.ahead { ib := s.ib.setStream, src := a } = a.data.drop a.cur ∧
    (IBuf.setStream s.ib).count = s.ib.count := by
  refine ⟨⟨h.len, h.pos, h.small, Nat.le_refl _, Nat.zero_le _, h.cnt⟩, ?_, rfl⟩
  simp [ISt.ahead, ISt.buffered, IBuf.setStream, peek]

theorem getElem?_set_lt {α : Type} (l : List α) (i j : Nat) (x : α) (hj : j < l.length) :
    ∃ a, (l.set i x)[j]? = some a := by
  have : j < (l.set i x).length := by simpa using hj
  exact ⟨(l.set i x)[j], List.getElem?_eq_getElem this⟩

theorem extract_total (s : IOS) (h : IInv s.st) (op : FOp) (iop : IOp) :
    ∃ s1 o, s.extract op iop = some (s1, o) ∧ IInv s1.st := by
  unfold IOS.extract
  split
  · exact ⟨_, _, rfl, h⟩
  · obtain ⟨s1, o, h1, h2⟩ := istep_total s.st h iop
    exact ⟨_, _, by rw [h1]; rfl, h2⟩

theorem frun_total : ∀ (ops : List FOp) (s : IOS), IInv s.st →
    ∃ s' outs pr, frun s ops = some (s', outs, pr) ∧ IInv s'.st
  | [], s, h => ⟨s, [], [], rfl, h⟩
  | op :: ops, s, h => by
    have hstep : ∃ s1 o, s.step op = some (s1, o) ∧ IInv s1.st := by
      cases op with
      | get | peek | read n => exact extract_total s h _ _
      | raw iop =>
        obtain ⟨s1, o, h1, h2⟩ := istep_total s.st h iop
        exact ⟨_, _, by simp only [IOS.step, h1]; rfl, h2⟩
      | clear => exact ⟨_, _, rfl, h⟩
      | useek j p =>
        simp only [IOS.step]
        split
        · exact ⟨_, _, rfl, ⟨h.len, h.pos, h.small, h.ge, h.ee, h.cnt⟩⟩
        · split <;> exact ⟨_, _, rfl, h⟩
      | setStream j =>
        simp only [IOS.step]
        split
        · exact ⟨_, _, rfl, h⟩
        · exact ⟨_, _, rfl, (attach_inv s.st h _).1⟩
    obtain ⟨s1, o, h1, h2⟩ := hstep
    obtain ⟨s2, os, pr, h3, h4⟩ := frun_total ops s1 h2
    exact ⟨s2, o :: os, s.attachProvides op ++ pr, by simp only [frun, h1, h3], h4⟩

theorem extract_rel (n : Nat) (s : IOS) (c : FSpec) (r : FRel n s c) (op : FOp) (iop : IOp) (hs : iop.isSeek = false) :
    ∃ s1, s.extract op iop = some (s1, (c.extract op iop).2) ∧ FRel n s1 (c.extract op iop).1 ∧ s1.idx = s.idx := by
  unfold IOS.extract FSpec.extract
  rw [r.eofbit, r.failbit]
  by_cases hb : (s.eofbit || s.failbit) = true
  · simp only [hb, if_true]
    exact ⟨_, rfl, ⟨r.inv, r.rest, rfl, rfl, r.len, r.idx⟩, rfl⟩
  · obtain ⟨s1, _, h1, hA, heff⟩ := istep_eff s.st r.inv iop hs
    simp only [hb, if_false, h1, Option.map, Bool.false_eq_true, r.rest]
    exact ⟨_, rfl, ⟨heff.inv, hA.symm, rfl, rfl, r.len, r.idx⟩, rfl⟩

theorem frun_spec (n : Nat) : ∀ (ops : List FOp) (s : IOS) (c : FSpec), FRel n s c → okHistory n s.idx ops →
    ∃ s' pr, frun s ops = some (s', fspecRun c pr ops, pr) := by
  intro ops
  induction ops with
  | nil => intro s c _ _; exact ⟨s, [], rfl⟩
  | cons op ops ih =>
    intro s c r hok
    -- one step: same output, related states, the provides entry is consumed by the specification
    have hstep : ∃ s1, s.step op = some (s1, (fspecStep c (s.attachProvides op ++ []) op).2.2) ∧
        (∀ pr, fspecStep c (s.attachProvides op ++ pr) op =
          ((fspecStep c (s.attachProvides op ++ []) op).1, pr, (fspecStep c (s.attachProvides op ++ []) op).2.2)) ∧
        FRel n s1 (fspecStep c (s.attachProvides op ++ []) op).1 ∧ okHistory n s1.idx ops := by
      cases op with
      | get | peek | read k =>
        refine (extract_rel n s c r _ _ ?_).elim fun s1 ⟨h1, h2, h3⟩ => ⟨s1, h1, fun _ => rfl, h2, h3 ▸ hok⟩
        rfl
      | raw iop =>
        obtain ⟨s1, _, h1, hA, heff⟩ := istep_eff s.st r.inv iop hok.1
        refine ⟨{ s with st := s1 }, ?_, fun _ => rfl, ⟨heff.inv, ?_, r.eofbit, r.failbit, r.len, r.idx⟩, hok.2⟩
        · simp only [IOS.step, h1, Option.map, fspecStep, IOS.attachProvides, r.rest]
        · simp only [fspecStep, IOS.attachProvides, r.rest]; exact hA.symm
      | clear =>
        exact ⟨_, rfl, fun _ => rfl, ⟨r.inv, r.rest, rfl, rfl, r.len, r.idx⟩, hok⟩
      | useek j p =>
        have hj : j ≠ s.idx := hok.1
        simp only [IOS.step, hj, if_false]
        cases s.parked[j]? with
        | none => exact ⟨_, rfl, fun _ => rfl, r, hok.2⟩
        | some a =>
          exact ⟨_, rfl, fun _ => rfl, ⟨r.inv, r.rest, r.eofbit, r.failbit, by simp [r.len], r.idx⟩, hok.2⟩
      | setStream j =>
        have hj : j < n := hok.1
        obtain ⟨a, ha⟩ := getElem?_set_lt s.parked s.idx j s.st.src (by rw [r.len]; exact hj)
        obtain ⟨hinv, hah, _⟩ := attach_inv s.st r.inv a
        have hs : s.step (.setStream j) = some (IOS.mk (ISt.mk s.st.ib.setStream a) j (s.parked.set s.idx s.st.src) false false, .unit) := by
          simp only [IOS.step, ha, isSetStreamRdbuf_spec, if_true]
        have hp : s.attachProvides (.setStream j) = [a.data.drop a.cur] := by simp only [IOS.attachProvides, ha]
        refine ⟨IOS.mk (ISt.mk s.st.ib.setStream a) j (s.parked.set s.idx s.st.src) false false, ?_, ?_, ?_, hok.2⟩
        · rw [hs, hp]; rfl
        · intro pr; rw [hp]; rfl
        · rw [hp]; exact ⟨hinv, hah.symm, rfl, rfl, by simp [r.len], hj⟩
    obtain ⟨s1, h1, hpr, hrel, hok1⟩ := hstep
    obtain ⟨s2, pr, h3⟩ := ih s1 _ hrel hok1
    refine ⟨s2, s.attachProvides op ++ pr, ?_⟩
    simp only [frun, h1, h3, fspecRun, hpr pr]

end DmlcModel.Streams
