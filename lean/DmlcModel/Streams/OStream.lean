/-
`ostream::OutBuf` under the libstdc++ put protocol: every operation is described by its effect `OEff` on the calls made
and the bytes pending.
-/
import DmlcModel.Streams.Lemmas

namespace DmlcModel.Streams
open DmlcModel DmlcModel.Gen.Streams

/-- effect of a put-side operation: `cs` are the `Stream::Write` calls made, `ins` the bytes inserted -/
structure OEff (s s' : OBuf) (cs : List Bytes) (ins : Bytes) : Prop where
  inv : OInv s'
  cap : s'.cap = s.cap
  bytes : cs.flatten ++ s'.pending = s.pending ++ ins
  count : s'.count = u64 (s.count + cs.flatten.length)

theorem OInv.pending_length {s : OBuf} (h : OInv s) : s.pending.length = s.pptr := by
  have := h.len; have := h.pp; have := h.ep; have := h.pos
  simp only [OBuf.pending, List.length_take]; omega

theorem OEff.refl {s : OBuf} (h : OInv s) : OEff s s [] [] :=
  ⟨h, rfl, by simp, by simp [u64_of_lt h.cnt]⟩

theorem OEff.trans {s s1 s2 : OBuf} {cs1 cs2 : List Bytes} {i1 i2 : Bytes}
    (h1 : OEff s s1 cs1 i1) (h2 : OEff s1 s2 cs2 i2) : OEff s s2 (cs1 ++ cs2) (i1 ++ i2) := by
  refine ⟨h2.inv, by rw [h2.cap, h1.cap], ?_, ?_⟩
  · rw [List.flatten_append, List.append_assoc, h2.bytes, ← List.append_assoc, h1.bytes, List.append_assoc]
  · rw [h2.count, h1.count, u64_add_u64, List.flatten_append, List.length_append, Nat.add_assoc]

theorem OInv.pending_lt {s : OBuf} (h : OInv s) : s.pending.length < s.cap := by
  have := h.pending_length; have := h.pp; have := h.ep; have := h.pos
  omega

theorem create_inv (b : Nat) (hb : b < 2147483648) :
    OInv (OBuf.create b) ∧ (OBuf.create b).pending = [] ∧ (OBuf.create b).count = 0 ∧
      (OBuf.create b).cap = if b = 0 then 2 else b := by
  have key : ∀ cap : Nat, 1 ≤ cap → cap < 2147483648 →
      OInv { cap := cap, buf := zeros cap, pptr := 0, epptr := obPutEnd cap, count := 0 } :=
    fun cap h1 h2 => ⟨zeros_length cap, h1, h2, obPutEnd_spec h1 (by omega), Nat.zero_le _, by simp⟩
  unfold OBuf.create
  simp only [obZero_spec, obZeroSize_spec]
  by_cases h0 : b = 0
  · simp only [h0, decide_true, if_true]
    exact ⟨key 2 (by omega) (by omega), by simp [OBuf.pending], trivial, trivial⟩
  · simp only [h0, decide_false, if_false, Bool.false_eq_true]
    exact ⟨key b (by omega) hb, by simp [OBuf.pending], trivial, trivial⟩

/-- `pbump(-static_cast<int>(pptr() - pbase()))` returns the put pointer to `pbase()` -/
theorem OInv.bump_back {s : OBuf} (h : OInv s) : bump s.pptr (sub32 0 (u32 s.pptr)) = some 0 := by
  have := h.pp; have := h.ep; have := h.small
  simpa using bump_neg (n := s.pptr) (p := s.pptr) (by omega) (Nat.le_refl _)

theorem flush_eff {s : OBuf} (h : OInv s) (b : Bytes) (hb : b.length = s.cap) (ins : Bytes) :
    OEff s { s with buf := b, pptr := 0, count := u64 (s.count + (s.pending ++ ins).length) } [s.pending ++ ins] ins :=
  ⟨⟨hb, h.pos, h.small, h.ep, Nat.zero_le _, u64_lt _⟩, rfl, by simp [OBuf.pending], by simp⟩

theorem sync_eff (s : OBuf) (h : OInv s) :
    ∃ s', s.sync = some (s', [s.pending]) ∧ OEff s s' [s.pending] [] ∧ s'.pending = [] := by
  have hpp := h.pp; have hep := h.ep; have hsm := h.small
  have heff := flush_eff h s.buf h.len []
  rw [List.append_nil, h.pending_length] at heff
  refine ⟨_, ?_, heff, rfl⟩
  -- runs `sync` on `s` (Gen items by their `_spec`s, guards by the invariant): it ends in the state `flush_eff` names;
  -- `overflow_eff` and `overflow_eof_eff` end the same way
  simp only [OBuf.sync, obSyncN_spec (show s.pptr < M64 by omega), obSyncLen_spec, obSyncBump_spec, obSyncCount_spec,
    show s.pptr ≤ s.cap by omega, if_true, h.bump_back, OBuf.pending]

theorem overflow_eff (s : OBuf) (h : OInv s) (c : Byte) :
    ∃ s', s.overflow c.toNat = some (s', [s.pending ++ [c]]) ∧ OEff s s' [s.pending ++ [c]] [c] ∧ s'.pending = [] := by
  have hpp := h.pp; have hep := h.ep; have hsm := h.small; have hpos := h.pos; have hlen := h.len
  have heff := flush_eff h (poke s.buf s.pptr [c])
    (by rw [poke_length_fit _ _ _ (by simp only [List.length_singleton]; omega)]; exact hlen) [c]
  rw [List.length_append, h.pending_length, List.length_singleton] at heff
  refine ⟨_, ?_, heff, rfl⟩
  have hne : ¬ c.toNat = eofInt := by have := c.toNat_lt; unfold eofInt; omega
  have hlt : s.pptr + 1 < M64 := by omega
  have htk : (poke s.buf s.pptr [c]).take (s.pptr + 1) = s.buf.take s.pptr ++ [c] := poke_take s.buf s.pptr [c] (by omega)
  simp only [OBuf.overflow, show s.pptr < s.cap by omega, if_true, obOvN_spec (show s.pptr < M64 by omega),
    obOvBump_spec, h.bump_back, obOvIsEof_spec, hne, decide_false, Bool.false_eq_true, if_false, obOvLen_spec hlt,
    show s.pptr + 1 ≤ s.cap by omega, obOvCount_spec hlt, UInt8.ofNat_toNat, htk, OBuf.pending]

theorem overflow_eof_eff (s : OBuf) (h : OInv s) :
    ∃ s', s.overflow eofInt = some (s', [s.pending]) ∧ OEff s s' [s.pending] [] ∧ s'.pending = [] := by
  have hpp := h.pp; have hep := h.ep; have hsm := h.small; have hpos := h.pos; have hlen := h.len
  have heff := flush_eff h (poke s.buf s.pptr [UInt8.ofNat eofInt])
    (by rw [poke_length_fit _ _ _ (by simp only [List.length_singleton]; omega)]; exact hlen) []
  rw [List.append_nil, h.pending_length] at heff
  refine ⟨_, ?_, heff, rfl⟩
  simp only [OBuf.overflow, show s.pptr < s.cap by omega, if_true, obOvN_spec (show s.pptr < M64 by omega),
    obOvBump_spec, h.bump_back, obOvIsEof_spec, decide_true, obOvEofLen_spec, show s.pptr ≤ s.cap by omega,
    obOvEofCount_spec, poke_take_before s.buf s.pptr _ (show s.pptr ≤ s.buf.length by omega), OBuf.pending]

theorem fill_eff (s : OBuf) (h : OInv s) (bs : Bytes) (hroom : s.pptr + bs.length ≤ s.epptr) :
    OEff s (s.fill bs) [] bs := by
  have hsm := h.small; have hep := h.ep; have hpp := h.pp; have hpos := h.pos; have hlen := h.len
  refine ⟨⟨?_, hpos, hsm, hep, hroom, h.cnt⟩, rfl, ?_, ?_⟩
  · simp only [OBuf.fill]; rw [poke_length_fit _ _ _ (by omega)]; exact hlen
  · simp only [OBuf.fill, OBuf.pending, List.flatten_nil, List.nil_append]
    exact poke_take s.buf s.pptr bs (by omega)
  · simp [OBuf.fill, u64_of_lt h.cnt]

theorem sputc_eff (s : OBuf) (h : OInv s) (c : Byte) :
    ∃ s' cs, s.sputc c = some (s', cs) ∧ OEff s s' cs [c] := by
  unfold OBuf.sputc
  by_cases hr : s.pptr < s.epptr
  · have hpc : s.pptr < s.cap := by have := h.ep; have := h.pos; omega
    simp only [hr, hpc, if_true]
    exact ⟨_, _, rfl, fill_eff s h [c] (by simp only [List.length_singleton]; omega)⟩
  · simp only [hr, if_false]
    obtain ⟨s', h1, h2, _⟩ := overflow_eff s h c
    exact ⟨s', _, h1, h2⟩

theorem xsputnGo_eff : ∀ (fuel : Nat) (s : OBuf) (src : Bytes) (calls : List Bytes), OInv s → src.length < fuel →
    ∃ s' cs, OBuf.xsputnGo fuel s src calls = some (s', calls ++ cs) ∧ OEff s s' cs src := by
  intro fuel
  induction fuel with
  | zero => intro s src calls _ hf; omega
  | succ fuel ih =>
    intro s src calls h hf
    have hsm := h.small; have hep := h.ep; have hpp := h.pp; have hpos := h.pos; have hlen := h.len
    unfold OBuf.xsputnGo
    by_cases hnil : src = []
    · subst hnil
      simp only [if_true]
      exact ⟨s, [], by simp, OEff.refl h⟩
    · have hng : ¬ s.epptr < s.pptr := by omega
      have hk : s.pptr + min (s.epptr - s.pptr) src.length ≤ s.cap := by omega
      simp only [hnil, if_false, hng, hk, if_true]
      have htl := List.length_take_of_le (Nat.min_le_right (s.epptr - s.pptr) src.length)
      have hfill := fill_eff s h (src.take (min (s.epptr - s.pptr) src.length)) (by rw [htl]; omega)
      have hsplit := List.take_append_drop (min (s.epptr - s.pptr) src.length) src
      cases hd : src.drop (min (s.epptr - s.pptr) src.length) with
      | nil =>
        simp only
        rw [hd, List.append_nil] at hsplit
        rw [hsplit] at hfill ⊢
        exact ⟨s.fill src, [], by simp, hfill⟩
      | cons c rest =>
        simp only
        obtain ⟨s2, ho, heff2, _⟩ := overflow_eff _ hfill.inv c
        rw [ho]
        simp only
        have hrl : rest.length < fuel := by
          have : (src.drop (min (s.epptr - s.pptr) src.length)).length = rest.length + 1 := by rw [hd]; simp
          rw [List.length_drop] at this; omega
        obtain ⟨s', cs', hrun, heff3⟩ := ih s2 rest (calls ++ [(s.fill (src.take (min (s.epptr - s.pptr) src.length))).pending ++ [c]])
          heff2.inv hrl
        refine ⟨s', [(s.fill (src.take (min (s.epptr - s.pptr) src.length))).pending ++ [c]] ++ cs', ?_, ?_⟩
        · rw [hrun, List.append_assoc]
        · have := (hfill.trans heff2).trans heff3
          rw [hd] at hsplit
          simpa [hsplit, List.append_assoc] using this

theorem xsputn_eff (s : OBuf) (h : OInv s) (src : Bytes) :
    ∃ s' cs, s.xsputn src = some (s', cs) ∧ OEff s s' cs src := by
  obtain ⟨s', cs, h1, h2⟩ := xsputnGo_eff (src.length + 1) s src [] h (by omega)
  rw [List.nil_append] at h1
  exact ⟨s', cs, h1, h2⟩

theorem setStream_eff (s : OBuf) (h : OInv s) :
    ∃ s', s.setStream = some (s', [s.pending]) ∧ OEff s s' [s.pending] [] ∧ s'.pending = [] := by
  obtain ⟨s1, h1, h2, h3⟩ := sync_eff s h
  have hi := h2.inv
  have hep : obPutEnd s1.cap = s1.cap - 1 := obPutEnd_spec hi.pos (by have := hi.small; omega)
  refine ⟨s1.setp, ?_, ?_, rfl⟩
  · unfold OBuf.setStream; rw [h1]; rfl
  · refine ⟨⟨hi.len, hi.pos, hi.small, hep, Nat.zero_le _, hi.cnt⟩, h2.cap, ?_, h2.count⟩
    rw [← h2.bytes, h3]; rfl

theorem apply_eff (s : OBuf) (h : OInv s) (op : OOp) :
    ∃ s' cs, s.apply op = some (s', cs) ∧ OEff s s' cs (inserted [op]) ∧ (op.syncs = true → s'.pending = []) := by
  cases op with
  | put c =>
    obtain ⟨s', cs, h1, h2⟩ := sputc_eff s h c
    exact ⟨s', cs, h1, h2, nofun⟩
  | write bs =>
    obtain ⟨s', cs, h1, h2⟩ := xsputn_eff s h bs
    exact ⟨s', cs, h1, by simpa [inserted] using h2, nofun⟩
  | flush | destroy =>
    obtain ⟨s', h1, h2, h3⟩ := sync_eff s h
    exact ⟨s', _, h1, h2, fun _ => h3⟩
  | reattach | setStream j =>
    obtain ⟨s', h1, h2, h3⟩ := setStream_eff s h
    exact ⟨s', _, h1, h2, fun _ => h3⟩
  | ovEof =>
    obtain ⟨s', h1, h2, h3⟩ := overflow_eof_eff s h
    exact ⟨s', _, h1, h2, fun _ => h3⟩
  | useek p => exact ⟨s, [], rfl, OEff.refl h, nofun⟩

theorem inserted_append (a b : List OOp) : inserted (a ++ b) = inserted a ++ inserted b := by
  induction a with
  | nil => rfl
  | cons op a ih => cases op <;> simp [inserted, ih]

theorem OSt.step_of_apply (s : OSt) (op : OOp) (ob1 : OBuf) (cs : List Bytes) (ha : s.ob.apply op = some (ob1, cs)) :
    ∃ s1 : OSt, s.step op = some (s1, cs) ∧ s1.ob = ob1 := by
  unfold OSt.step; rw [ha]
  cases op with
  | setStream j => simp only; split <;> exact ⟨_, rfl, rfl⟩
  | _ => exact ⟨_, rfl, rfl⟩

/-- proved through a generic operation so that nothing unfolds the arithmetic of `sync` -/
theorem OSt.step_setStream (s : OSt) (j : Nat) (ob1 : OBuf) (cs : List Bytes) (ha : s.ob.setStream = some (ob1, cs)) :
    s.step (.setStream j) =
      match (s.parked.set s.idx (cs.foldl sinkWrite s.sink))[j]? with
      | none => some ({ s with ob := ob1, sink := cs.foldl sinkWrite s.sink }, cs)
      | some a => some ({ ob := ob1, sink := a, idx := j, parked := s.parked.set s.idx (cs.foldl sinkWrite s.sink) }, cs) := by
  have key : ∀ op, op = OOp.setStream j → s.ob.apply op = some (ob1, cs) → s.step op =
      match (s.parked.set s.idx (cs.foldl sinkWrite s.sink))[j]? with
      | none => some ({ s with ob := ob1, sink := cs.foldl sinkWrite s.sink }, cs)
      | some a => some ({ ob := ob1, sink := a, idx := j, parked := s.parked.set s.idx (cs.foldl sinkWrite s.sink) }, cs) := by
    intro op hop hap
    unfold OSt.step; rw [hap]; subst hop; rfl
  exact key _ rfl ha

theorem inserted_syncs {op : OOp} (h : op.syncs = true) : inserted [op] = [] := by
  cases op <;> first | rfl | cases h

theorem orun_eff : ∀ (ops : List OOp) (s : OSt), OInv s.ob →
    ∃ s' cs, orun s ops = some (s', cs) ∧ OEff s.ob s'.ob cs (inserted ops) ∧
      ∀ fin ∈ ops.getLast?, fin.syncs = true → s'.ob.pending = [] := by
  intro ops
  induction ops with
  | nil => intro s h; exact ⟨s, [], rfl, OEff.refl h, nofun⟩
  | cons op ops ih =>
    intro s h
    obtain ⟨ob1, cs1, ha, heff1, hsync⟩ := apply_eff s.ob h op
    obtain ⟨s1, hs1, hob⟩ := OSt.step_of_apply s op ob1 cs1 ha
    obtain ⟨s2, cs2, hr, heff2, hlast⟩ := ih s1 (by rw [hob]; exact heff1.inv)
    refine ⟨s2, cs1 ++ cs2, ?_, ?_, fun fin hfin hs => ?_⟩
    · simp only [orun, hs1, hr]
    · rw [← List.singleton_append, inserted_append]; rw [hob] at heff2; exact heff1.trans heff2
    · cases ops with
      | nil => cases hr; cases hfin; exact hob ▸ hsync hs
      | cons o os => exact hlast fin hfin hs

end DmlcModel.Streams
