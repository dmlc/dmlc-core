/-
Computations in `Except ε`: when a bind and a `mapM` succeed, and the shapes of `mapM` the proofs meet.
-/
namespace DmlcModel

theorem bind_ok_iff {ε α β : Type} {x : Except ε α} {f : α → Except ε β} {b : β} :
    (x >>= f) = .ok b ↔ ∃ a, x = .ok a ∧ f a = .ok b := by
  cases x <;> simp [bind, Except.bind]

theorem map_ok_iff {ε α β : Type} {x : Except ε α} {f : α → β} {b : β} :
    x.map f = .ok b ↔ ∃ a, x = .ok a ∧ f a = b := by
  cases x <;> simp [Except.map]

theorem mapM_nil_ok_iff {ε α β : Type} {f : α → Except ε β} {ys : List β} : ([] : List α).mapM f = .ok ys ↔ ys = [] := by
  simp [pure, Except.pure, eq_comm]

theorem mapM_cons_ok_iff {ε α β : Type} {f : α → Except ε β} {x : α} {xs : List α} {ys : List β} :
    (x :: xs).mapM f = .ok ys ↔ ∃ y ys', f x = .ok y ∧ xs.mapM f = .ok ys' ∧ ys = y :: ys' := by
  rw [List.mapM_cons]
  cases f x <;> cases xs.mapM f <;> simp [bind, Except.bind, pure, Except.pure, eq_comm]

theorem mapM_congr {ε α β : Type} (f g : α → Except ε β) (xs : List α) (h : ∀ x ∈ xs, f x = g x) :
    xs.mapM f = xs.mapM g := by
  induction xs with
  | nil => rfl
  | cons x xs ih =>
    simp only [List.mapM_cons, h x (by simp), ih (fun y hy => h y (by simp [hy]))]

theorem mapM_map_res {ε α β γ : Type} (f : α → Except ε β) (g : β → γ) (xs : List α) :
    xs.mapM (fun x => (f x).map g) = (xs.mapM f).map (List.map g) := by
  induction xs with
  | nil => rfl
  | cons x xs ih =>
    simp only [List.mapM_cons, ih, bind, Except.bind]
    cases f x <;> cases xs.mapM f <;> rfl

theorem mapM_mem {ε α β : Type} (f : α → Except ε β) (xs : List α) (ys : List β) (h : xs.mapM f = .ok ys) :
    ∀ y ∈ ys, ∃ x ∈ xs, f x = .ok y := by
  induction xs generalizing ys with
  | nil => cases mapM_nil_ok_iff.mp h; simp
  | cons x xs ih =>
    obtain ⟨y, ys', hy, hys, rfl⟩ := mapM_cons_ok_iff.mp h
    intro z hz
    rcases List.mem_cons.mp hz with rfl | hz
    · exact ⟨x, by simp, hy⟩
    · obtain ⟨x', hx', hf⟩ := ih ys' hys z hz
      exact ⟨x', by simp [hx'], hf⟩

theorem mapM_length {ε α β : Type} (f : α → Except ε β) (xs : List α) (ys : List β) (h : xs.mapM f = .ok ys) :
    ys.length = xs.length := by
  induction xs generalizing ys with
  | nil => cases mapM_nil_ok_iff.mp h; rfl
  | cons x xs ih =>
    obtain ⟨y, ys', _, hys, rfl⟩ := mapM_cons_ok_iff.mp h
    simp [ih ys' hys]

theorem mapM_append_ok_iff {ε α β : Type} {f : α → Except ε β} {xs ys : List α} {rs : List β} :
    (xs ++ ys).mapM f = .ok rs ↔ ∃ r1 r2, xs.mapM f = .ok r1 ∧ ys.mapM f = .ok r2 ∧ rs = r1 ++ r2 := by
  rw [List.mapM_append]
  cases xs.mapM f <;> cases ys.mapM f <;> simp [bind, Except.bind, pure, Except.pure, eq_comm]

theorem mapM_bind_split {ε α β γ : Type} (f : α → Except ε β) (g : β → Except ε γ) (xs : List α) (ys : List γ)
    (h : xs.mapM (fun x => (f x).bind g) = .ok ys) :
    ∃ zs, xs.mapM f = .ok zs ∧ zs.mapM g = .ok ys := by
  induction xs generalizing ys with
  | nil => cases mapM_nil_ok_iff.mp h; exact ⟨[], rfl, rfl⟩
  | cons x xs ih =>
    obtain ⟨y, ys', hy, hys, rfl⟩ := mapM_cons_ok_iff.mp h
    obtain ⟨z, hz, hg⟩ := bind_ok_iff.mp hy
    obtain ⟨zs, h1, h2⟩ := ih ys' hys
    exact ⟨z :: zs, mapM_cons_ok_iff.mpr ⟨z, zs, hz, h1, rfl⟩, mapM_cons_ok_iff.mpr ⟨y, ys', hg, h2, rfl⟩⟩

/-- a map that every successful `f` respects carries over to the lists -/
theorem mapM_map_eq {ε α β γ : Type} (f : α → Except ε β) (a : α → γ) (b : β → γ) (h : ∀ x y, f x = .ok y → b y = a x)
    (xs : List α) (ys : List β) (hm : xs.mapM f = .ok ys) : ys.map b = xs.map a := by
  induction xs generalizing ys with
  | nil => cases hm; rfl
  | cons x xs ih =>
    obtain ⟨y, ys', hy, hys, rfl⟩ := mapM_cons_ok_iff.mp hm
    rw [List.map_cons, List.map_cons, h x y hy, ih ys' hys]

theorem zip_mapM_snd {ε α β γ : Type} (f : β → Except ε γ) (xs : List α) (ys : List β) (h : ys.length ≤ xs.length) :
    (xs.zip ys).mapM (fun z => f z.2) = ys.mapM f :=
  List.mapM_map.symm.trans (by rw [List.map_snd_zip h])

theorem zip_mapM_fst {ε α β γ : Type} (f : α → Except ε γ) (xs : List α) (ys : List β) (h : xs.length ≤ ys.length) :
    (xs.zip ys).mapM (fun z => f z.1) = xs.mapM f :=
  List.mapM_map.symm.trans (by rw [List.map_fst_zip h])

theorem filterMap_map_option {α β : Type} (g : α → β) (outs : List (Option α)) :
    (outs.map (Option.map g)).filterMap id = (outs.filterMap id).map g := by
  induction outs with
  | nil => rfl
  | cons o outs ih => cases o <;> simp [ih]

end DmlcModel
