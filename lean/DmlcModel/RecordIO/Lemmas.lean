/-
What the generated RecordIO kernels (`Gen/RecordIO.lean`) compute.  If a C++ expression changes, the generated definition
changes and these lemmas (hence everything downstream) stop compiling.
-/
import DmlcModel.RecordIO.Model

namespace DmlcModel.RecordIO
open DmlcModel DmlcModel.Gen.RecordIO

theorem kMagic_val : kMagic = 3470205706 := by decide

theorem magicBytes_eq : magicBytes = [0x0a, 0x23, 0xd7, 0xce] := by decide

theorem word32_le32 (x : Nat) (h : x < 4294967296) :
    word32 (UInt8.ofNat (x % 256)) (UInt8.ofNat (x / 256 % 256)) (UInt8.ofNat (x / 65536 % 256))
      (UInt8.ofNat (x / 16777216 % 256)) = x := by
  simp only [word32, UInt8.toNat_ofNat']
  omega

theorem encodeLRec_spec (f n : Nat) (hf : f < 8) (hn : n < 2 ^ 29) :
    encodeLRec f n = f * 2 ^ 29 + n := by
  unfold encodeLRec u32
  rw [Nat.mod_eq_of_lt (by rw [Nat.shiftLeft_eq]; omega)]
  rw [← Nat.shiftLeft_add_eq_or_of_lt hn, Nat.shiftLeft_eq]

theorem encodeLRec_lt (f n : Nat) (hf : f < 8) (hn : n < 2 ^ 29) : encodeLRec f n < 4294967296 := by
  rw [encodeLRec_spec f n hf hn]; omega

theorem decodeFlag_spec (x : Nat) : decodeFlag x = x / 2 ^ 29 % 8 := by
  unfold decodeFlag
  rw [Nat.shiftRight_eq_div_pow]
  exact Nat.and_two_pow_sub_one_eq_mod _ 3

theorem decodeLength_spec (x : Nat) : decodeLength x = x % 2 ^ 29 := by
  unfold decodeLength
  have : sub32 (u32 (1 <<< 29)) 1 = 2 ^ 29 - 1 := by decide
  rw [this]
  exact Nat.and_two_pow_sub_one_eq_mod _ 29

theorem decodeFlag_encode (f n : Nat) (hf : f < 8) (hn : n < 2 ^ 29) :
    decodeFlag (encodeLRec f n) = f := by
  rw [encodeLRec_spec f n hf hn, decodeFlag_spec]; omega

theorem decodeLength_encode (f n : Nat) (hf : f < 8) (hn : n < 2 ^ 29) :
    decodeLength (encodeLRec f n) = n := by
  rw [encodeLRec_spec f n hf hn, decodeLength_spec]; omega

/-- the documented reason the length word can never be mistaken for the magic word -/
theorem decodeFlag_kMagic : decodeFlag kMagic = 6 := by decide

theorem wLowerAlign_spec (len : Nat) (h : len < 2 ^ 32) : wLowerAlign len = len / 4 * 4 := by
  unfold wLowerAlign u32
  rw [Nat.shiftRight_eq_div_pow, Nat.shiftLeft_eq]
  omega

theorem wUpperAlign_spec (len : Nat) (h : len < 2 ^ 29) : wUpperAlign len = (len + 3) / 4 * 4 := by
  unfold wUpperAlign u32
  rw [Nat.shiftRight_eq_div_pow, Nat.shiftLeft_eq]
  omega

/-- the reader rounds up with the same expression as the writer -/
theorem rUpperAlign_spec (len : Nat) (h : len < 2 ^ 29) : rUpperAlign len = (len + 3) / 4 * 4 :=
  wUpperAlign_spec len h

theorem sizeOk_iff (n : Nat) : sizeOk n = true ↔ n < 2 ^ 29 := by
  unfold sizeOk
  have : u32 (1 <<< 29) = 2 ^ 29 := by decide
  rw [this]; simp

theorem headAccept_iff (f : Nat) : headAccept f = true ↔ f = 0 ∨ f = 1 := by
  simp [headAccept]

theorem crAdvance_spec (clen : Nat) (h : clen < 2 ^ 29) : crAdvance clen = 8 + (clen + 3) / 4 * 4 := by
  unfold crAdvance u64 u32
  rw [Nat.shiftRight_eq_div_pow, Nat.shiftLeft_eq]
  omega

/-- specification of `except_counter_`: number of 4-byte-aligned occurrences of the magic word -/
def alignedMagicCount : Bytes → Nat
  | a :: b :: c :: d :: rest => (if [a, b, c, d] = magicBytes then 1 else 0) + alignedMagicCount rest
  | _ => 0

theorem alignedMagicCount_lt4 (t : Bytes) (h : t.length < 4) : alignedMagicCount t = 0 := by
  match t, h with
  | [], _ | [_], _ | [_, _], _ | [_, _, _], _ => rfl
  | _ :: _ :: _ :: _ :: _, h => simp at h; omega

end DmlcModel.RecordIO
