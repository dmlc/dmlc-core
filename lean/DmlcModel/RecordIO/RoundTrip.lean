/- the sequential reader on images: one record whatever follows, and a written sequence as it was written -/
import DmlcModel.RecordIO.Image

namespace DmlcModel.RecordIO
open DmlcModel DmlcModel.Gen.RecordIO DmlcModel.Split

theorem readGo_part (fuel : Nat) (acc data more : Bytes) (flag pad : Nat) (hf : flag < 8)
    (hn : data.length < 2 ^ 29) (hp : data.length + pad = (data.length + 3) / 4 * 4) :
    readGo (fuel + 1) acc (hdr flag data.length ++ (data ++ zeros pad ++ more)) =
      (if rStops flag then Rd.record (acc ++ data) more
       else readGo fuel (acc ++ data ++ magicBytes) more) := by
  obtain ⟨m0, m1, m2, m3, l0, l1, l2, l3, e, hm, hF, hL⟩ := hdr_eq flag data.length hf hn
  rw [e]
  simp only [List.cons_append, List.nil_append, readGo, hm, hF, hL, if_true, rUpperAlign_spec _ hn, ← hp]
  rw [if_neg (by rw [part_length]; omega), List.take_take, Nat.min_eq_left (Nat.le_add_right _ _), part_take,
    part_drop]

theorem readGo_record (r : Bytes) (h : r.length < 2 ^ 29) :
    ∀ (fuel : Nat) (acc s : Bytes), r.length < fuel →
      readGo fuel acc ((writeRecord r).1 ++ s) = Rd.record (acc ++ r) s := by
  rw [writeRecord_eq_img r h]
  refine img_induct (P := fun _ r I => ∀ (fuel : Nat) (acc s : Bytes), r.length < fuel →
    readGo fuel acc (I ++ s) = Rd.record (acc ++ r) s) ?_ ?_ true [] r rfl (by simp [toWords]) (by simpa using h)
  · intro first d pad hn hp _ fuel acc s hf
    obtain ⟨fuel, rfl⟩ : ∃ k, fuel = k + 1 := ⟨fuel - 1, by omega⟩
    rw [List.append_assoc, readGo_part fuel acc d s _ pad (by cases first <;> simp) hn hp,
      if_pos (by cases first <;> simp [rStops])]
  · intro first d r I _ hn _ _ _ ih fuel acc s hf
    simp only [List.length_append, magicBytes_length] at hn hf
    obtain ⟨fuel, rfl⟩ : ∃ k, fuel = k + 1 := ⟨fuel - 1, by omega⟩
    rw [List.append_assoc, List.append_assoc (d ++ zeros 0),
      readGo_part fuel acc d (I ++ s) _ 0 (by cases first <;> simp) (by omega) (by omega),
      if_neg (by cases first <;> simp [rStops]), ih fuel _ s (by omega)]
    simp

theorem nextRecord_record (r s : Bytes) (h : r.length < 2 ^ 29) :
    nextRecord ((writeRecord r).1 ++ s) = Rd.record r s := by
  have hl := writeRecord_eq_img r h ▸ img_length true [] r
  exact readGo_record r h _ [] s (by simp only [List.length_append, List.length_nil] at hl ⊢; omega)

theorem readAllFuel_writeAll (rs : List Bytes) (h : Short rs) :
    ∀ fuel, rs.length < fuel → readAllFuel fuel (writeAll rs) = some rs := by
  induction rs with
  | nil =>
    intro fuel hf
    obtain ⟨k, rfl⟩ : ∃ k, fuel = k + 1 := ⟨fuel - 1, by simp at hf; omega⟩
    simp [readAllFuel, writeAll, (by decide : nextRecord [] = Rd.eos)]
  | cons r rs ih =>
    intro fuel hf
    obtain ⟨k, rfl⟩ : ∃ k, fuel = k + 1 := ⟨fuel - 1, by simp at hf; omega⟩
    simp only [readAllFuel, writeAll, nextRecord_record r _ h.head]
    rw [ih h.tail k (by simp at hf; omega)]
    rfl

theorem readAll_writeAll (rs : List Bytes) (h : Short rs) : readAll (writeAll rs) = some rs :=
  readAllFuel_writeAll rs h _ (by have := writeAll_length_ge rs h; omega)

end DmlcModel.RecordIO
