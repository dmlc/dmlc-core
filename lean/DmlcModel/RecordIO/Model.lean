/-
Executable model of `RecordIOWriter::WriteRecord`, `RecordIOReader::NextRecord`,
`FindNextRecordIOHead` and `RecordIOChunkReader` (src/recordio.cc, include/dmlc/recordio.h).

All arithmetic (constants, lrec encoding, alignment, flags, loop bounds) comes from the *generated*
file `Gen/RecordIO.lean`, which tools/translate.py rewrites from /repo on every run.  Control flow
is modelled by hand, with the same branch structure as the C++, and tied to the code by the
correspondence harness (harness/h_recordio.cc).
-/
import DmlcModel.Basic
import DmlcModel.Gen.RecordIO

namespace DmlcModel.RecordIO
open DmlcModel DmlcModel.Gen.RecordIO

/-- the four bytes `reinterpret_cast<const char*>(&umagic)` on a little-endian host -/
def magicBytes : Bytes := le32 kMagic

def zeros (n : Nat) : Bytes := List.replicate n 0

/-- one `magic, lrec, payload` part as written by three `stream_->Write` calls -/
def part (flag len : Nat) (hasData : Bool) (data : Bytes) : Bytes :=
  magicBytes ++ le32 (encodeLRec flag len) ++ (if hasData then data.take len else [])

/--
The `for (i = 0; i < lower_align; i += 4)` loop of `WriteRecord` followed by the final part and the
padding.  `cur` holds `bhead[dptr, i)`, the remaining argument holds `bhead[i, len)`.
Returns the bytes appended to the stream and the increment of `except_counter_`.
-/
def writeGo (len : Nat) (i dptr : Nat) (cur : Bytes) : Bytes → Bytes × Nat
  | a :: b :: c :: d :: rest =>
    if i < wLowerAlign len then
      if [a, b, c, d] = magicBytes then
        let p := part (wPartFlag dptr) (wPartLen i dptr) (wPartHasData i dptr) cur
        let r := writeGo len (u32 (i + 4)) (wNextDptr i) [] rest
        (p ++ r.1, r.2 + 1)
      else
        writeGo len (u32 (i + 4)) dptr (cur ++ [a, b, c, d]) rest
    else
      writeLast len dptr (cur ++ a :: b :: c :: d :: rest)
  | tail => writeLast len dptr (cur ++ tail)
where
  /-- final part (flag 0 or 3) and zero padding; `data` holds `bhead[dptr, len)` -/
  writeLast (len dptr : Nat) (data : Bytes) : Bytes × Nat :=
    let p := part (wLastFlag dptr) (wLastLen len dptr) (len != dptr) data
    let ua := wUpperAlign len
    (p ++ (if wPadNeeded ua len then zeros (wPadLen ua len) else []), 0)

/-- bytes appended by `WriteRecord(r)` and the increment of the exception counter (size check apart) -/
def writeRecord (r : Bytes) : Bytes × Nat := writeGo (u32 r.length) 0 0 [] r

inductive Err | check | param | range | invalid
  deriving Repr, DecidableEq

/-- `WriteRecord` including its `CHECK(size < (1 << 29U))` -/
def writeRecordE (r : Bytes) : Except Err (Bytes × Nat) :=
  if sizeOk r.length then .ok (writeRecord r) else .error .check

/-- stream image of a sequence of `WriteRecord` calls -/
def writeAll : List Bytes → Bytes
  | [] => []
  | r :: rs => (writeRecord r).1 ++ writeAll rs

/-- result of one `RecordIOReader::NextRecord` call on the remaining stream bytes -/
inductive Rd
  | eos                       -- `Read` returned 0 bytes: returns false, `end_of_stream_` set
  | invalid                   -- one of the `CHECK`s fired (dmlc::Error)
  | record (r : Bytes) (rest : Bytes)
  deriving Repr, DecidableEq

/--
The `while (true)` loop of `RecordIOReader::NextRecord`; `acc` is `*out_rec` so far, the argument is
what the stream still holds.  `fuel` bounds the number of parts (every part consumes ≥ 8 bytes; the
wrapper below passes the stream length, which is always enough).
-/
def readGo : Nat → Bytes → Bytes → Rd
  | 0, _, _ => .invalid
  | _ + 1, _, [] => .eos
  | fuel + 1, acc, m0 :: m1 :: m2 :: m3 :: l0 :: l1 :: l2 :: l3 :: rest =>
    if word32 m0 m1 m2 m3 = kMagic then
      let lrec := word32 l0 l1 l2 l3
      let cflag := decodeFlag lrec
      let len := decodeLength lrec
      let ua := rUpperAlign len
      if rest.length < ua then .invalid      -- short read of the payload
      else
        let acc' := acc ++ (rest.take ua).take len
        if rStops cflag then .record acc' (rest.drop ua)
        else readGo fuel (acc' ++ magicBytes) (rest.drop ua)
    else .invalid
  | _ + 1, _, _ => .invalid                  -- 1..7 header bytes

def nextRecord (s : Bytes) : Rd := readGo (s.length + 1) [] s

/-- drain a reader: `some rs` if every call succeeded and the last one reported a clean end -/
def readAllFuel : Nat → Bytes → Option (List Bytes)
  | 0, _ => none
  | fuel + 1, s =>
    match nextRecord s with
    | .eos => some []
    | .invalid => none
    | .record r rest => (readAllFuel fuel rest).map (r :: ·)

def readAll (s : Bytes) : Option (List Bytes) := readAllFuel (s.length + 1) s

/-! ### chunk side: `FindNextRecordIOHead`, `RecordIOChunkReader` -/

/-- the chunk as a list of 32-bit words (`reinterpret_cast<uint32_t*>`); trailing bytes dropped -/
def toWords : Bytes → List Nat
  | a :: b :: c :: d :: rest => word32 a b c d :: toWords rest
  | _ => []

/--
`FindNextRecordIOHead(begin, end)` in word units: `ws` are the words from `begin` on, `p` the word
index of `begin`, `pend` the word index of `end`.  Returns the word index of the head found, or
`pend`.
-/
def findHead (pend : Nat) : Nat → List Nat → Nat
  | p, w0 :: w1 :: rest =>
    if headLoopCond p pend then
      if w0 = kMagic ∧ headAccept (decodeFlag w1) then p
      else findHead pend (p + 1) (w1 :: rest)
    else pend
  | _, _ => pend

/-- `FindNextRecordIOHead(head + b, head + size)` for byte offset `b` of a chunk; `none` = the
alignment `CHECK_EQ` fails -/
def findNextHead (chunk : Bytes) (b : Nat) : Option Nat :=
  if b % 4 = 0 ∧ chunk.length % 4 = 0 then
    some (4 * findHead (chunk.length / 4) (b / 4) ((toWords chunk).drop (b / 4)))
  else none

structure ChunkReader where
  chunk : Bytes
  pbegin : Nat
  pend : Nat
  deriving Repr

def ChunkReader.init (chunk : Bytes) (k nparts : Nat) : Option ChunkReader :=
  let nstep := crStepAlign (crStepRaw chunk.length nparts)
  let b := crBegin chunk.length nstep k
  let e := crEnd chunk.length nstep k
  match findNextHead chunk b, findNextHead chunk e with
  | some pb, some pe => some { chunk, pbegin := pb, pend := pe }
  | _, _ => none

inductive CRd
  | done
  | invalid
  | record (r : Bytes) (next : ChunkReader)

/-- header words at byte offset `o` -/
def headerAt (chunk : Bytes) (o : Nat) : Option (Nat × Nat) :=
  match chunk.drop o with
  | m0 :: m1 :: m2 :: m3 :: l0 :: l1 :: l2 :: l3 :: _ => some (word32 m0 m1 m2 m3, word32 l0 l1 l2 l3)
  | _ => none

/-- the reassembly loop of `RecordIOChunkReader::NextRecord` (cflag ≠ 0 path) -/
def crMulti : Nat → ChunkReader → Bytes → CRd
  | 0, _, _ => .invalid
  | fuel + 1, cr, temp =>
    if cr.pbegin + 8 ≤ cr.pend then
      match headerAt cr.chunk cr.pbegin with
      | none => .invalid
      | some (w0, w1) =>
        if w0 = kMagic then
          let cflag := decodeFlag w1
          let clen := decodeLength w1
          let temp' := temp ++ ((cr.chunk.drop (cr.pbegin + 8)).take clen)
          let cr' := { cr with pbegin := cr.pbegin + crAdvance clen }
          if cflag = 3 then .record temp' cr'
          else crMulti fuel cr' (temp' ++ magicBytes)
        else .invalid
    else .invalid

def ChunkReader.next (cr : ChunkReader) : CRd :=
  if crDone cr.pbegin cr.pend then .done
  else
    match headerAt cr.chunk cr.pbegin with
    | none => .invalid
    | some (w0, w1) =>
      if w0 = kMagic then
        let cflag := decodeFlag w1
        let clen := decodeLength w1
        if cflag = 0 then
          let nb := cr.pbegin + crAdvance clen
          if nb ≤ cr.pend then
            .record ((cr.chunk.drop (cr.pbegin + 8)).take clen) { cr with pbegin := nb }
          else .invalid
        else if cflag = 1 then crMulti (cr.chunk.length + 1) cr []
        else .invalid
      else .invalid

/-- all records of one chunk-reader part; `none` if a `CHECK` fired -/
def ChunkReader.drainFuel : Nat → ChunkReader → Option (List Bytes)
  | 0, _ => none
  | fuel + 1, cr =>
    match cr.next with
    | .done => some []
    | .invalid => none
    | .record r cr' => (ChunkReader.drainFuel fuel cr').map (r :: ·)

def chunkPart (chunk : Bytes) (k nparts : Nat) : Option (List Bytes) :=
  match ChunkReader.init chunk k nparts with
  | none => none
  | some cr => cr.drainFuel (chunk.length + 1)

end DmlcModel.RecordIO
