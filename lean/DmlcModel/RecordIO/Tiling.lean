/- chunk-reader parts tile a chunk of whole records -/
import DmlcModel.RecordIO.ChunkRead
import DmlcModel.BasicLemmas

namespace DmlcModel.RecordIO
open DmlcModel DmlcModel.Gen.RecordIO DmlcModel.Split

theorem drain_records (rs : List Bytes) (h : Short rs) :
    ∀ (fuel : Nat) (chunk post : Bytes) (pb : Nat), rs.length < fuel →
      chunk.drop pb = writeAll rs ++ post →
      ChunkReader.drainFuel fuel { chunk := chunk, pbegin := pb, pend := pb + (writeAll rs).length }
        = some rs := by
  induction rs with
  | nil =>
    intro fuel chunk post pb hf _
    obtain ⟨fuel, rfl⟩ : ∃ k, fuel = k + 1 := ⟨fuel - 1, by simp at hf; omega⟩
    simp [ChunkReader.drainFuel, ChunkReader.next, writeAll, crDone]
  | cons r rs ih =>
    intro fuel chunk post pb hf hdrop
    simp only [List.length_cons] at hf
    obtain ⟨fuel, rfl⟩ : ∃ k, fuel = k + 1 := ⟨fuel - 1, by omega⟩
    rw [writeAll, List.append_assoc] at hdrop
    have hdrop' : chunk.drop (pb + imageLen r) = writeAll rs ++ post := by
      rw [← List.drop_drop, hdrop, imageLen, List.drop_left]
    rw [ChunkReader.drainFuel, writeAll_cons_length,
      next_at_record chunk (writeAll rs ++ post) r pb _ h.head hdrop (by omega), ← Nat.add_assoc]
    simp only []
    rw [ih h.tail fuel chunk post (pb + imageLen r) (by omega) hdrop']
    rfl

theorem writeAll_slice (rs : List Bytes) (a c : Nat) (h : a ≤ c) :
    writeAll ((rs.drop a).take (c - a)) =
      ((writeAll rs).drop (writeAll (rs.take a)).length).take
        ((writeAll (rs.take c)).length - (writeAll (rs.take a)).length) := by
  have e2 : writeAll rs = writeAll (rs.take c) ++ writeAll (rs.drop c) := by
    rw [← writeAll_append, List.take_append_drop]
  rw [e2, take_slice rs a c h, writeAll_append, List.append_assoc, List.drop_left, List.length_append,
    Nat.add_sub_cancel_left, List.take_left]

/-- the window `[b, e)` as snapped to record starts by the constructor -/
theorem part_records (rs : List Bytes) (h : Short rs) (b e : Nat) (hbe : b ≤ e) :
    ChunkReader.drainFuel ((writeAll rs).length + 1)
        { chunk := writeAll rs, pbegin := nextStart rs 0 b, pend := nextStart rs 0 e }
      = some ((rs.drop (startIdx rs 0 b)).take (startIdx rs 0 e - startIdx rs 0 b)) := by
  have hab := startIdx_mono rs 0 b e hbe
  rw [nextStart_eq, nextStart_eq, Nat.zero_add, Nat.zero_add]
  generalize startIdx rs 0 b = a at *
  generalize startIdx rs 0 e = c at *
  have hdrop := (List.take_append_drop ((writeAll (rs.take c)).length - (writeAll (rs.take a)).length)
    ((writeAll rs).drop (writeAll (rs.take a)).length)).symm
  rw [← writeAll_slice rs a c hab] at hdrop
  rw [take_slice rs a c hab, writeAll_append, List.length_append]
  refine drain_records _ (fun r hr => h r (List.mem_of_mem_drop (List.mem_of_mem_take hr))) _ _ _ _ ?_ hdrop
  have := writeAll_length_ge rs h
  have : ((rs.drop a).take (c - a)).length ≤ rs.length := by
    rw [List.length_take, List.length_drop]; omega
  omega

theorem slices_cover (rs : List Bytes) (h : Short rs) (c : Nat → Nat) (n : Nat)
    (hmono : ∀ k, k < n → c k ≤ c (k + 1)) (h0 : c 0 = 0) (hn : c n = (writeAll rs).length) :
    (List.range n).flatMap (fun k =>
      (rs.drop (startIdx rs 0 (c k))).take (startIdx rs 0 (c (k + 1)) - startIdx rs 0 (c k))) = rs := by
  have z : startIdx rs 0 (c 0) = 0 := by rw [h0]; exact startIdx_of_le rs 0 0 (Nat.le_refl _)
  have he := startIdx_head rs h 0 rs.length (Nat.le_refl _)
  rw [Nat.zero_add, List.take_length] at he
  rw [flatMap_range_telescope (fun a b => (rs.drop (startIdx rs 0 a)).take (startIdx rs 0 b - startIdx rs 0 a)) c
      n (by simp) fun k hk =>
        slice_append rs _ _ _ (by rw [z]; exact Nat.zero_le _) (startIdx_mono rs 0 _ _ (hmono k hk)), z, hn, he]
  exact List.take_length

end DmlcModel.RecordIO
