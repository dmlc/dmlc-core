/- `RecordIOChunkReader::NextRecord` started at a record start inside a chunk of whole records -/
import DmlcModel.RecordIO.Resync

namespace DmlcModel.RecordIO
open DmlcModel DmlcModel.Gen.RecordIO DmlcModel.Split

theorem headerAt_part {chunk : Bytes} {pb flag : Nat} {data more : Bytes} {pad : Nat} (hf : flag < 8)
    (hn : data.length < 2 ^ 29) (h : chunk.drop pb = hdr flag data.length ++ (data ++ zeros pad ++ more)) :
    ∃ w, headerAt chunk pb = some (kMagic, w) ∧ decodeFlag w = flag ∧ decodeLength w = data.length := by
  obtain ⟨m0, m1, m2, m3, l0, l1, l2, l3, e, hm, hF, hL⟩ := hdr_eq flag data.length hf hn
  exact ⟨_, by rw [headerAt, h, e]; simp only [List.cons_append, hm], hF, hL⟩

theorem crMulti_part (fuel : Nat) (chunk temp data more : Bytes) (pb pend flag pad : Nat) (hf : flag < 8)
    (hn : data.length < 2 ^ 29) (hp : data.length + pad = (data.length + 3) / 4 * 4)
    (hd : chunk.drop pb = hdr flag data.length ++ (data ++ zeros pad ++ more)) (hfit : pb + 8 ≤ pend) :
    crMulti (fuel + 1) { chunk := chunk, pbegin := pb, pend := pend } temp =
      if flag = 3 then
        .record (temp ++ data) { chunk := chunk, pbegin := pb + (8 + data.length + pad), pend := pend }
      else crMulti fuel { chunk := chunk, pbegin := pb + (8 + data.length + pad), pend := pend }
        (temp ++ data ++ magicBytes) := by
  obtain ⟨w, hw, hF, hL⟩ := headerAt_part hf hn hd
  rw [crMulti]
  simp only [if_pos hfit, hw, if_true, hF, hL, crAdvance_spec _ hn, (drop_part hd).1, part_take]
  rw [← hp, Nat.add_assoc]

theorem next_part (chunk data more : Bytes) (pb pend flag pad : Nat) (hf : flag = 0 ∨ flag = 1)
    (hn : data.length < 2 ^ 29) (hp : data.length + pad = (data.length + 3) / 4 * 4)
    (hd : chunk.drop pb = hdr flag data.length ++ (data ++ zeros pad ++ more))
    (hfit : pb + (8 + data.length + pad) ≤ pend) :
    ChunkReader.next { chunk := chunk, pbegin := pb, pend := pend } =
      if flag = 0 then
        .record data { chunk := chunk, pbegin := pb + (8 + data.length + pad), pend := pend }
      else crMulti (chunk.length + 1) { chunk := chunk, pbegin := pb, pend := pend } [] := by
  obtain ⟨w, hw, hF, hL⟩ := headerAt_part (by omega : flag < 8) hn hd
  have hnd : crDone pb pend = false := by unfold crDone; simp; omega
  rw [ChunkReader.next]
  simp only [hnd, Bool.false_eq_true, if_false, hw, if_true, hF, hL, crAdvance_spec _ hn, (drop_part hd).1,
    part_take]
  rw [← hp, ← Nat.add_assoc 8, if_pos hfit]
  rcases hf with rfl | rfl <;> rfl

theorem next_at_record (chunk post r : Bytes) (pb pend : Nat) (hr : r.length < 2 ^ 29)
    (hdrop : chunk.drop pb = (writeRecord r).1 ++ post) (hfit : pb + imageLen r ≤ pend) :
    ChunkReader.next { chunk := chunk, pbegin := pb, pend := pend }
      = CRd.record r { chunk := chunk, pbegin := pb + imageLen r, pend := pend } := by
  -- by induction over the parts: the reassembly loop over a continuation, `NextRecord` over a whole image
  unfold imageLen at hfit ⊢
  rw [writeRecord_eq_img r hr] at hdrop hfit ⊢
  refine (img_induct (P := fun first r I => ∀ (post : Bytes) (pb : Nat), chunk.drop pb = I ++ post →
    pb + I.length ≤ pend →
    (first = false → ∀ (fuel : Nat) (temp : Bytes), r.length < fuel →
      crMulti fuel { chunk := chunk, pbegin := pb, pend := pend } temp =
        .record (temp ++ r) { chunk := chunk, pbegin := pb + I.length, pend := pend }) ∧
    (first = true → ChunkReader.next { chunk := chunk, pbegin := pb, pend := pend } =
        .record r { chunk := chunk, pbegin := pb + I.length, pend := pend })) ?_ ?_ true [] r rfl
    (by simp [toWords]) (by simpa using hr) post pb hdrop hfit).2 rfl
  · intro first d pad hn hp _ post pb hd hfit
    rw [List.append_assoc] at hd
    simp only [List.length_append, hdr_length, zeros, List.length_replicate, ← Nat.add_assoc 8] at hfit ⊢
    constructor
    · rintro rfl fuel temp hf
      obtain ⟨fuel, rfl⟩ : ∃ k, fuel = k + 1 := ⟨fuel - 1, by omega⟩
      rw [crMulti_part fuel chunk temp d post pb pend 3 pad (by omega) hn hp hd (by omega), if_pos rfl]
    · rintro rfl
      rw [next_part chunk d post pb pend 0 pad (Or.inl rfl) hn hp hd hfit, if_pos rfl]
  · intro first d r I _ hn _ _ hI ih post pb hd hfit
    rw [List.append_assoc, List.append_assoc (d ++ zeros 0)] at hd
    simp only [List.length_append, magicBytes_length] at hn
    simp only [List.length_append, hdr_length, zeros, List.length_replicate] at hfit ⊢
    have hch := congrArg List.length hd
    rw [List.length_drop, List.length_append, hdr_length, part_length, List.length_append] at hch
    have ihQ := (ih post (pb + (8 + d.length + 0)) (drop_part hd).2 (by omega)).1 rfl
    constructor
    · rintro rfl fuel temp hf
      simp only [magicBytes_length] at hf
      obtain ⟨fuel, rfl⟩ : ∃ k, fuel = k + 1 := ⟨fuel - 1, by omega⟩
      rw [crMulti_part fuel chunk temp d _ pb pend 2 0 (by omega) (by omega) (by omega) hd (by omega),
        if_neg (by omega), ihQ fuel _ (by omega)]
      simp [Nat.add_assoc]
    · rintro rfl
      rw [next_part chunk d _ pb pend 1 0 (Or.inr rfl) (by omega) (by omega) hd (by omega), if_neg (by omega),
        crMulti_part _ chunk [] d _ pb pend 1 0 (by omega) (by omega) (by omega) hd (by omega),
        if_neg (by omega), ihQ _ _ (by omega)]
      simp [Nat.add_assoc]

end DmlcModel.RecordIO
