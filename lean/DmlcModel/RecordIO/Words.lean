/-
The head scanner `findHead` against its specification `firstHead`, which passes over a `Tail`; `skippable` is the executable
form of "no position is a record head" in which `C02_record_image_shape` is stated (the proofs use `Tail`).
-/
import DmlcModel.RecordIO.Image

namespace DmlcModel.RecordIO
open DmlcModel DmlcModel.Gen.RecordIO DmlcModel.Split

/-- relative index of the first record head in a word list (its length if there is none) -/
def firstHead : List Nat → Nat
  | w0 :: w1 :: rest =>
    if w0 = kMagic ∧ headAccept (decodeFlag w1) then 0 else 1 + firstHead (w1 :: rest)
  | [_] => 1
  | [] => 0

theorem firstHead_le (ws : List Nat) : firstHead ws ≤ ws.length := by
  induction ws using firstHead.induct with
  | case1 w0 w1 rest h => simp [firstHead, h]
  | case2 w0 w1 rest h ih => simp only [firstHead, h, if_false, List.length_cons] at ih ⊢; omega
  | case3 w => simp [firstHead]
  | case4 => simp [firstHead]

theorem findHead_eq (pend : Nat) (p : Nat) (ws : List Nat) (h : p + ws.length = pend) :
    findHead pend p ws = p + firstHead ws := by
  induction ws generalizing p with
  | nil => simp only [List.length_nil] at h; simp [findHead, firstHead]; omega
  | cons w0 rest ih =>
    cases rest with
    | nil => simp [findHead, firstHead]; simp at h; omega
    | cons w1 rest =>
      simp only [List.length_cons] at h
      have hc : headLoopCond p pend = true := by
        unfold headLoopCond u64; simp; omega
      simp only [findHead, hc, if_true, firstHead]
      split
      · rfl
      · rw [ih (p + 1) (by simp; omega)]; omega

theorem firstHead_head {l : Nat} (hf : decodeFlag l = 0 ∨ decodeFlag l = 1) (ws : List Nat) :
    firstHead (kMagic :: l :: ws) = 0 := by
  rw [firstHead, if_pos ⟨rfl, (headAccept_iff _).mpr hf⟩]

theorem firstHead_data {w : Nat} (hw : w ≠ kMagic) (ws : List Nat) : firstHead (w :: ws) = 1 + firstHead ws := by
  cases ws with
  | nil => rfl
  | cons x xs => rw [firstHead, if_neg (fun h => hw h.1)]

theorem firstHead_tail {t : List Nat} (ht : Tail t) (more : List Nat) :
    firstHead (t ++ more) = t.length + firstHead more := by
  induction ht with
  | nil => simp
  | data hw _ ih => rw [List.cons_append, firstHead_data hw, ih, List.length_cons]; omega
  | @cont l ws hl _ ih =>
    have hn : ¬ (kMagic = kMagic ∧ headAccept (decodeFlag l) = true) :=
      fun h => by have := (headAccept_iff _).mp h.2; omega
    rw [List.cons_append, List.cons_append, firstHead, if_neg hn, firstHead_data (flag_ne_magic (by omega)), ih]
    simp only [List.length_cons]; omega

/-- no position of `ws` is a record head, whatever follows `ws` -/
def skippable : List Nat → Bool
  | [] => true
  | [w] => w != kMagic
  | w0 :: w1 :: rest => (w0 != kMagic || !headAccept (decodeFlag w1)) && skippable (w1 :: rest)

theorem skippable_data {w : Nat} (hw : w ≠ kMagic) {ws : List Nat} (h : skippable ws = true) :
    skippable (w :: ws) = true := by
  cases ws with
  | nil => simpa [skippable] using hw
  | cons x xs => simp [skippable, hw, h]

theorem skippable_tail {t : List Nat} (ht : Tail t) : skippable t = true := by
  induction ht with
  | nil => rfl
  | data hw _ ih => exact skippable_data hw ih
  | @cont l ws hl _ ih =>
    have hn : headAccept (decodeFlag l) = false :=
      Bool.eq_false_iff.mpr fun h => by have := (headAccept_iff _).mp h; omega
    rw [skippable, hn, skippable_data (flag_ne_magic (by omega)) ih]
    rfl

theorem record_shape (r : Bytes) (h : r.length < 2 ^ 29) :
    ∃ L T, toWords (writeRecord r).1 = kMagic :: L :: T
      ∧ headAccept (decodeFlag L) = true ∧ skippable (L :: T) = true := by
  obtain ⟨l, t, e, ht, hf, _⟩ := record_words r h
  exact ⟨l, t, e, (headAccept_iff _).mpr hf, skippable_tail (Tail.data (flag_ne_magic (by omega)) ht)⟩

end DmlcModel.RecordIO
