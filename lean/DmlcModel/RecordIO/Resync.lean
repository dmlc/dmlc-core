/-
Self-synchronisation: dropping any number of words from the image of a record sequence leaves a head-free run (`Tail`) up to the
next record start, then the image of the remaining records (`words_drop`); hence scanning from any aligned offset finds the next
record start.  Then the least record start `≥ o` in closed form: `nextStart` is start number `startIdx` (`nextStart_eq`).
-/
import DmlcModel.RecordIO.Words

namespace DmlcModel.RecordIO
open DmlcModel DmlcModel.Split

def imageLen (r : Bytes) : Nat := (writeRecord r).1.length

/-- least record start `≥ o` in the stream of `rs` placed at byte offset `base`, or the stream end -/
def nextStart : List Bytes → Nat → Nat → Nat
  | [], base, _ => base
  | r :: rs, base, o => if o ≤ base then base else nextStart rs (base + imageLen r) o

theorem writeAll_cons_length (r : Bytes) (rs : List Bytes) :
    (writeAll (r :: rs)).length = imageLen r + (writeAll rs).length := by
  simp [writeAll, imageLen]

theorem nextStart_of_le (rs : List Bytes) (base o : Nat) (h : o ≤ base) : nextStart rs base o = base := by
  cases rs with
  | nil => rfl
  | cons r rs => rw [nextStart, if_pos h]

theorem words_drop (rs : List Bytes) (h : Short rs) : ∀ (base k : Nat), 4 * k ≤ (writeAll rs).length →
    ∃ t rs', Tail t ∧ Short rs' ∧ (toWords (writeAll rs)).drop k = t ++ toWords (writeAll rs') ∧
      nextStart rs base (base + 4 * k) = base + 4 * (k + t.length) := by
  induction rs with
  | nil =>
    intro base k hk
    have : k = 0 := by simp only [writeAll, List.length_nil] at hk; omega
    subst this
    exact ⟨[], [], Tail.nil, h, rfl, rfl⟩
  | cons r rs ih =>
    intro base k hk
    obtain ⟨l, t, e, ht, hf, hl⟩ := writeAll_words_cons r rs h.head
    rw [writeAll_cons_length] at hk
    rw [e, nextStart]
    unfold imageLen at hk ⊢
    by_cases hk0 : k = 0
    · subst hk0
      exact ⟨[], r :: rs, Tail.nil, h, by rw [← e]; rfl, if_pos (Nat.le_refl _)⟩
    rw [if_neg (by omega)]
    by_cases hk1 : k < t.length + 2
    · obtain ⟨j, rfl⟩ : ∃ j, k = j + 1 := ⟨k - 1, by omega⟩
      refine ⟨(l :: t).drop j, rs, (Tail.data (flag_ne_magic (by omega)) ht).drop j, h.tail, ?_, ?_⟩
      · rw [List.drop_succ_cons, ← List.cons_append, List.drop_append_of_le_length (by simp; omega)]
      · rw [nextStart_of_le _ _ _ (by omega), List.length_drop, List.length_cons]
        omega
    · obtain ⟨t', rs', h1, h2, h3, h4⟩ := ih h.tail (base + (writeRecord r).1.length) (k - (t.length + 2)) (by omega)
      refine ⟨t', rs', h1, h2, ?_, ?_⟩
      · obtain ⟨j, rfl⟩ : ∃ j, k = j + 1 + 1 := ⟨k - 2, by omega⟩
        rw [List.drop_succ_cons, List.drop_succ_cons, List.drop_append, List.drop_of_length_le (by omega),
          List.nil_append, ← h3]
        congr 1
        omega
      · rw [show base + 4 * k = base + (writeRecord r).1.length + 4 * (k - (t.length + 2)) by omega, h4]
        omega

theorem firstHead_writeAll (rs : List Bytes) (h : Short rs) : firstHead (toWords (writeAll rs)) = 0 := by
  cases rs with
  | nil => rfl
  | cons r rs =>
    obtain ⟨l, t, e, _, hf, _⟩ := writeAll_words_cons r rs h.head
    rw [e, firstHead_head hf]

theorem findNextHead_writeAll (rs : List Bytes) (h : Short rs) (o : Nat)
    (ha : o % 4 = 0) (hb : o ≤ (writeAll rs).length) :
    findNextHead (writeAll rs) o = some (nextStart rs 0 o) := by
  have hlen4 := writeAll_length_mod4 rs h
  obtain ⟨k, rfl⟩ : ∃ k, o = 4 * k := ⟨o / 4, by omega⟩
  obtain ⟨t, rs', ht, hs', hd, hn⟩ := words_drop rs h 0 k hb
  rw [findNextHead, if_pos ⟨ha, hlen4⟩, show 4 * k / 4 = k by omega,
    findHead_eq _ _ _ (by rw [List.length_drop, toWords_length]; omega), hd, firstHead_tail ht,
    firstHead_writeAll rs' hs']
  rw [Nat.zero_add] at hn
  rw [hn]
  simp

/-- number of records of `rs` (placed at `base`) that start before `o` -/
def startIdx : List Bytes → Nat → Nat → Nat
  | [], _, _ => 0
  | r :: rs, base, o => if o ≤ base then 0 else 1 + startIdx rs (base + imageLen r) o

theorem startIdx_of_le (rs : List Bytes) (base o : Nat) (h : o ≤ base) : startIdx rs base o = 0 := by
  cases rs with
  | nil => rfl
  | cons r rs => rw [startIdx, if_pos h]

theorem startIdx_le (rs : List Bytes) (base o : Nat) : startIdx rs base o ≤ rs.length := by
  induction rs generalizing base with
  | nil => simp [startIdx]
  | cons r rs ih =>
    simp only [startIdx, List.length_cons]
    split
    · omega
    · have := ih (base + imageLen r); omega

theorem nextStart_eq (rs : List Bytes) (base o : Nat) :
    nextStart rs base o = base + (writeAll (rs.take (startIdx rs base o))).length := by
  induction rs generalizing base with
  | nil => simp [nextStart, startIdx, writeAll]
  | cons r rs ih =>
    simp only [nextStart, startIdx]
    split
    · simp [writeAll]
    · rw [ih, Nat.add_comm 1, List.take_succ_cons, writeAll_cons_length]
      omega

theorem startIdx_mono (rs : List Bytes) (base o1 o2 : Nat) (h : o1 ≤ o2) :
    startIdx rs base o1 ≤ startIdx rs base o2 := by
  induction rs generalizing base with
  | nil => simp [startIdx]
  | cons r rs ih =>
    simp only [startIdx]
    by_cases h1 : o1 ≤ base
    · simp [h1]
    · have h2 : ¬ o2 ≤ base := by omega
      simp only [h1, h2, if_false]
      have := ih (base + imageLen r); omega

theorem startIdx_le_of_le (rs : List Bytes) : ∀ (base o j : Nat), o ≤ base + (writeAll (rs.take j)).length →
    startIdx rs base o ≤ j := by
  induction rs with
  | nil => intro base o j _; exact Nat.zero_le _
  | cons r rs ih =>
    intro base o j h
    rw [startIdx]
    split
    · exact Nat.zero_le _
    · cases j with
      | zero => exact absurd h (by assumption)
      | succ j =>
        rw [List.take_succ_cons, writeAll_cons_length, ← Nat.add_assoc] at h
        have := ih _ _ _ h
        omega

/-- every image is at least a header long -/
theorem startIdx_head (rs : List Bytes) (h : Short rs) : ∀ (base j : Nat), j ≤ rs.length →
    startIdx rs base (base + (writeAll (rs.take j)).length) = j := by
  induction rs with
  | nil => intro base j hj; exact (Nat.le_zero.mp hj).symm
  | cons r rs ih =>
    intro base j hj
    cases j with
    | zero => exact startIdx_of_le _ _ _ (Nat.le_refl _)
    | succ j =>
      have hp : 8 ≤ imageLen r := (writeRecord_length r h.head).1
      rw [List.take_succ_cons, writeAll_cons_length, startIdx, if_neg (by omega), ← Nat.add_assoc,
        ih h.tail _ j (Nat.le_of_succ_le_succ hj), Nat.add_comm]

theorem writeAll_take_le (rs : List Bytes) (i j : Nat) (h : i ≤ j) :
    (writeAll (rs.take i)).length ≤ (writeAll (rs.take j)).length := by
  have := congrArg List.length (writeAll_append ((rs.take j).take i) ((rs.take j).drop i))
  rw [List.take_append_drop, List.take_take, Nat.min_eq_left h, List.length_append] at this
  omega

theorem nextStart_isStart (rs : List Bytes) (base o : Nat) :
    ∃ j, j ≤ rs.length ∧ nextStart rs base o = base + (writeAll (rs.take j)).length :=
  ⟨_, startIdx_le rs base o, nextStart_eq rs base o⟩

theorem le_nextStart (rs : List Bytes) : ∀ (base o : Nat), o ≤ base + (writeAll rs).length →
    o ≤ nextStart rs base o := by
  induction rs with
  | nil => intro base o h; exact h
  | cons r rs ih =>
    intro base o h
    rw [writeAll_cons_length] at h
    rw [nextStart]
    split
    · assumption
    · exact ih _ _ (by omega)

theorem nextStart_le (rs : List Bytes) (base o j : Nat) (h : o ≤ base + (writeAll (rs.take j)).length) :
    nextStart rs base o ≤ base + (writeAll (rs.take j)).length := by
  rw [nextStart_eq]
  exact Nat.add_le_add_left (writeAll_take_le rs _ _ (startIdx_le_of_le rs base o j h)) _

theorem nextStart_le_total (rs : List Bytes) (base o : Nat) : nextStart rs base o ≤ base + (writeAll rs).length := by
  have := writeAll_take_le rs _ rs.length (startIdx_le rs base o)
  rw [List.take_length] at this
  rw [nextStart_eq]
  omega

theorem nextStart_mono (rs : List Bytes) (base o₁ o₂ : Nat) (h : o₁ ≤ o₂) :
    nextStart rs base o₁ ≤ nextStart rs base o₂ := by
  rw [nextStart_eq, nextStart_eq]
  exact Nat.add_le_add_left (writeAll_take_le rs _ _ (startIdx_mono rs base o₁ o₂ h)) _

theorem nextStart_shift (rs : List Bytes) (d : Nat) : ∀ (base o : Nat),
    nextStart rs (base + d) (o + d) = nextStart rs base o + d := by
  induction rs with
  | nil => intro base o; rfl
  | cons r rs ih =>
    intro base o
    rw [nextStart, nextStart, Nat.add_right_comm, ih]
    by_cases h : o ≤ base
    · rw [if_pos h, if_pos (by omega)]
    · rw [if_neg h, if_neg (by omega)]

theorem nextStart_append (a b : List Bytes) : ∀ (base o : Nat),
    nextStart (a ++ b) base o =
      if o ≤ base + (writeAll a).length then nextStart a base o else nextStart b (base + (writeAll a).length) o := by
  induction a with
  | nil =>
    intro base o
    split
    · rw [nextStart_of_le _ _ _ (by assumption)]; rfl
    · rfl
  | cons r a ih =>
    intro base o
    rw [List.cons_append, nextStart, nextStart, ih, writeAll_cons_length, Nat.add_assoc]
    by_cases h : o ≤ base
    · rw [if_pos h, if_pos (by omega), if_pos h]
    · rw [if_neg h, if_neg h]

end DmlcModel.RecordIO
