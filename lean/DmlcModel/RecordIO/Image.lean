/-
The byte image of one record described directly (`img`: one `hdr, payload` part per aligned magic word of the record, flags
1,2,…,2,3 or a single part with flag 0) and proved equal to what the writer loop emits (`writeGo_eq`).  In words it is `kMagic`, a
length word with flag 0/1, then a `Tail`: words among which every `kMagic` is a continuation header.  Every reader and scanner
is proved against this description, by `img_induct`.
-/
import DmlcModel.RecordIO.Lemmas

namespace DmlcModel.RecordIO
open DmlcModel DmlcModel.Gen.RecordIO

theorem le32_length (x : Nat) : (le32 x).length = 4 := rfl
theorem magicBytes_length : magicBytes.length = 4 := by decide

theorem toWords_lt4 (t : Bytes) (h : t.length < 4) : toWords t = [] := by
  match t, h with
  | [], _ | [_], _ | [_, _], _ | [_, _, _], _ => rfl
  | _ :: _ :: _ :: _ :: _, h => simp at h; omega

/-- the last alternative of a four-bytes-at-a-time recursion is reached with fewer than four bytes -/
theorem length_lt4 (t : Bytes) (h : ∀ a b c d r, t = a :: b :: c :: d :: r → False) : t.length < 4 := by
  match t, h with
  | [], _ | [_], _ | [_, _], _ | [_, _, _], _ => simp
  | a :: b :: c :: d :: r, h => exact absurd rfl (h a b c d r)

theorem toWords_append (a b : Bytes) (h : a.length % 4 = 0) : toWords (a ++ b) = toWords a ++ toWords b := by
  fun_induction toWords a with
  | case1 x y z w rest ih =>
    simp only [List.length_cons] at h
    simp only [List.cons_append, toWords]
    rw [ih (by omega)]
  | case2 t hnot =>
    have := length_lt4 t hnot
    have ht : t = [] := List.length_eq_zero_iff.mp (by omega)
    subst ht
    rfl

theorem toWords_length (a : Bytes) : (toWords a).length = a.length / 4 := by
  fun_induction toWords a with
  | case1 x y z w rest ih => simp only [List.length_cons, ih]; omega
  | case2 t hnot =>
    have := length_lt4 t hnot
    simp only [List.length_nil]; omega

theorem toWords_take_drop (a : Bytes) (k : Nat) :
    toWords (a.take (4 * k)) = (toWords a).take k ∧ toWords (a.drop (4 * k)) = (toWords a).drop k := by
  have hl := toWords_length a
  by_cases h : 4 * k ≤ a.length
  · have e := toWords_append (a.take (4 * k)) (a.drop (4 * k)) (by rw [List.length_take]; omega)
    have hk : (toWords (a.take (4 * k))).length = k := by rw [toWords_length, List.length_take]; omega
    rw [List.take_append_drop] at e
    rw [e]
    exact ⟨(List.take_left' hk).symm, (List.drop_left' hk).symm⟩
  · rw [List.take_of_length_le (by omega), List.drop_of_length_le (by omega),
      List.take_of_length_le (by omega), List.drop_of_length_le (by omega)]
    exact ⟨rfl, rfl⟩

theorem word32_magic : word32 0x0a 0x23 0xd7 0xce = kMagic := by decide

theorem word32_eq_magic (a b c d : Byte) (h : word32 a b c d = kMagic) : [a, b, c, d] = magicBytes := by
  have ha := UInt8.toNat_lt a
  have hb := UInt8.toNat_lt b
  have hc := UInt8.toNat_lt c
  have hd := UInt8.toNat_lt d
  rw [kMagic_val] at h
  unfold word32 at h
  have h1 : a = 0x0a := UInt8.toNat_inj.mp (by show a.toNat = 10; omega)
  have h2 : b = 0x23 := UInt8.toNat_inj.mp (by show b.toNat = 35; omega)
  have h3 : c = 0xd7 := UInt8.toNat_inj.mp (by show c.toNat = 215; omega)
  have h4 : d = 0xce := UInt8.toNat_inj.mp (by show d.toNat = 206; omega)
  rw [h1, h2, h3, h4, magicBytes_eq]

/-- a header as the eight bytes the readers pattern-match on -/
theorem hdr_cons (x : Nat) (more : Bytes) :
    magicBytes ++ le32 x ++ more =
      0x0a :: 0x23 :: 0xd7 :: 0xce :: UInt8.ofNat (x % 256) :: UInt8.ofNat (x / 256 % 256) ::
        UInt8.ofNat (x / 65536 % 256) :: UInt8.ofNat (x / 16777216 % 256) :: more := by
  rw [magicBytes_eq]; rfl

theorem toWords_hdr (x : Nat) (hx : x < 4294967296) (more : Bytes) :
    toWords (magicBytes ++ le32 x ++ more) = kMagic :: x :: toWords more := by
  rw [hdr_cons]
  simp only [toWords]
  rw [word32_le32 x hx, word32_magic]

end DmlcModel.RecordIO

-- the full names `Split.hdr`, `Split.img`, `Split.Tail`, `Split.Short` … are fixed
namespace DmlcModel.Split
open DmlcModel DmlcModel.RecordIO DmlcModel.Gen.RecordIO

/-! ### a direct description of the image of one record -/

def hdr (f n : Nat) : Bytes := magicBytes ++ le32 (encodeLRec f n)

theorem hdr_length (f n : Nat) : (hdr f n).length = 8 := by
  simp [hdr, magicBytes_length, le32_length]

theorem hdr_eq (f n : Nat) (hf : f < 8) (hn : n < 2 ^ 29) :
    ∃ m0 m1 m2 m3 l0 l1 l2 l3, hdr f n = [m0, m1, m2, m3, l0, l1, l2, l3] ∧ word32 m0 m1 m2 m3 = kMagic ∧
      decodeFlag (word32 l0 l1 l2 l3) = f ∧ decodeLength (word32 l0 l1 l2 l3) = n := by
  refine ⟨_, _, _, _, _, _, _, _, by rw [hdr, ← List.append_nil (le32 _), ← List.append_assoc, hdr_cons],
    word32_magic, ?_, ?_⟩ <;> rw [word32_le32 _ (encodeLRec_lt _ _ hf hn)]
  · exact decodeFlag_encode _ _ hf hn
  · exact decodeLength_encode _ _ hf hn

/-- the bytes `WriteRecord` emits from the loop state `cur = bhead[dptr, i)`, remaining `bhead[i, len)`;
`first` = no part written yet (`dptr == 0`) -/
def img (first : Bool) (cur : Bytes) : Bytes → Bytes
  | a :: b :: c :: d :: rest =>
    if [a, b, c, d] = magicBytes then hdr (if first then 1 else 2) cur.length ++ cur ++ img false [] rest
    else img first (cur ++ [a, b, c, d]) rest
  | tail =>
    hdr (if first then 0 else 3) (cur ++ tail).length ++ (cur ++ tail) ++ zeros ((4 - tail.length % 4) % 4)

theorem img_short (first : Bool) (cur tail : Bytes) (h : tail.length < 4) :
    img first cur tail =
      hdr (if first then 0 else 3) (cur ++ tail).length ++ (cur ++ tail) ++ zeros ((4 - tail.length % 4) % 4) := by
  match tail, h with
  | [], _ | [_], _ | [_, _], _ | [_, _, _], _ => simp [img]
  | _ :: _ :: _ :: _ :: _, h => simp at h; omega

theorem img_magic (first : Bool) (cur rest : Bytes) :
    img first cur (magicBytes ++ rest) = hdr (if first then 1 else 2) cur.length ++ cur ++ img false [] rest := by
  rw [magicBytes_eq]
  simp only [List.cons_append, List.nil_append]
  rw [img, if_pos magicBytes_eq.symm]

/-! A part as the readers meet it: `hdr flag data.length ++ (data ++ zeros pad ++ more)`, the payload padded to a
multiple of 4 and followed by anything. -/

theorem part_take (data more : Bytes) (pad : Nat) : (data ++ zeros pad ++ more).take data.length = data := by
  rw [List.append_assoc, List.take_left]

theorem part_drop (data more : Bytes) (pad : Nat) : (data ++ zeros pad ++ more).drop (data.length + pad) = more := by
  rw [show data.length + pad = (data ++ zeros pad).length by simp [zeros], List.drop_left]

theorem part_length (data more : Bytes) (pad : Nat) :
    (data ++ zeros pad ++ more).length = data.length + pad + more.length := by
  simp only [List.length_append, zeros, List.length_replicate]

theorem drop_part {l : Bytes} {o flag : Nat} {data more : Bytes} {pad : Nat}
    (h : l.drop o = hdr flag data.length ++ (data ++ zeros pad ++ more)) :
    l.drop (o + 8) = data ++ zeros pad ++ more ∧ l.drop (o + (8 + data.length + pad)) = more := by
  have h8 : l.drop (o + 8) = data ++ zeros pad ++ more := by
    rw [← List.drop_drop, h, ← hdr_length flag data.length, List.drop_left]
  refine ⟨h8, ?_⟩
  rw [show o + (8 + data.length + pad) = o + 8 + (data.length + pad) by omega, ← List.drop_drop, h8, part_drop]

theorem part_eq (flag len : Nat) (hasData : Bool) (data : Bytes) (h : data.length = len)
    (hd : hasData = true ↔ len ≠ 0) : part flag len hasData data = hdr flag len ++ data := by
  unfold part hdr
  subst h
  cases hasData with
  | true => rw [if_pos rfl, List.take_length]
  | false => rw [List.length_eq_zero_iff.mp (Decidable.not_not.mp (mt hd.mpr (by simp)))]; rfl

theorem writeLast_eq (len dptr : Nat) (data : Bytes) (hlen : len < 2 ^ 29) (hle : dptr ≤ len)
    (hdata : data.length = len - dptr) :
    writeGo.writeLast len dptr data =
      (hdr (if dptr == 0 then 0 else 3) data.length ++ data ++ zeros ((len + 3) / 4 * 4 - len), 0) := by
  unfold writeGo.writeLast
  have hL : wLastLen len dptr = data.length := by unfold wLastLen sub32; omega
  have hflag : wLastFlag dptr = (if dptr == 0 then 0 else 3) := by
    unfold wLastFlag; by_cases h : dptr = 0 <;> simp [h]
  have hpad : (if wPadNeeded (wUpperAlign len) len = true then zeros (wPadLen (wUpperAlign len) len) else [])
      = zeros ((len + 3) / 4 * 4 - len) := by
    rw [wUpperAlign_spec len hlen]
    unfold wPadNeeded wPadLen sub32
    by_cases h : (len + 3) / 4 * 4 = len
    · simp [h, zeros]
    · rw [if_pos (by simpa using h)]; congr 1; omega
  simp only [hpad]
  rw [hL, part_eq _ data.length (len != dptr) data rfl (by simp only [bne_iff_ne, ne_eq]; omega), hflag]

theorem writeGo_eq (len i dptr : Nat) (cur rest : Bytes) (hlen : len < 2 ^ 29) (hi : i % 4 = 0)
    (hle : dptr ≤ i) (hcur : cur.length = i - dptr) (hrest : i + rest.length = len) :
    writeGo len i dptr cur rest = (img (dptr == 0) cur rest, alignedMagicCount rest) := by
  fun_induction writeGo len i dptr cur rest with
  | case1 i dptr cur a b c d rest hlt hm p r ih =>
    simp only [List.length_cons] at hrest
    have hp : p = hdr (if dptr == 0 then 1 else 2) cur.length ++ cur := by
      show part _ _ _ _ = _
      have hL : wPartLen i dptr = cur.length := by unfold wPartLen sub32; omega
      have hF : wPartFlag dptr = (if dptr == 0 then 1 else 2) := rfl
      rw [hL, hF]
      exact part_eq _ cur.length (wPartHasData i dptr) cur rfl (by simp only [wPartHasData, bne_iff_ne, ne_eq]; omega)
    have hr : r = (img false [] rest, alignedMagicCount rest) := by
      have hn : u32 (i + 4) = i + 4 := by unfold u32; omega
      show writeGo len (u32 (i + 4)) (wNextDptr i) [] rest = _
      unfold wNextDptr at ih ⊢
      rw [hn] at ih ⊢
      rw [ih (by omega) (Nat.le_refl _) (by simp) (by omega)]
      simp
    rw [img, if_pos hm, alignedMagicCount, if_pos hm, hp, hr, Nat.add_comm]
  | case2 i dptr cur a b c d rest hlt hm ih =>
    simp only [List.length_cons] at hrest
    have hn : u32 (i + 4) = i + 4 := by unfold u32; omega
    rw [hn] at ih ⊢
    rw [ih (by omega) (by omega) (by simp; omega) (by omega), img, if_neg hm, alignedMagicCount, if_neg hm,
      Nat.zero_add]
  | case3 i dptr cur a b c d rest hlt =>
    simp only [List.length_cons] at hrest
    rw [wLowerAlign_spec len (by omega)] at hlt
    omega
  | case4 i dptr cur tail hnot =>
    have hl4 := length_lt4 tail (fun a b c d r e => hnot a b c d r e)
    rw [writeLast_eq len dptr (cur ++ tail) hlen (by omega) (by simp; omega), img_short _ _ _ hl4,
      show (len + 3) / 4 * 4 - len = (4 - tail.length % 4) % 4 by omega]
    rw [alignedMagicCount_lt4 tail hl4]

theorem writeRecord_eq (r : Bytes) (h : r.length < 2 ^ 29) :
    writeRecord r = (img true [] r, alignedMagicCount r) := by
  unfold writeRecord
  rw [show u32 r.length = r.length by unfold u32; omega]
  exact writeGo_eq _ 0 0 [] r h rfl (Nat.le_refl _) rfl (Nat.zero_add _)

theorem writeRecord_eq_img (r : Bytes) (h : r.length < 2 ^ 29) : (writeRecord r).1 = img true [] r := by
  rw [writeRecord_eq r h]

/-- 8 bytes per part, the payload minus the elided magic words, padding to a multiple of 4 -/
theorem img_length (first : Bool) (cur rest : Bytes) :
    (img first cur rest).length =
      8 + 4 * alignedMagicCount rest + cur.length + rest.length + (4 - rest.length % 4) % 4 := by
  fun_induction img first cur rest with
  | case1 first cur a b c d rest hm ih =>
    simp only [List.length_append, hdr_length, List.length_cons, List.length_nil, alignedMagicCount, if_pos hm,
      ih]
    omega
  | case2 first cur a b c d rest hm ih =>
    simp only [List.length_append, List.length_cons, List.length_nil, alignedMagicCount, if_neg hm, ih]
    omega
  | case3 first cur tail hnot =>
    have hl4 := length_lt4 tail hnot
    simp only [List.length_append, hdr_length, zeros, List.length_replicate, alignedMagicCount_lt4 tail hl4]
    omega

/-! ### word structure of a record image -/

/-- word lists without a record head: every magic word is followed by a length word with flag 2 or 3 -/
inductive Tail : List Nat → Prop
  | nil : Tail []
  | data {w : Nat} {ws : List Nat} : w ≠ kMagic → Tail ws → Tail (w :: ws)
  | cont {l : Nat} {ws : List Nat} : (decodeFlag l = 2 ∨ decodeFlag l = 3) → Tail ws → Tail (kMagic :: l :: ws)

theorem Tail.append {a b : List Nat} (ha : Tail a) (hb : Tail b) : Tail (a ++ b) := by
  induction ha with
  | nil => exact hb
  | data hw _ ih => exact Tail.data hw ih
  | cont hl _ ih => exact Tail.cont hl ih

theorem Tail.of_data {ws : List Nat} (h : ∀ w ∈ ws, w ≠ kMagic) : Tail ws := by
  induction ws with
  | nil => exact Tail.nil
  | cons w ws ih => exact Tail.data (h w (by simp)) (ih (fun x hx => h x (by simp [hx])))

theorem flag_ne_magic {l : Nat} (h : decodeFlag l ≠ 6) : l ≠ kMagic := by
  intro e; rw [e, decodeFlag_kMagic] at h; exact h rfl

theorem Tail.drop {ws : List Nat} (h : Tail ws) : ∀ k, Tail (ws.drop k) := by
  induction h with
  | nil => intro k; simpa using Tail.nil
  | data hw ht ih =>
    intro k
    cases k with
    | zero => exact Tail.data hw ht
    | succ k => simpa using ih k
  | cont hl ht ih =>
    intro k
    match k with
    | 0 => exact Tail.cont hl ht
    | 1 => exact Tail.data (flag_ne_magic (by omega)) ht
    | k + 2 => simpa using ih k

theorem Tail.not_head {t rest : List Nat} (h : Tail t) (hne : t ≠ []) {l : Nat} {tl : List Nat}
    (he : t ++ rest = kMagic :: l :: tl) : ¬ (decodeFlag l = 0 ∨ decodeFlag l = 1) := by
  cases h with
  | nil => exact absurd rfl hne
  | data hw _ =>
    simp only [List.cons_append, List.cons.injEq] at he
    exact absurd he.1 hw
  | cont hl _ =>
    simp only [List.cons_append, List.cons.injEq] at he
    obtain ⟨_, h2, _⟩ := he
    subst h2; omega

/-- a 0..3 byte tail padded with zeros to one word is not the magic word (its top byte is 0) -/
theorem lastWord_ne_magic (tail : Bytes) (h : tail.length < 4) :
    ∀ w ∈ toWords (tail ++ zeros ((4 - tail.length % 4) % 4)), w ≠ kMagic := by
  match tail, h with
  | [], _ => simp [zeros, toWords]
  | [a], _ =>
    have := UInt8.toNat_lt a
    simp [zeros, toWords, word32, kMagic_val]; omega
  | [a, b], _ =>
    have := UInt8.toNat_lt a
    have := UInt8.toNat_lt b
    simp [zeros, toWords, word32, kMagic_val]; omega
  | [a, b, c], _ =>
    have := UInt8.toNat_lt a
    have := UInt8.toNat_lt b
    have := UInt8.toNat_lt c
    simp [zeros, toWords, word32, kMagic_val]; omega
  | _ :: _ :: _ :: _ :: _, h => simp at h; omega

/-- Induction over the parts of a record image.  `P first r I` speaks of a payload `r` and its image `I`, written as a whole
record (`first`) or as the continuation of one.  An image is either a final part (flag 0 / 3, padded to a multiple of 4), or a
part (flag 1 / 2, a multiple of 4 bytes long, without the magic word) followed by the image of what comes after the next aligned
magic word.  (`more` writes that part as `d ++ zeros 0 ++ I`, the shape `payload ++ padding ++ rest` of the readers' one-part
lemmas.) -/
theorem img_induct {P : Bool → Bytes → Bytes → Prop}
    (last : ∀ (first : Bool) (d : Bytes) (pad : Nat), d.length < 2 ^ 29 →
      d.length + pad = (d.length + 3) / 4 * 4 → (∀ w ∈ toWords (d ++ zeros pad), w ≠ kMagic) →
      P first d (hdr (if first then 0 else 3) d.length ++ (d ++ zeros pad)))
    (more : ∀ (first : Bool) (d r I : Bytes), d.length % 4 = 0 → (d ++ magicBytes ++ r).length < 2 ^ 29 →
      (∀ w ∈ toWords d, w ≠ kMagic) → I.length % 4 = 0 → 8 + r.length ≤ I.length → P false r I →
      P first (d ++ magicBytes ++ r) (hdr (if first then 1 else 2) d.length ++ (d ++ zeros 0 ++ I)))
    (first : Bool) (cur rest : Bytes) (hc4 : cur.length % 4 = 0) (hcw : ∀ w ∈ toWords cur, w ≠ kMagic)
    (hlen : cur.length + rest.length < 2 ^ 29) : P first (cur ++ rest) (img first cur rest) := by
  fun_induction img first cur rest with
  | case1 first cur a b c d rest hm ih =>
    simp only [List.length_cons] at hlen
    have hl := img_length false [] rest
    rw [List.length_nil] at hl
    have := more first cur rest _ hc4 (by simp [magicBytes_length]; omega) hcw (by omega) (by omega)
      (ih rfl (by simp [toWords]) (by simp; omega))
    rw [show a :: b :: c :: d :: rest = magicBytes ++ rest by rw [← hm]; rfl, ← List.append_assoc,
      List.append_assoc (hdr _ _)]
    simpa [zeros] using this
  | case2 first cur a b c d rest hm ih =>
    simp only [List.length_cons] at hlen
    have := ih (by simp; omega) ?_ (by simp; omega)
    · rwa [List.append_assoc] at this
    · intro w hw
      rw [toWords_append _ _ hc4] at hw
      simp only [toWords, List.mem_append, List.mem_singleton] at hw
      rcases hw with hw | hw
      · exact hcw w hw
      · exact fun e => hm (word32_eq_magic a b c d (hw ▸ e))
  | case3 first cur tail hnot =>
    have hl4 := length_lt4 tail hnot
    rw [List.append_assoc (hdr _ _)]
    refine last first (cur ++ tail) _ (by simp; omega) (by simp; omega) fun w hw => ?_
    rw [List.append_assoc, toWords_append _ _ hc4, List.mem_append] at hw
    exact hw.elim (hcw w) (lastWord_ne_magic tail hl4 w)

/-! ### images of record lists -/

def Short (rs : List Bytes) : Prop := ∀ r ∈ rs, r.length < 2 ^ 29

theorem Short.head {r : Bytes} {rs : List Bytes} (h : Short (r :: rs)) : r.length < 2 ^ 29 := h r (by simp)
theorem Short.tail {r : Bytes} {rs : List Bytes} (h : Short (r :: rs)) : Short rs := fun x hx => h x (by simp [hx])

theorem writeRecord_length (r : Bytes) (h : r.length < 2 ^ 29) :
    8 ≤ (writeRecord r).1.length ∧ (writeRecord r).1.length % 4 = 0 := by
  rw [writeRecord_eq_img r h, img_length]
  simp only [List.length_nil]
  omega

theorem record_words (r : Bytes) (h : r.length < 2 ^ 29) :
    ∃ l t, toWords (writeRecord r).1 = kMagic :: l :: t ∧ Tail t ∧ (decodeFlag l = 0 ∨ decodeFlag l = 1) ∧
      (writeRecord r).1.length = 4 * (t.length + 2) := by
  have h4 := (writeRecord_length r h).2
  have hl := toWords_length (writeRecord r).1
  rw [writeRecord_eq_img r h] at h4 hl ⊢
  obtain ⟨l, t, e, ht, hf⟩ := img_induct (P := fun first _ I => ∃ l t, toWords I = kMagic :: l :: t ∧ Tail t ∧
    (if first then decodeFlag l = 0 ∨ decodeFlag l = 1 else decodeFlag l = 2 ∨ decodeFlag l = 3))
    (fun first d pad hn _ hw =>
      have hf : (if first then 0 else 3) < 8 := by cases first <;> simp
      ⟨_, _, toWords_hdr _ (encodeLRec_lt _ _ hf hn) _, Tail.of_data hw,
        by rw [decodeFlag_encode _ _ hf hn]; cases first <;> simp⟩)
    (fun first d r I hd4 hn hw _ _ ⟨l', t', e', ht', hf'⟩ => by
      have hf : (if first then 1 else 2) < 8 := by cases first <;> simp
      have hn' : d.length < 2 ^ 29 := by simp only [List.length_append] at hn; omega
      refine ⟨_, toWords d ++ kMagic :: l' :: t', ?_,
        Tail.append (Tail.of_data hw) (Tail.cont (by simpa using hf') ht'),
        by rw [decodeFlag_encode _ _ hf hn']; cases first <;> simp⟩
      rw [hdr, toWords_hdr _ (encodeLRec_lt _ _ hf hn'), zeros, List.replicate_zero, List.append_nil,
        toWords_append _ _ hd4, e'])
    true [] r rfl (by simp [toWords]) (by simpa using h)
  refine ⟨l, t, e, ht, by simpa using hf, ?_⟩
  rw [e] at hl
  simp only [List.length_cons] at hl
  omega

theorem writeAll_append (rs₁ rs₂ : List Bytes) : writeAll (rs₁ ++ rs₂) = writeAll rs₁ ++ writeAll rs₂ := by
  induction rs₁ with
  | nil => rfl
  | cons r rs ih => simp [writeAll, ih]

theorem writeAll_length_mod4 (rs : List Bytes) (h : Short rs) : (writeAll rs).length % 4 = 0 := by
  induction rs with
  | nil => rfl
  | cons r rs ih =>
    have := (writeRecord_length r h.head).2
    have := ih h.tail
    simp only [writeAll, List.length_append]; omega

theorem writeAll_length_ge (rs : List Bytes) (h : Short rs) : 8 * rs.length ≤ (writeAll rs).length := by
  induction rs with
  | nil => simp
  | cons r rs ih =>
    have h1 := (writeRecord_length r h.head).1
    have h2 := ih h.tail
    simp only [writeAll, List.length_append, List.length_cons]
    omega

theorem short_nil : Short [] := fun _ h => by cases h

theorem short_append {a b : List Bytes} : Short (a ++ b) ↔ Short a ∧ Short b := by
  unfold Short
  constructor
  · intro h; exact ⟨fun r hr => h r (by simp [hr]), fun r hr => h r (by simp [hr])⟩
  · rintro ⟨h1, h2⟩ r hr
    rcases List.mem_append.1 hr with hr | hr
    · exact h1 r hr
    · exact h2 r hr

theorem short_take {rs : List Bytes} (h : Short rs) (j : Nat) : Short (rs.take j) :=
  fun r hr => h r (List.mem_of_mem_take hr)

theorem short_drop {rs : List Bytes} (h : Short rs) (j : Nat) : Short (rs.drop j) :=
  fun r hr => h r (List.mem_of_mem_drop hr)

theorem writeAll_eq_nil (rs : List Bytes) (h : Short rs) (he : writeAll rs = []) : rs = [] := by
  have := writeAll_length_ge rs h
  rw [he] at this
  cases rs with
  | nil => rfl
  | cons r rs => simp at this

theorem writeAll_ne_nil (rs : List Bytes) (h : Short rs) (hne : rs ≠ []) : writeAll rs ≠ [] :=
  fun he => hne (writeAll_eq_nil rs h he)

theorem writeAll_words_cons (r : Bytes) (rs : List Bytes) (h : r.length < 2 ^ 29) :
    ∃ l t, toWords (writeAll (r :: rs)) = kMagic :: l :: (t ++ toWords (writeAll rs)) ∧ Tail t ∧
      (decodeFlag l = 0 ∨ decodeFlag l = 1) ∧ (writeRecord r).1.length = 4 * (t.length + 2) := by
  obtain ⟨l, t, e, ht, hf, hl⟩ := record_words r h
  refine ⟨l, t, ?_, ht, hf, hl⟩
  rw [writeAll, toWords_append _ _ (by omega), e]
  rfl

end DmlcModel.Split
