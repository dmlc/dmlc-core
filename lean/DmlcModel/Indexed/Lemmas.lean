/-
What the rest of the directory rests on: the repairs are present (`fix_*`), slice arithmetic, byte layout of an indexed
RecordIO file, what the generated kernels compute.
-/
import DmlcModel.Indexed.Defs
import DmlcModel.RecordIO.Tiling
import DmlcModel.BasicLemmas

namespace DmlcModel.Indexed
open DmlcModel.Gen.Indexed
open DmlcModel.RecordIO (writeAll writeRecord)
open DmlcModel.Split (Short)

/-! The repairs of C06-F1 .. C06-F3 (DESIGN section 6) and of C05-F1 are in the source the kernels were generated from; the
last (the early return of `InputSplitBase::BeforeFirst` on an empty part drops `tmp_chunk_`) is what leaves the chunk empty
after a `BeforeFirst` / `ResetPartition` on a part without records. -/

theorem fix_readIndexSentinel : readIndexSentinel = true := by decide
theorem fix_resetPushesSentinel : resetPushesSentinel = false := by decide
theorem fix_emptyAssigns : emptyAssigns = true := by decide
theorem fix_nextRecordOwn : nextRecordOwn = false := by decide
theorem fix_bfEmptyClears : bfEmptyClears = true := by decide

/-! ### slice arithmetic -/

theorem step_cover (N n : Nat) (hn : 0 < n) : N ≤ n * step N n := by
  unfold step
  have h1 := Nat.div_add_mod (N + n - 1) n
  have h2 := Nat.mod_lt (N + n - 1) hn
  omega

theorem step_mul_le (N n : Nat) : n * step N n ≤ N + n - 1 := by
  unfold step
  exact Nat.mul_div_le _ _

theorem sliceBegin_le_end (N n k : Nat) : sliceBegin N n k ≤ sliceEnd N n k := by
  unfold sliceBegin sliceEnd
  have : k * step N n ≤ (k + 1) * step N n := Nat.mul_le_mul_right _ (by omega)
  omega

theorem sliceEnd_le (N n k : Nat) : sliceEnd N n k ≤ N := by unfold sliceEnd; omega

theorem sliceBegin_zero (N n : Nat) : sliceBegin N n 0 = 0 := by simp [sliceBegin]

theorem sliceBegin_last (N n : Nat) (hn : 0 < n) : sliceBegin N n n = N :=
  Nat.min_eq_right (step_cover N n hn)

theorem slice_bounds (N n k : Nat) (hN : N < 2 ^ 60) (hn32 : n < 2 ^ 32) (hk : k < n) :
    k * step N n < 2 ^ 64 ∧ (k + 1) * step N n < 2 ^ 64 ∧ k + 1 < 2 ^ 32 := by
  have : (k + 1) * step N n ≤ N + n - 1 := Nat.le_trans (Nat.mul_le_mul_right _ hk) (step_mul_le N n)
  have : k * step N n ≤ (k + 1) * step N n := Nat.mul_le_mul_right _ (Nat.le_succ k)
  omega

theorem slice_of_empty {N n k : Nat} (h : N ≤ k * step N n) : sliceBegin N n k = N ∧ sliceEnd N n k = N := by
  unfold sliceBegin sliceEnd
  rw [Nat.succ_mul]
  omega

theorem slice_of_next {N n k : Nat} (hn : 0 < n) (h : (k + 1) * step N n < N) :
    sliceBegin N n k = k * step N n ∧ sliceEnd N n k = (k + 1) * step N n ∧ k * step N n < (k + 1) * step N n := by
  have hcov := step_cover N n hn
  have h0 : 0 < step N n := Nat.pos_of_ne_zero fun h0 => by rw [h0] at hcov h; omega
  unfold sliceBegin sliceEnd
  rw [Nat.succ_mul] at h ⊢
  omega

theorem slice_of_last {N n k : Nat} (h1 : k * step N n < N) (h2 : ¬ (k + 1) * step N n < N) :
    sliceBegin N n k = k * step N n ∧ sliceEnd N n k = N := by
  unfold sliceBegin sliceEnd
  omega

theorem slice_eq {α : Type} (l : List α) (n k : Nat) :
    (l.drop (sliceBegin l.length n k)).take (sliceEnd l.length n k - sliceBegin l.length n k) =
      (l.drop (k * step l.length n)).take (step l.length n) := by
  unfold sliceBegin sliceEnd
  by_cases h : k * step l.length n ≤ l.length
  · rw [Nat.min_eq_left h]
    apply List.ext_getElem?
    intro i
    simp only [List.getElem?_take, List.getElem?_drop]
    have e : (k + 1) * step l.length n = k * step l.length n + step l.length n := Nat.succ_mul _ _
    by_cases hi : i < step l.length n
    · by_cases hj : k * step l.length n + i < l.length
      · rw [if_pos (by omega), if_pos hi]
      · rw [if_pos hi]
        rw [List.getElem?_eq_none (by omega)]
        split <;> rfl
    · rw [if_neg (by omega), if_neg hi]
  · have h' : l.length ≤ k * step l.length n := by omega
    rw [Nat.min_eq_right h', List.drop_eq_nil_of_le (Nat.le_refl _), List.drop_eq_nil_of_le h']
    simp

/-! ### byte layout -/

/-- `index_` as `ReadIndexFile` builds it (with the end sentinel) -/
def goodIndex (rs : List Bytes) : List (Nat × Nat) :=
  (List.range rs.length).map (fun i => (start rs i, start rs (i + 1) - start rs i)) ++ [(start rs rs.length, 0)]

theorem start_zero (rs : List Bytes) : start rs 0 = 0 := by simp [start, writeAll]

theorem start_total (rs : List Bytes) (i : Nat) (h : rs.length ≤ i) : start rs i = (writeAll rs).length := by
  unfold start; rw [List.take_of_length_le h]

theorem start_succ (rs : List Bytes) (i : Nat) (h : i < rs.length) :
    start rs (i + 1) = start rs i + (writeRecord rs[i]).1.length := by
  unfold start
  rw [List.take_succ_eq_append_getElem h, Split.writeAll_append]
  simp [writeAll]

theorem start_add_seg (rs : List Bytes) (a b : Nat) (hab : a ≤ b) :
    start rs b = start rs a + (writeAll (seg rs a b)).length := by
  unfold start
  rw [show rs.take b = rs.take a ++ seg rs a b from take_slice rs a b hab, Split.writeAll_append, List.length_append]

theorem start_mono (rs : List Bytes) (a b : Nat) (hab : a ≤ b) : start rs a ≤ start rs b :=
  RecordIO.writeAll_take_le rs a b hab

theorem start_le_total (rs : List Bytes) (a : Nat) : start rs a ≤ (writeAll rs).length := by
  by_cases h : a ≤ rs.length
  · rw [← start_total rs rs.length (Nat.le_refl _)]; exact start_mono rs a _ h
  · rw [start_total rs a (by omega)]; exact Nat.le_refl _

theorem short_seg (rs : List Bytes) (h : Short rs) (a b : Nat) : Short (seg rs a b) :=
  Split.short_take (Split.short_drop h a) _

theorem start_mod4 (rs : List Bytes) (h : Short rs) (i : Nat) : start rs i % 4 = 0 :=
  Split.writeAll_length_mod4 _ (Split.short_take h i)

theorem start_strict (rs : List Bytes) (h : Short rs) (a b : Nat) (hab : a < b) (hb : b ≤ rs.length) :
    start rs a + 8 ≤ start rs b := by
  have h1 := start_mono rs (a + 1) b hab
  have h2 := start_succ rs a (by omega)
  have h3 := (Split.writeRecord_length rs[a] (h _ (List.getElem_mem _))).1
  omega

theorem file_seg (rs : List Bytes) (a b : Nat) (hab : a ≤ b) :
    ((writeAll rs).drop (start rs a)).take (start rs b - start rs a) = writeAll (seg rs a b) :=
  (RecordIO.writeAll_slice rs a b hab).symm

theorem seg_self (rs : List Bytes) (a : Nat) : seg rs a a = [] := by simp [seg]

theorem seg_one (rs : List Bytes) (i : Nat) (h : i < rs.length) : seg rs i (i + 1) = [rs[i]] := by
  unfold seg
  rw [Nat.add_sub_cancel_left, List.drop_eq_getElem_cons h]
  rfl

theorem seg_append (rs : List Bytes) (a b c : Nat) (hab : a ≤ b) (hbc : b ≤ c) :
    seg rs a c = seg rs a b ++ seg rs b c :=
  (slice_append rs a b c hab hbc).symm

theorem seg_ne_nil (rs : List Bytes) (a b : Nat) (hab : a < b) (hb : b ≤ rs.length) : seg rs a b ≠ [] := by
  unfold seg
  intro h
  have := congrArg List.length h
  simp at this
  omega

/-- the data file is smaller than 2^62 bytes (so that no `size_t` expression of the code wraps) -/
def Bnd (rs : List Bytes) : Prop := (writeAll rs).length < 2 ^ 62

theorem start_lt (rs : List Bytes) (hb : Bnd rs) (i : Nat) : start rs i < 2 ^ 62 :=
  Nat.lt_of_le_of_lt (start_le_total rs i) hb

theorem index_lt (rs : List Bytes) (hs : Short rs) (hb : Bnd rs) {i : Nat} (h : i ≤ rs.length) : i < 2 ^ 59 := by
  have := Split.writeAll_length_ge rs hs
  unfold Bnd at hb
  omega

theorem start_lt_start (rs : List Bytes) (hs : Short rs) {a b : Nat} (hab : a < b) (hb : b ≤ rs.length) :
    start rs a < start rs b :=
  Nat.lt_of_lt_of_le (Nat.lt_add_of_pos_right (by decide)) (start_strict rs hs a b hab hb)

theorem start_lt_total (rs : List Bytes) (hs : Short rs) {i : Nat} (h : i < rs.length) :
    start rs i < (writeAll rs).length :=
  Nat.lt_of_lt_of_le (start_lt_start rs hs (Nat.lt_succ_self i) h) (start_le_total rs _)

theorem lt_of_start_lt (rs : List Bytes) {a b : Nat} (h : start rs a < start rs b) : a < b :=
  Nat.lt_of_not_le fun h' => Nat.lt_irrefl _ (Nat.lt_of_lt_of_le h (start_mono rs b a h'))

theorem seg_bytes_ne (rs : List Bytes) (hs : Short rs) (a b : Nat) (hab : a < b) (hbN : b ≤ rs.length) :
    (writeAll (seg rs a b)).isEmpty = false := by
  have hlt := start_strict rs hs a b hab hbN
  have hlen := start_add_seg rs a b (Nat.le_of_lt hab)
  cases h : writeAll (seg rs a b) with
  | nil => rw [h] at hlen; simp at hlen; omega
  | cons _ _ => rfl

theorem filterMap_range' (rs : List Bytes) : ∀ (k ib : Nat), ib + k ≤ rs.length →
    (List.range' ib k).filterMap (fun i => rs[i]?) = (rs.drop ib).take k := by
  intro k
  induction k with
  | zero => intro ib _; simp
  | succ k ih =>
    intro ib h
    have hlt : ib < rs.length := by omega
    rw [List.range'_succ, List.filterMap_cons, List.getElem?_eq_getElem hlt]
    simp only
    rw [ih (ib + 1) (by omega), List.drop_eq_getElem_cons hlt, List.take_succ_cons]

theorem goodIndex_length (rs : List Bytes) : (goodIndex rs).length = rs.length + 1 := by
  simp [goodIndex]

theorem goodIndex_get (rs : List Bytes) (i : Nat) (h : i ≤ rs.length) :
    (goodIndex rs)[i]? = some (start rs i, start rs (i + 1) - start rs i) := by
  unfold goodIndex
  by_cases hi : i < rs.length
  · rw [List.getElem?_append_left (by simpa using hi)]
    simp [hi]
  · have : i = rs.length := by omega
    subst this
    rw [List.getElem?_append_right (by simp)]
    simp [start_total rs (rs.length + 1) (by omega), start_total rs rs.length (Nat.le_refl _)]

/-! ### what the generated kernels compute (within the bounds where no `size_t` expression wraps) -/

theorem rpStep_spec (N n : Nat) (hN : N < 2 ^ 60) (hn : 0 < n) (hn32 : n < 2 ^ 32) : rpStep N n = step N n := by
  unfold rpStep step
  rw [u64_of_lt (by omega), sub64_of_le (by omega) (by omega)]

theorem ixAlign_eq : ixAlign = 4 := by decide

theorem nbCount_bounds (no b : Nat) (hb1 : 1 ≤ b) (hb32 : b < 2 ^ 32) (hno : no < 2 ^ 32) :
    1 ≤ nbCount no b ∧ nbCount no b < 2 ^ 32 := by
  unfold nbCount
  split
  · exact ⟨hb1, hb32⟩
  · rename_i h; simp at h; omega

/-- both variants of the code (fresh batch, carried-over count) compute `min (cur + count) ie` and what is missing to `count` -/
theorem seq_last_carry (no b cur ie : Nat) (hno : no < 2 ^ 32) (hb32 : b < 2 ^ 32) (hcur : cur < 2 ^ 60) :
    (if nbFresh no = true then nbLastA cur b ie else nbLastB cur no ie) = min (cur + nbCount no b) ie ∧
    (if nbFresh no = true then nbCarryA cur b (min (cur + nbCount no b) ie) else nbCarryB cur no (min (cur + nbCount no b) ie)) =
      cur + nbCount no b - min (cur + nbCount no b) ie := by
  unfold nbFresh nbLastA nbLastB nbCarryA nbCarryB nbCount
  split <;> rw [u64_of_lt (by omega), sub64_of_le (by omega) (Nat.min_le_left _ _)] <;> exact ⟨rfl, rfl⟩

theorem nbRangeWords_spec (a b : Nat) (hab : a ≤ b) (hb : b < 2 ^ 64) (ha4 : a % 4 = 0) (hb4 : b % 4 = 0) :
    nbRangeWords b a ixAlign * 4 = b - a := by
  unfold nbRangeWords
  rw [ixAlign_eq, sub64_of_le hb hab]
  omega

theorem nbSeek_zero (a total : Nat) (h : a < 2 ^ 64) : nbSeek a (foAt total 0) = a := by
  simp only [nbSeek, foAt]
  rw [sub64_of_le h (Nat.zero_le _)]
  rfl

theorem nbRecWords_spec (a b : Nat) (ha4 : a % 4 = 0) (hb4 : b % 4 = 0) : nbRecWords (b - a) * 4 = b - a := by
  unfold nbRecWords
  omega

end DmlcModel.Indexed
