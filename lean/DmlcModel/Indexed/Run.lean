/-
`Serves`: a splitter state with a consumer's cell serves part `[ib, ie)` and still owes the records `todo`.  The bare class
and the wrapper both refine it; every operation is specified by what it does to `(ib, ie, todo)`.
-/
import DmlcModel.Indexed.Batch
import DmlcModel.Indexed.Extract
import DmlcModel.RecordIO.RoundTrip

namespace DmlcModel.Indexed
open DmlcModel.RecordIO (writeAll writeRecord)
open DmlcModel.Split (Short)

theorem unread_short (rs : List Bytes) (hs : Short rs) (s : St) : Short (unread rs s) := by
  intro r this
  unfold unread at this
  split at this
  · split at this
    · simp only [List.mem_filterMap] at this
      obtain ⟨i, _, hi'⟩ := this
      exact hs r (List.mem_of_getElem? hi')
    · exact short_seg rs hs _ _ r this
  · simp at this

theorem unread_length_le (rs : List Bytes) (sh : Bool) (s : St) (ib ie : Nat) (hc : Core rs sh s ib ie) :
    (unread rs s).length ≤ rs.length := by
  obtain ⟨cur, hcur, _, hcr⟩ := hc.cur
  have hleN := hc.leN
  cases sh with
  | true =>
    rw [unread_shuf hc.toBase hcur]
    have hp := (hc.shuf rfl).length_eq
    have h1 := List.length_filterMap_le (fun i => rs[i]?) (s.perm.drop cur)
    simp at hp h1
    omega
  | false =>
    rw [unread_seq hc.toBase hcur]
    simp [seg]
    omega

/-- `none`: `tmp_chunk_ == NULL` -/
def Holds (cell : Option Chunk) (pend : List Bytes) : Prop :=
  match cell with
  | none => pend = []
  | some c => c.rest = writeAll pend ∧ c.begin % 4 = 0

/-- `cell`: the bare class's own `tmp_chunk_`, or the cell the iterator lent the wrapper; `todo`: the records in the cell,
then those not yet loaded -/
structure Serves (rs : List Bytes) (sh : Bool) (s : St) (cell : Option Chunk) (ib ie : Nat) (todo : List Bytes) :
    Prop where
  core : Core rs sh s ib ie
  short : Short todo
  holds : ∃ pend, Holds cell pend ∧ todo = pend ++ unread rs s

theorem Serves.of_core {rs : List Bytes} {sh : Bool} {s : St} {cell : Option Chunk} {ib ie : Nat}
    (hc : Core rs sh s ib ie) (hh : Holds cell []) : Serves rs sh s cell ib ie (unread rs s) :=
  ⟨hc, unread_short rs hc.short s, [], hh, rfl⟩

theorem Serves.setChunk {rs : List Bytes} {sh : Bool} {s : St} {cell : Option Chunk} {ib ie : Nat} {todo : List Bytes}
    (h : Serves rs sh s cell ib ie todo) (c : Chunk) : Serves rs sh { s with chunk := c } cell ib ie todo :=
  { h with core := { h.core with } }

theorem Serves.forget {rs : List Bytes} {sh : Bool} {s : St} {c : Chunk} {ib ie : Nat} {todo : List Bytes}
    (h : Serves rs sh s (some c) ib ie todo) (hc : c.rest = []) : Serves rs sh s none ib ie todo := by
  obtain ⟨pend, hh, rfl⟩ := h.holds
  cases Split.writeAll_eq_nil pend (Split.short_append.1 h.short).1 (hh.1.symm.trans hc)
  exact ⟨h.core, h.short, [], rfl, rfl⟩

/-- the delivered blob `x` stands for the records `pre`: itself (one record), or the images of a non-empty group -/
def Blob (isRec : Bool) (x : Bytes) (pre : List Bytes) : Prop :=
  pre ≠ [] ∧ if isRec then pre = [x] else x = writeAll pre

/-- a pull on an object that owes `todo`: nothing only if `todo = []`, else a blob for a front part; `todo'` is left owed -/
def Pulled (isRec : Bool) (todo : List Bytes) (r : Option Bytes) (todo' : List Bytes) : Prop :=
  r.elim (todo = []) fun x => ∃ pre, Blob isRec x pre ∧ todo = pre ++ todo'

/-- `ExtractNextRecord` or `ExtractNextChunk` on a chunk that holds record images -/
structure ExtSpec (ext : Chunk → Except Err (Option (Bytes × Chunk))) (isRec : Bool) : Prop where
  nil : ∀ c : Chunk, c.rest = [] → ext c = .ok none
  cons : ∀ (c : Chunk) (pend : List Bytes), pend ≠ [] → Short pend → Holds (some c) pend →
    ∃ x c' pre pend', ext c = .ok (some (x, c')) ∧ Blob isRec x pre ∧ pend = pre ++ pend' ∧ Holds (some c') pend'

theorem extSpec_record : ExtSpec extractRecord true where
  nil := extractRecord_nil
  cons := by
    intro c pend hne hs ⟨hr, hb⟩
    cases pend with
    | nil => exact absurd rfl hne
    | cons r pend' =>
      have hl := (Split.writeRecord_length r hs.head).2
      exact ⟨r, _, [r], pend', extractRecord_spec r pend' hs c hr hb, ⟨by simp, rfl⟩, rfl, rfl,
        by show (c.begin + (writeRecord r).1.length) % 4 = 0; omega⟩

theorem extSpec_chunk : ExtSpec (fun c => .ok (extractChunk c)) false where
  nil := by intro c h; simp [extractChunk, h]
  cons := by
    intro c pend hne hs ⟨hr, hb⟩
    have hne' : c.rest ≠ [] := by rw [hr]; exact Split.writeAll_ne_nil pend hs hne
    have hm4 := Split.writeAll_length_mod4 pend hs
    refine ⟨c.rest, { c with begin := c.begin + c.rest.length, rest := [] }, pend, [], by simp [extractChunk, hne'],
      ⟨hne, hr⟩, by simp, rfl, ?_⟩
    show (c.begin + c.rest.length) % 4 = 0
    rw [hr]; omega

section consume
variable {rs : List Bytes} {ext : Chunk → Except Err (Option (Bytes × Chunk))}
  {isRec : Bool} (hext : ExtSpec ext isRec) {sh : Bool} {s : St} {ib ie : Nat}
include hext

theorem Serves.take {c : Chunk} {pend : List Bytes} (hc : Core rs sh s ib ie) (hsh : Short (pend ++ unread rs s))
    (hh : Holds (some c) pend) (hne : pend ≠ []) :
    ∃ x c' todo', ext c = .ok (some (x, c')) ∧ Serves rs sh s (some c') ib ie todo' ∧
      Pulled isRec (pend ++ unread rs s) (some x) todo' := by
  obtain ⟨x, c', pre, pend', g1, g2, rfl, g4⟩ := hext.cons c pend hne (Split.short_append.1 hsh).1 hh
  rw [List.append_assoc] at hsh ⊢
  exact ⟨x, c', _, g1, ⟨hc, (Split.short_append.1 hsh).2, pend', g4, rfl⟩, pre, g2, rfl⟩

theorem Serves.refill (c : Chunk) {b : Nat} (hc : Core rs sh s ib ie) (hb1 : 1 ≤ b) (hb32 : b < 2 ^ 32) :
    ∃ flag s' c', nextBatchEx s c b = .ok (flag, s', c') ∧
      if flag then ∃ x c'' todo', ext c' = .ok (some (x, c'')) ∧ Serves rs sh s' (some c'') ib ie todo' ∧
        Pulled isRec (unread rs s) (some x) todo'
      else unread rs s = [] ∧ Core rs sh s' ib ie ∧ c'.rest = c.rest ∧ c'.begin = c.begin := by
  obtain ⟨flag, s1, c1, e1, e2, e3⟩ := nbe_spec c hc hb1 hb32
  refine ⟨flag, s1, c1, e1, ?_⟩
  cases flag with
  | false => exact ⟨e3.1, e2, e3.2⟩
  | true =>
    obtain ⟨pre, p1, p2, p3, p4⟩ := e3
    rw [p4]
    exact Serves.take hext e2 (p4 ▸ unread_short rs hc.short s) ⟨p3, by rw [p2]⟩ p1

end consume

theorem nextBatch_spec {rs : List Bytes} {sh : Bool} {s : St} {ib ie b : Nat}
    {todo : List Bytes} (h : Serves rs sh s (some s.chunk) ib ie todo) (hb1 : 1 ≤ b) (hb32 : b < 2 ^ 32) :
    ∃ r s' todo', nextBatch s b = .ok (r, s') ∧ Serves rs sh s' (some s'.chunk) ib ie todo' ∧
      Pulled false todo r todo' := by
  obtain ⟨pend, hh, rfl⟩ := h.holds
  unfold nextBatch nextBatchLoop
  by_cases hp : pend = []
  · subst hp
    rw [Except.ok.inj (extSpec_chunk.nil _ hh.1)]
    obtain ⟨flag, s1, c1, e1, e3⟩ := Serves.refill extSpec_chunk s.chunk h.core hb1 hb32
    simp only [e1]
    cases flag with
    | false =>
      obtain ⟨hnone, hcore, hrest, hbegin⟩ := e3
      exact ⟨none, _, _, rfl,
        (Serves.of_core hcore (cell := some c1) ⟨hrest.trans hh.1, hbegin ▸ hh.2⟩).setChunk c1, hnone⟩
    | true =>
      obtain ⟨x, c2, todo', g1, g2, g3⟩ := e3
      unfold nextBatchLoop
      simp only [Except.ok.inj g1]
      exact ⟨some x, _, todo', rfl, g2.setChunk c2, g3⟩
  · obtain ⟨x, c', todo', g1, g2, g3⟩ := Serves.take extSpec_chunk h.core h.short hh hp
    rw [Except.ok.inj g1]
    exact ⟨some x, _, todo', rfl, g2.setChunk c', g3⟩

theorem nextRecord_spec {rs : List Bytes} {sh : Bool} {s : St} {ib ie : Nat}
    {todo : List Bytes} (h : Serves rs sh s (some s.chunk) ib ie todo) :
    ∃ r s' todo', nextRecord s = .ok (r, s') ∧ Serves rs sh s' (some s'.chunk) ib ie todo' ∧
      Pulled true todo r todo' := by
  obtain ⟨pend, hh, rfl⟩ := h.holds
  unfold nextRecord nextRecordLoop
  by_cases hp : pend = []
  · subst hp
    rw [extSpec_record.nil _ hh.1]
    obtain ⟨flag, s1, c1, e1, e3⟩ := Serves.refill extSpec_record s.chunk h.core h.core.batch.1 h.core.batch.2
    simp only [fix_nextRecordOwn, Bool.false_eq_true, if_false, e1]
    cases flag with
    | false =>
      obtain ⟨hnone, hcore, hrest, hbegin⟩ := e3
      exact ⟨none, _, _, rfl,
        (Serves.of_core hcore (cell := some c1) ⟨hrest.trans hh.1, hbegin ▸ hh.2⟩).setChunk c1, hnone⟩
    | true =>
      obtain ⟨x, c2, todo', g1, g2, g3⟩ := e3
      unfold nextRecordLoop
      simp only [g1]
      exact ⟨some x, _, todo', rfl, g2.setChunk c2, g3⟩
  · obtain ⟨x, c', todo', g1, g2, g3⟩ := Serves.take extSpec_record h.core h.short hh hp
    rw [g1]
    exact ⟨some x, _, todo', rfl, g2.setChunk c', g3⟩

theorem pull_spec {rs : List Bytes} {sh : Bool} {s : St} {ib ie : Nat}
    {todo : List Bytes} (h : Serves rs sh s (some s.chunk) ib ie todo) (p : Pull) (hp : PullOk p) :
    ∃ r s' todo', pull s p = .ok (r, s') ∧ Serves rs sh s' (some s'.chunk) ib ie todo' ∧
      Pulled p.isRec todo r todo' := by
  cases p with
  | record => exact nextRecord_spec h
  | batch b => exact nextBatch_spec h hp.1 hp.2
  | chunk => exact nextBatch_spec h h.core.batch.1 h.core.batch.2

theorem bf_serves {rs : List Bytes} {sh : Bool} {s : St} {ib ie : Nat} (p : List Nat)
    (hc : Base rs sh s ib ie) (hp : sh = true → p.Perm (List.range' ib (ie - ib))) :
    ∃ s', beforeFirst s p = .ok s' ∧ s'.chunk.rest = [] ∧
      Serves rs sh s' (some s'.chunk) ib ie (passOrder rs sh p ib ie) := by
  obtain ⟨s', hrun, hcore, hrest, hbegin, hunread⟩ := bf_spec p hc hp
  exact ⟨s', hrun, hrest, hunread ▸ .of_core hcore ⟨hrest, by rw [hbegin]⟩⟩

theorem reset_serves {rs : List Bytes} {sh : Bool} {s : St} (hf : OnFile rs sh s) {k n : Nat} {p : List Nat}
    (hq : PartOk rs.length sh k n p) :
    ∃ s', resetPartition s k n p = .ok s' ∧ s'.chunk.rest = [] ∧
      Serves rs sh s' (some s'.chunk) (sliceBegin rs.length n k) (sliceEnd rs.length n k)
        (passOrder rs sh p (sliceBegin rs.length n k) (sliceEnd rs.length n k)) := by
  obtain ⟨s', hrun, hcore, hrest, hbegin, hunread⟩ := reset_spec hf hq
  exact ⟨s', hrun, hrest, hunread ▸ .of_core hcore ⟨hrest, by rw [hbegin]⟩⟩

theorem run_spec {rs : List Bytes} {sh : Bool} :
    ∀ (ops : List Op) {s : St} {ib ie : Nat} {todo : List Bytes},
    Serves rs sh s (some s.chunk) ib ie todo → OpsOk rs.length sh ib ie ops →
    ∃ s' todo', run s ops = .ok s' ∧
      Serves rs sh s' (some s'.chunk) (finalSlice rs.length ib ie ops).1 (finalSlice rs.length ib ie ops).2 todo' := by
  intro ops
  induction ops with
  | nil => intro s ib ie todo h _; exact ⟨s, todo, rfl, h⟩
  | cons o os ih =>
    intro s ib ie todo h hok
    cases o with
    | pull p =>
      obtain ⟨r, s1, todo1, e1, e2, _⟩ := pull_spec h p hok.1
      obtain ⟨s', todo', f1, f2⟩ := ih e2 hok.2
      exact ⟨s', todo', by simp only [run, stepOp, e1]; exact f1, f2⟩
    | bf p =>
      obtain ⟨s1, e1, _, e3⟩ := bf_serves p h.core.toBase hok.1
      obtain ⟨s', todo', f1, f2⟩ := ih e3 hok.2
      exact ⟨s', todo', by simp only [run, stepOp, e1, Except.map]; exact f1, f2⟩
    | reset k n p =>
      obtain ⟨hn, hn32, hk, hp, hrest⟩ := hok
      obtain ⟨s1, e1, _, e3⟩ := reset_serves h.core.toOnFile ⟨hn, hn32, hk, hp⟩
      obtain ⟨s', todo', f1, f2⟩ := ih e3 hrest
      exact ⟨s', todo', by simp only [run, stepOp, e1, Except.map]; exact f1, f2⟩

theorem readAll_images (pre : List Bytes) (hs : Short pre) :
    (match RecordIO.readAll (writeAll pre) with
      | some rs => rs
      | none => []) = pre := by
  rw [RecordIO.readAll_writeAll pre hs]

theorem decode_blob (p : Pull) (pre : List Bytes) (x : Bytes) (hs : Short pre) (h : Blob p.isRec x pre) :
    decode (p, x) = pre := by
  cases p <;> simp only [Blob, Pull.isRec, if_true, Bool.false_eq_true, if_false] at h
  · rw [h.2]; rfl
  · rw [h.2]; exact readAll_images pre hs
  · rw [h.2]; exact readAll_images pre hs

/-- For any object whose pulls are `Pulled` (the bare class, the wrapper); `D` is its drain function, given by the two rules
that say how it goes on after a pull. -/
theorem drain_todo {σ π : Type} {pull : σ → π → Except Err (Option Bytes × σ)} {isRec : π → Bool}
    {dec : π × Bytes → List Bytes} {sched : Nat → π} {D : Nat → Nat → σ → Except Err (List (π × Bytes))}
    (hD₀ : ∀ fuel i s s', pull s (sched i) = .ok (none, s') → D (fuel + 1) i s = .ok [])
    (hD₁ : ∀ fuel i s x s' evs, pull s (sched i) = .ok (some x, s') → D fuel (i + 1) s' = .ok evs →
      D (fuel + 1) i s = .ok ((sched i, x) :: evs))
    {R : σ → List Bytes → Prop} (hshort : ∀ s todo, R s todo → Short todo)
    (hpull : ∀ i s todo, R s todo →
      ∃ r s' todo', pull s (sched i) = .ok (r, s') ∧ R s' todo' ∧ Pulled (isRec (sched i)) todo r todo')
    (hdec : ∀ p pre x, Short pre → Blob (isRec p) x pre → dec (p, x) = pre) :
    ∀ (fuel i : Nat) (s : σ) (todo : List Bytes), R s todo → todo.length < fuel →
      ∃ evs, D fuel i s = .ok evs ∧ evs.flatMap dec = todo := by
  intro fuel
  induction fuel with
  | zero => intro i s todo _ h; omega
  | succ fuel ih =>
    intro i s todo h hf
    obtain ⟨r, s1, todo1, e1, e2, e4⟩ := hpull i s todo h
    cases r with
    | none => exact ⟨[], hD₀ _ _ _ _ e1, e4.symm⟩
    | some x =>
      obtain ⟨pre, p1, rfl⟩ := e4
      have hpos := List.length_pos_iff.mpr p1.1
      obtain ⟨evs, f1, f2⟩ := ih (i + 1) s1 todo1 e2 (by rw [List.length_append] at hf; omega)
      exact ⟨_, hD₁ _ _ _ _ _ _ e1 f1,
        by rw [List.flatMap_cons, hdec _ pre x (Split.short_append.1 (hshort s _ h)).1 p1, f2]⟩

theorem drain_spec {rs : List Bytes} {sh : Bool} {sched : Nat → Pull}
    (hsched : ∀ i, PullOk (sched i)) {ib ie : Nat} {fuel : Nat} {s : St} {todo : List Bytes}
    (h : Serves rs sh s (some s.chunk) ib ie todo) (hf : todo.length < fuel) :
    ∃ evs, drain sched fuel 0 s = .ok evs ∧ evs.flatMap decode = todo :=
  drain_todo (R := fun s todo => Serves rs sh s (some s.chunk) ib ie todo)
    (fun _ _ _ _ e => by simp only [drain, e]) (fun _ _ _ _ _ _ e f => by simp only [drain, e, f])
    (fun _ _ h => h.short) (fun i _ _ h => pull_spec h _ (hsched i)) decode_blob fuel 0 s todo h hf

end DmlcModel.Indexed
