/-
What the C06 statements use beside the model: slice arithmetic, byte layout of an indexed RecordIO file, and, for the bare
class and for the object `InputSplit::Create` returns (the `W…` / `w…` twins), one call, one public operation, a history
with its contract, and consuming to the end.  Definitions only.
-/
import DmlcModel.Indexed.Model

namespace DmlcModel.Indexed
open DmlcModel.RecordIO (writeAll)

/-- `⌈N/n⌉` -/
def step (N n : Nat) : Nat := (N + n - 1) / n
def sliceBegin (N n k : Nat) : Nat := min (k * step N n) N
def sliceEnd (N n k : Nat) : Nat := min ((k + 1) * step N n) N

/-- offset at which record `i` starts (`= |file|` for `i ≥ N`) -/
def start (rs : List Bytes) (i : Nat) : Nat := (writeAll (rs.take i)).length

def seg (rs : List Bytes) (a b : Nat) : List Bytes := (rs.drop a).take (b - a)

def starts (rs : List Bytes) : List Nat := (List.range rs.length).map (start rs)

/-! ### the bare class -/

inductive Pull | record | batch (b : Nat) | chunk
  deriving Repr, DecidableEq

def Pull.isRec : Pull → Bool
  | .record => true
  | _ => false

def PullOk : Pull → Prop
  | .batch b => 1 ≤ b ∧ b < 2 ^ 32
  | _ => True

/-- one call of `NextRecord` / `NextBatch(b)` / `NextChunk` on the bare class -/
def pull (s : St) : Pull → Except Err (Option Bytes × St)
  | .record => nextRecord s
  | .batch b => nextBatch s b
  | .chunk => nextChunk s

inductive Op
  | pull (p : Pull)
  | bf (perm : List Nat)
  | reset (k n : Nat) (perm : List Nat)
  deriving Repr

/-- the permutation arguments are the results of `std::shuffle` -/
def stepOp (s : St) : Op → Except Err (Option Bytes × St)
  | .pull p => pull s p
  | .bf p => (beforeFirst s p).map fun s' => (none, s')
  | .reset k n p => (resetPartition s k n p).map fun s' => (none, s')

def run (s : St) : List Op → Except Err St
  | [] => .ok s
  | o :: os =>
    match stepOp s o with
    | .error e => .error e
    | .ok (_, s') => run s' os

/-- the documented contract (`k < n`, batch sizes ≥ 1, 32-bit parameters); every shuffle result is a permutation of the
slice it was applied to -/
def OpsOk (N : Nat) (shuffle : Bool) : Nat → Nat → List Op → Prop
  | _, _, [] => True
  | ib, ie, .pull p :: os => PullOk p ∧ OpsOk N shuffle ib ie os
  | ib, ie, .bf p :: os => (shuffle = true → p.Perm (List.range' ib (ie - ib))) ∧ OpsOk N shuffle ib ie os
  | _, _, .reset k n p :: os =>
    0 < n ∧ n < 2 ^ 32 ∧ k < n ∧
    (shuffle = true → p.Perm (List.range' (sliceBegin N n k) (sliceEnd N n k - sliceBegin N n k))) ∧
    OpsOk N shuffle (sliceBegin N n k) (sliceEnd N n k) os

def finalSlice (N : Nat) : Nat → Nat → List Op → Nat × Nat
  | ib, ie, [] => (ib, ie)
  | _, _, .reset k n _ :: os => finalSlice N (sliceBegin N n k) (sliceEnd N n k) os
  | ib, ie, _ :: os => finalSlice N ib ie os

/-- `sched i` chooses the style of the i-th call -/
def drain (sched : Nat → Pull) : Nat → Nat → St → Except Err (List (Pull × Bytes))
  | 0, _, _ => .error .fuel
  | fuel + 1, i, s =>
    match pull s (sched i) with
    | .error e => .error e
    | .ok (none, _) => .ok []
    | .ok (some x, s') =>
      match drain sched fuel (i + 1) s' with
      | .error e => .error e
      | .ok evs => .ok ((sched i, x) :: evs)

/-- the records in a delivered blob: the blob itself for `NextRecord`, the `RecordIOReader` view of a chunk / batch -/
def decode : Pull × Bytes → List Bytes
  | (.record, r) => [r]
  | (_, b) => match RecordIO.readAll b with
    | some rs => rs
    | none => []

/-! ### the object `InputSplit::Create` returns -/

inductive WPull | record | chunk
  deriving Repr, DecidableEq

def WPull.isRec : WPull → Bool
  | .record => true
  | .chunk => false

/-- `dw` is `kBufferSize` -/
def wpull (dw : Nat) (w : W) : WPull → Except Err (Option Bytes × W)
  | .record => w.nextRecord dw
  | .chunk => w.nextChunk dw

inductive WOp
  | pull (p : WPull)
  | bf (perm : List Nat)
  | reset (k n : Nat) (perm₁ perm₂ : List Nat)  -- shuffles of `base_->ResetPartition` and of the `BeforeFirst` after it
  deriving Repr

def wstep (dw : Nat) (w : W) : WOp → Except Err (Option Bytes × W)
  | .pull p => wpull dw w p
  | .bf p => (w.beforeFirst p).map fun w' => (none, w')
  | .reset k n p₁ p₂ => (w.resetPartition k n p₁ p₂).map fun w' => (none, w')

def wrun (dw : Nat) (w : W) : List WOp → Except Err W
  | [] => .ok w
  | o :: os =>
    match wstep dw w o with
    | .error e => .error e
    | .ok (_, w') => wrun dw w' os

def WOpsOk (N : Nat) (shuffle : Bool) : Nat → Nat → List WOp → Prop
  | _, _, [] => True
  | ib, ie, .pull _ :: os => WOpsOk N shuffle ib ie os
  | ib, ie, .bf p :: os => (shuffle = true → p.Perm (List.range' ib (ie - ib))) ∧ WOpsOk N shuffle ib ie os
  | _, _, .reset k n p₁ p₂ :: os =>
    0 < n ∧ n < 2 ^ 32 ∧ k < n ∧
    (shuffle = true → p₁.Perm (List.range' (sliceBegin N n k) (sliceEnd N n k - sliceBegin N n k)) ∧
                      p₂.Perm (List.range' (sliceBegin N n k) (sliceEnd N n k - sliceBegin N n k))) ∧
    WOpsOk N shuffle (sliceBegin N n k) (sliceEnd N n k) os

def wfinalSlice (N : Nat) : Nat → Nat → List WOp → Nat × Nat
  | ib, ie, [] => (ib, ie)
  | _, _, .reset k n _ _ :: os => wfinalSlice N (sliceBegin N n k) (sliceEnd N n k) os
  | ib, ie, _ :: os => wfinalSlice N ib ie os

def wdrain (dw : Nat) (sched : Nat → WPull) : Nat → Nat → W → Except Err (List (WPull × Bytes))
  | 0, _, _ => .error .fuel
  | fuel + 1, i, w =>
    match wpull dw w (sched i) with
    | .error e => .error e
    | .ok (none, _) => .ok []
    | .ok (some x, w') =>
      match wdrain dw sched fuel (i + 1) w' with
      | .error e => .error e
      | .ok evs => .ok ((sched i, x) :: evs)

def wdecode : WPull × Bytes → List Bytes
  | (.record, r) => [r]
  | (.chunk, b) => match RecordIO.readAll b with
    | some rs => rs
    | none => []

end DmlcModel.Indexed
