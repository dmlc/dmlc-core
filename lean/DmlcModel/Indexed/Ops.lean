/-
Invariant of the repaired `IndexedRecordIOSplitter` model and the effect of its building blocks
(`Read`, `Chunk::Load`, `Chunk::Append`, `BeforeFirst`, `ResetPartition`) on states that satisfy it.
-/
import DmlcModel.Indexed.Lemmas

namespace DmlcModel.Indexed
open DmlcModel.Gen.Indexed
open DmlcModel.RecordIO (writeAll)
open DmlcModel.Split (Short)

theorem filePtrOf_lt (total x : Nat) (h : x < total) : filePtrOf total x = 0 := by
  simp [filePtrOf, upperBound, h]

/-- the stream stands at the start of record `a`, inside a non-empty part that ends at byte `oe` -/
structure AtRec (rs : List Bytes) (s : St) (a oe : Nat) : Prop where
  file : s.file = writeAll rs
  fpos : s.fpos = some (start rs a)
  offCurr : s.offCurr = some (start rs a)
  filePtr : s.filePtr = some 0
  offEnd : s.offEnd = some oe
  offBegin : ∃ ob, s.offBegin = some ob ∧ ob < oe

section window
variable (rs : List Bytes) (hs : Short rs) (hb : Bnd rs) (s : St) (a b oe : Nat) (hw : AtRec rs s a oe)
  (hab : a < b) (hbN : b ≤ rs.length) (hbe : start rs b ≤ oe)
include hs hb hw hab hbN hbe

theorem read_window : read s (start rs b - start rs a) =
    .ok (writeAll (seg rs a b), { s with fpos := some (start rs b), offCurr := some (start rs b) }) := by
  have hlt := start_strict rs hs a b hab hbN
  have htot := start_le_total rs b
  have hseg := file_seg rs a b (Nat.le_of_lt hab)
  have hlen := start_add_seg rs a b (Nat.le_of_lt hab)
  obtain ⟨ob, hob, hne⟩ := hw.offBegin
  unfold Bnd at hb
  unfold read
  simp only [hw.fpos, hob, hw.offEnd, hw.offCurr, hw.filePtr, hw.file]
  have h1 : rdEmpty ob oe = false := by simp [rdEmpty]; omega
  have h2 : rdClip (start rs a) (start rs b - start rs a) oe = false := by
    simp only [rdClip, decide_eq_false_iff_not]
    rw [u64_of_lt (by omega)]; omega
  simp only [h1, h2, Bool.false_eq_true, if_false]
  rw [if_neg (by omega), hseg, if_pos (by omega)]
  congr 4 <;> omega

theorem readChunk_window : readChunk s (start rs b - start rs a) =
    .ok (some (writeAll (seg rs a b)), { s with fpos := some (start rs b), offCurr := some (start rs b) }) := by
  have hlt := start_strict rs hs a b hab hbN
  have hlen := start_add_seg rs a b (Nat.le_of_lt hab)
  have hl : (writeAll (seg rs a b)).length = start rs b - start rs a := by omega
  unfold readChunk
  rw [read_window rs hs hb s a b oe hw hab hbN hbe]
  have h1 : rcNone (writeAll (seg rs a b)).length = false := by rw [hl]; simp [rcNone]; omega
  simp [h1, ← hl]

theorem load_window (c : Chunk) (bw : Nat) (hbw : bw * 4 = start rs b - start rs a) :
    load s c bw = .ok (true, { s with fpos := some (start rs b), offCurr := some (start rs b) },
      { dataWords := loadResize bw, begin := 0, rest := writeAll (seg rs a b) }) := by
  have htot := start_le_total rs b
  have hsz : loadSize (loadResize bw) = bw * 4 := by
    unfold Bnd at hb
    unfold loadSize loadResize
    rw [u64_of_lt (n := bw + 1) (by omega), sub64_of_le (by omega) (by omega), u64_of_lt (by omega)]
    omega
  unfold load
  simp only
  rw [hsz, hbw, readChunk_window rs hs hb s a b oe hw hab hbN hbe]
  simp [seg_bytes_ne rs hs a b hab hbN]

theorem append_window (c : Chunk) (bw : Nat) (hbw : bw * 4 = start rs b - start rs a) (hc0 : c.begin = 0) :
    append s c bw = .ok (true, { s with fpos := some (start rs b), offCurr := some (start rs b) },
      { dataWords := appendResize c.dataWords bw, begin := 0, rest := c.rest ++ writeAll (seg rs a b) }) := by
  have htot := start_le_total rs b
  have hsz : appendSize bw = bw * 4 := by
    unfold Bnd at hb
    unfold appendSize; rw [u64_of_lt (by omega)]
  unfold append
  rw [if_neg (by simp [hc0])]
  simp only
  rw [hsz, hbw, readChunk_window rs hs hb s a b oe hw hab hbN hbe]
  simp [seg_bytes_ne rs hs a b hab hbN]

theorem fill_window (c : Chunk) (bw nRead : Nat) (hbw : bw * 4 = start rs b - start rs a)
    (hc0 : 0 < nRead → c.begin = 0) :
    (if nbFirst nRead = true then load s c bw else append s c bw) =
      .ok (true, { s with fpos := some (start rs b), offCurr := some (start rs b) },
        { dataWords := if nRead = 0 then loadResize bw else appendResize c.dataWords bw, begin := 0,
          rest := (if nRead = 0 then [] else c.rest) ++ writeAll (seg rs a b) }) := by
  by_cases h0 : nRead = 0
  · simp [h0, nbFirst, load_window rs hs hb s a b oe hw hab hbN hbe c bw hbw]
  · simp [h0, nbFirst, append_window rs hs hb s a b oe hw hab hbN hbe c bw hbw (hc0 (by omega))]

end window

theorem load_zero (s : St) (c : Chunk) (ob oe : Nat) (hob : s.offBegin = some ob) (hoe : s.offEnd = some oe)
    (h : ob < oe → ∃ oc fp, s.offCurr = some oc ∧ s.filePtr = some fp ∧ oc ≤ oe ∧ oc < 2 ^ 63) :
    load s c 0 = .ok (false, s, { c with dataWords := loadResize 0 }) := by
  have hr : read s 0 = .ok ([], s) := by
    unfold read
    cases hf : s.fpos with
    | none => rfl
    | some pos =>
      simp only [hob, hoe]
      by_cases he : ob < oe
      · obtain ⟨oc, fp, h4, h5, h6, h7⟩ := h he
        have h1 : rdEmpty ob oe = false := by simp [rdEmpty]; omega
        have h2 : rdClip oc 0 oe = false := by
          simp only [rdClip, decide_eq_false_iff_not]
          rw [u64_of_lt (by omega)]; omega
        simp [h1, h4, h5, h2]
      · have : rdEmpty ob oe = true := by simp [rdEmpty]; omega
        simp [this]
  have hsz : loadSize (loadResize 0) = 0 := by decide
  unfold load readChunk
  simp only
  rw [hsz, hr]
  simp [rcNone]

/-- what `ResetPartition` needs of a state; `sh` and the batch size are the constructor arguments, which no operation changes -/
structure OnFile (rs : List Bytes) (sh : Bool) (s : St) : Prop where
  short : Short rs
  bnd : Bnd rs
  file : s.file = writeAll rs
  index : s.index = goodIndex rs
  shuffle : s.shuffle = sh
  batch : 1 ≤ s.batch ∧ s.batch < 2 ^ 32

/-- the documented contract of `ResetPartition(k, n)` / the constructor; `p` is what `std::shuffle` made of the positions
of the part -/
structure PartOk (N : Nat) (sh : Bool) (k n : Nat) (p : List Nat) : Prop where
  pos : 0 < n
  lt32 : n < 2 ^ 32
  lt : k < n
  perm : sh = true → p.Perm (List.range' (sliceBegin N n k) (sliceEnd N n k - sliceBegin N n k))

/-- what `BeforeFirst` needs of a state -/
structure Base (rs : List Bytes) (sh : Bool) (s : St) (ib ie : Nat) : Prop extends OnFile rs sh s where
  hib : s.idxBegin = some ib
  hie : s.idxEnd = some ie
  hob : s.offBegin = some (start rs ib)
  hoe : s.offEnd = some (start rs ie)
  le : ib ≤ ie
  leN : ie ≤ rs.length
  no : ∃ no, s.nOverflow = some no ∧ no < 2 ^ 32
  fp : ib < ie → s.filePtr = some 0 ∧ ∃ pos, s.fpos = some pos

/-- everything about a state except `tmp_chunk_` -/
structure Core (rs : List Bytes) (sh : Bool) (s : St) (ib ie : Nat) : Prop extends Base rs sh s ib ie where
  cur : ∃ cur, s.curIdx = some cur ∧ cur < 2 ^ 60 ∧ (sh = false → ib ≤ cur ∧ cur ≤ ie)
  seq : ∀ cur, s.curIdx = some cur → sh = false → ib < ie →
    s.fpos = some (start rs cur) ∧ s.offCurr = some (start rs cur)
  shuf : sh = true → s.perm.Perm (List.range' ib (ie - ib))

/-- the records not yet loaded into a chunk, in delivery order -/
def unread (rs : List Bytes) (s : St) : List Bytes :=
  match s.curIdx, s.idxEnd with
  | some cur, some ie =>
    if s.shuffle then (s.perm.drop cur).filterMap (fun i => rs[i]?) else seg rs cur ie
  | _, _ => []

theorem unread_seq {rs : List Bytes} {s : St} {ib ie cur : Nat} (hc : Base rs false s ib ie)
    (hcur : s.curIdx = some cur) : unread rs s = seg rs cur ie := by
  simp [unread, hcur, hc.hie, hc.shuffle]

theorem unread_shuf {rs : List Bytes} {s : St} {ib ie cur : Nat} (hc : Base rs true s ib ie)
    (hcur : s.curIdx = some cur) : unread rs s = (s.perm.drop cur).filterMap (fun i => rs[i]?) := by
  simp [unread, hcur, hc.hie, hc.shuffle]

def passOrder (rs : List Bytes) (shuffle : Bool) (p : List Nat) (ib ie : Nat) : List Bytes :=
  if shuffle then p.filterMap (fun i => rs[i]?) else seg rs ib ie

theorem perm_nil_of_range (p : List Nat) (ib : Nat) (h : p.Perm (List.range' ib (ib - ib))) : p = [] := by
  simpa using h

theorem baseBF_spec {rs : List Bytes} {sh : Bool} {t : St} {ib ie cur : Nat}
    (hc : Base rs sh t ib ie) (hcur : t.curIdx = some cur) (hc60 : cur < 2 ^ 60) (hcs : sh = false → cur = ib)
    (hperm : sh = true → t.perm.Perm (List.range' ib (ie - ib))) :
    ∃ s', baseBeforeFirst t = .ok s' ∧ Core rs sh s' ib ie ∧ s'.chunk.rest = [] ∧ s'.chunk.begin = 0 ∧
      s'.curIdx = some cur ∧ s'.perm = t.perm := by
  have hcr : sh = false → ib ≤ cur ∧ cur ≤ ie := fun h => by have := hc.le; rw [hcs h]; omega
  unfold baseBeforeFirst
  simp only [hc.hob, hc.hoe]
  by_cases hlt : ib < ie
  · have hst := start_strict rs hc.short ib ie hlt hc.leN
    have htot := start_le_total rs ie
    obtain ⟨hptr, pos, hpos⟩ := hc.fp hlt
    have hb := hc.bnd
    unfold Bnd at hb
    have h1 : bfEmpty (start rs ib) (start rs ie) = false := by simp [bfEmpty]; omega
    have h2 : filePtrOf t.file.length (start rs ib) = 0 := by rw [hc.file]; exact filePtrOf_lt _ _ (by omega)
    have h3 : bfReopen 0 0 = false := rfl
    have h4 : bfSeek (start rs ib) (foAt t.file.length 0) = start rs ib := by
      simp only [bfSeek, foAt]; rw [sub64_of_le (by omega) (by omega)]; omega
    simp only [h1, Bool.false_eq_true, if_false, h2, hptr, h3, hpos, h4]
    refine ⟨_, rfl, { hc with hob := rfl, hoe := rfl, fp := fun _ => ⟨rfl, _, rfl⟩, cur := ⟨cur, hcur, hc60, hcr⟩, seq := ?_, shuf := hperm },
      rfl, rfl, hcur, rfl⟩
    intro c hc' h _
    cases hcur.symm.trans hc'
    rw [hcs h]
    exact ⟨rfl, rfl⟩
  · have hemp : ib = ie := by have := hc.le; omega
    have h1 : bfEmpty (start rs ib) (start rs ie) = true := by simp [bfEmpty, hemp]
    simp only [h1, if_true, fix_bfEmptyClears]
    exact ⟨_, rfl, { hc with hob := rfl, hoe := rfl, cur := ⟨cur, hcur, hc60, hcr⟩, seq := fun _ _ _ h => absurd h hlt, shuf := hperm },
      rfl, rfl, hcur, rfl⟩

theorem bf_spec {rs : List Bytes} {sh : Bool} {s : St} {ib ie : Nat} (p : List Nat)
    (hc : Base rs sh s ib ie) (hp : sh = true → p.Perm (List.range' ib (ie - ib))) :
    ∃ s', beforeFirst s p = .ok s' ∧ Core rs sh s' ib ie ∧ s'.chunk.rest = [] ∧ s'.chunk.begin = 0 ∧
      unread rs s' = passOrder rs sh p ib ie := by
  have hbf : beforeFirst s p =
      baseBeforeFirst { s with perm := if sh then p else s.perm, curIdx := some (if sh then 0 else ib) } := by
    unfold beforeFirst
    cases sh with
    | false => simp [hc.shuffle, hc.hib]
    | true => simp [hc.shuffle, hc.hib, hc.hie, List.isPerm_iff.mpr (hp rfl)]
  -- `{ hc with }`: `Base` says nothing of the members the update sets, so each field of `hc` is a proof of the same
  -- field for the updated state by `rfl`, while `hc` as a whole is a proof about another state
  obtain ⟨s', h1, h2, h5, h6, h7, h8⟩ := baseBF_spec
    (t := { s with perm := if sh then p else s.perm, curIdx := some (if sh then 0 else ib) }) { hc with } rfl
    (by have := hc.le; have := hc.leN; have := Split.writeAll_length_ge rs hc.short; have := hc.bnd; unfold Bnd at this
        split <;> omega)
    (by rintro rfl; rfl) (by rintro rfl; exact hp rfl)
  refine ⟨s', hbf ▸ h1, h2, h5, h6, ?_⟩
  cases sh with
  | false => rw [unread_seq h2.toBase h7]; rfl
  | true => rw [unread_shuf h2.toBase h7, h8]; rfl

theorem reset_spec {rs : List Bytes} {sh : Bool} {s : St} (hf : OnFile rs sh s) {k n : Nat} {p : List Nat}
    (hq : PartOk rs.length sh k n p) :
    ∃ s', resetPartition s k n p = .ok s' ∧
      Core rs sh s' (sliceBegin rs.length n k) (sliceEnd rs.length n k) ∧
      s'.chunk.rest = [] ∧ s'.chunk.begin = 0 ∧
      unread rs s' = passOrder rs sh p (sliceBegin rs.length n k) (sliceEnd rs.length n k) := by
  obtain ⟨hn, hn32, hk, hp⟩ := hq
  have hs := hf.short
  have hfile := hf.file
  have hindex := hf.index
  have hN : rs.length < 2 ^ 60 := Nat.lt_trans (index_lt rs hs hf.bnd (Nat.le_refl _)) (by decide)
  obtain ⟨hb1, hb2, hk32⟩ := slice_bounds rs.length n k hN hn32 hk
  have hnt : rpNtotal s.index.length = rs.length := by
    rw [hindex, goodIndex_length]
    unfold rpNtotal
    rw [sub64_of_le (by omega) (by omega)]; omega
  have htot := start_total rs rs.length (Nat.le_refl _)
  unfold resetPartition
  rw [if_neg (Nat.ne_of_gt hn)]
  simp only [hnt, rpStep_spec rs.length n hN hn hn32]
  by_cases hemp : rs.length ≤ k * step rs.length n
  · -- the part receives no records
    have h1 : rpEmpty k (step rs.length n) rs.length = true := by
      simp only [rpEmpty, decide_eq_true_eq]; rw [u64_of_lt hb1]; exact hemp
    obtain ⟨hsb, hse⟩ := slice_of_empty hemp
    rw [hsb, hse] at hp ⊢
    simp only [h1, if_true, fix_emptyAssigns]
    refine ⟨_, rfl, ⟨⟨{ hf with }, rfl, rfl, by rw [hfile, htot], by rw [hfile, htot], Nat.le_refl _, Nat.le_refl _,
      ⟨0, rfl, Nat.two_pow_pos 32⟩, fun h => absurd h (Nat.lt_irrefl _)⟩,
      ⟨rs.length, rfl, hN, fun _ => ⟨Nat.le_refl _, Nat.le_refl _⟩⟩, fun _ _ _ h => absurd h (Nat.lt_irrefl _),
      fun _ => by simp⟩, rfl, rfl, ?_⟩
    unfold unread passOrder
    simp only [hf.shuffle]
    cases sh with
    | false => simp [seg_self]
    | true => simp [perm_nil_of_range p _ (hp rfl)]
  · have hlt := Nat.lt_of_not_le hemp
    have h1 : rpEmpty k (step rs.length n) rs.length = false := by
      simp only [rpEmpty, decide_eq_false_iff_not]; rw [u64_of_lt hb1]; exact hemp
    have h2 : rpBegin k (step rs.length n) = k * step rs.length n := u64_of_lt hb1
    have hidx1 := goodIndex_get rs (k * step rs.length n) (Nat.le_of_lt hlt)
    have hfp0 : filePtrOf s.file.length (start rs (k * step rs.length n)) = 0 := by
      rw [hfile]; exact filePtrOf_lt _ _ (start_lt_total rs hs hlt)
    have hnf : ¬ (nFiles ≤ 0) := by simp [nFiles]
    -- both ways of finding the end of the part lead to the same `BeforeFirst`
    have key : ∀ ie oe, k * step rs.length n < ie → ie ≤ rs.length → oe = start rs ie →
        (sh = true → p.Perm (List.range' (k * step rs.length n) (ie - k * step rs.length n))) →
        ∃ s', beforeFirst { s with index := s.index, idxBegin := some (k * step rs.length n), idxEnd := some ie,
                                   offBegin := some (start rs (k * step rs.length n)), offEnd := some oe,
                                   offCurr := some (start rs (k * step rs.length n)), filePtr := some 0,
                                   fpos := some 0, curIdx := some (k * step rs.length n), nOverflow := some 0 } p =
            .ok s' ∧
          Core rs sh s' (k * step rs.length n) ie ∧ s'.chunk.rest = [] ∧ s'.chunk.begin = 0 ∧
          unread rs s' = passOrder rs sh p (k * step rs.length n) ie := by
      rintro ie oe h3 h4 rfl h5
      exact bf_spec p ⟨{ hf with }, rfl, rfl, rfl, rfl, Nat.le_of_lt h3, h4, ⟨0, rfl, Nat.two_pow_pos 32⟩,
        fun _ => ⟨rfl, 0, rfl⟩⟩ h5
    simp only [h1, Bool.false_eq_true, if_false, h2, hindex, hidx1, fix_resetPushesSentinel]
    rw [← hindex]
    by_cases hnext : (k + 1) * step rs.length n < rs.length
    · have h3 : rpHasNext k (step rs.length n) rs.length = true := by
        simp only [rpHasNext, decide_eq_true_eq]; rw [u32_of_lt hk32, u64_of_lt hb2]; exact hnext
      have h4 : rpEnd k (step rs.length n) = (k + 1) * step rs.length n := by
        unfold rpEnd; rw [u32_of_lt hk32, u64_of_lt hb2]
      obtain ⟨hsb, hse, hlt2⟩ := slice_of_next hn hnext
      have hidx2 := goodIndex_get rs ((k + 1) * step rs.length n) (Nat.le_of_lt hnext)
      rw [hsb, hse] at hp ⊢
      simp only [h3, if_true, h4, hindex, hidx2, hfp0, hnf, if_false]
      rw [← hindex]
      exact key _ _ hlt2 (Nat.le_of_lt hnext) rfl hp
    · have h3 : rpHasNext k (step rs.length n) rs.length = false := by
        simp only [rpHasNext, decide_eq_false_iff_not]; rw [u32_of_lt hk32, u64_of_lt hb2]; exact hnext
      obtain ⟨hsb, hse⟩ := slice_of_last hlt hnext
      rw [hsb, hse] at hp ⊢
      simp only [h3, Bool.false_eq_true, if_false, rpLastEnd, hfp0, hnf]
      exact key _ _ hlt (Nat.le_refl _) (by rw [hfile, htot]) hp

end DmlcModel.Indexed
