/-
`NextBatchEx` on states that satisfy the invariant: it delivers the images of the next records of the pass (one byte range
without shuffling, record by record in permutation order with shuffling) and reports the end exactly when none is left.
-/
import DmlcModel.Indexed.Ops

namespace DmlcModel.Indexed
open DmlcModel.Gen.Indexed
open DmlcModel.RecordIO (writeAll writeRecord)
open DmlcModel.Split (Short)

def NbePost (rs : List Bytes) (sh : Bool) (s : St) (c : Chunk) (ib ie : Nat) (flag : Bool) (s' : St) (c' : Chunk) :
    Prop :=
  Core rs sh s' ib ie ∧
  if flag then ∃ pre, pre ≠ [] ∧ c'.begin = 0 ∧ c'.rest = writeAll pre ∧ unread rs s = pre ++ unread rs s'
  else unread rs s = [] ∧ c'.rest = c.rest ∧ c'.begin = c.begin

theorem seq_batch_arith {ib ie cur cnt last N : Nat} (hcl : ib ≤ cur) (hcu : cur ≤ ie) (hN : ie ≤ N)
    (h1 : 1 ≤ cnt ∧ cnt < 2 ^ 32) (hl : min (cur + cnt) ie = last) :
    cur ≤ last ∧ last ≤ ie ∧ last ≤ N ∧ ib ≤ last ∧ cur + cnt - last < 2 ^ 32 ∧ (last = cur → cur = ie) ∧
      (last ≠ cur → cur < last ∧ ib < ie) := by
  omega

theorem nbe_seq {rs : List Bytes} {s : St} (c : Chunk) {ib ie b : Nat}
    (hc : Core rs false s ib ie) (hb1 : 1 ≤ b) (hb32 : b < 2 ^ 32) :
    ∃ flag s' c', nextBatchEx s c b = .ok (flag, s', c') ∧ NbePost rs false s c ib ie flag s' c' := by
  have hs := hc.short
  have hb := hc.bnd
  obtain ⟨no, hno, hno32⟩ := hc.no
  obtain ⟨cur, hcur, hc60, hcr⟩ := hc.cur
  obtain ⟨hcl, hcu⟩ := hcr rfl
  obtain ⟨hlast, hcarry⟩ := seq_last_carry no b cur ie hno32 hb32 hc60
  have hcnt := nbCount_bounds no b hb1 hb32 hno32
  generalize nbCount no b = cnt at hlast hcarry hcnt
  generalize hl : min (cur + cnt) ie = last at hlast hcarry
  obtain ⟨hcurLast, hlastIe, hlastN, hibLast, hcarry32, hstop, hgo⟩ := seq_batch_arith hcl hcu hc.leN hcnt hl
  have h64 : ∀ i, start rs i < 2 ^ 64 := fun i => Nat.lt_trans (start_lt rs hb i) (by decide)
  have h60 : last < 2 ^ 60 := Nat.lt_trans (index_lt rs hs hb hlastN) (by decide)
  have hidxL := goodIndex_get rs last hlastN
  have hidxC := goodIndex_get rs cur (Nat.le_trans hcu hc.leN)
  have hbw := nbRangeWords_spec _ _ (start_mono rs cur last hcurLast) (h64 last) (start_mod4 rs hs cur)
    (start_mod4 rs hs last)
  have hu := unread_seq hc.toBase hcur
  rw [← hc.index] at hidxL hidxC
  unfold nextBatchEx
  simp only [hc.shuffle, Bool.false_eq_true, if_false, hno, hcur, hc.hie, hlast, hcarry, hidxL, hidxC]
  by_cases hend : last = cur
  · -- nothing left: the byte range is empty and `Load` fails
    have hcie := hstop hend
    subst hend
    rw [Nat.sub_self] at hbw
    rw [(Nat.mul_eq_zero.mp hbw).resolve_right (by decide)]
    refine ⟨false, _, _, load_zero _ c _ _ hc.hob hc.hoe ?stream, ?core, ?nothingLeft, rfl, rfl⟩
    case stream =>
      intro hne
      have hlt := lt_of_start_lt rs hne
      exact ⟨_, _, (hc.seq last hcur rfl hlt).2, (hc.fp hlt).1, hcie ▸ Nat.le_refl _,
        Nat.lt_trans (start_lt rs hb last) (by decide)⟩
    case core =>
      exact { hc with hie := rfl, shuffle := rfl, no := ⟨_, rfl, hcarry32⟩,
                      cur := ⟨last, rfl, h60, fun _ => ⟨hibLast, hlastIe⟩⟩,
                      seq := fun c' hc' => hc.seq c' (hcur.trans (Option.some.inj hc' ▸ rfl)) }
    case nothingLeft => rw [hu, hcie, seg_self]
  · -- the records `cur .. last-1` are loaded as one byte range
    obtain ⟨hlt, hne⟩ := hgo hend
    obtain ⟨hptr, _, _⟩ := hc.fp hne
    obtain ⟨hfpos, hoff⟩ := hc.seq cur hcur rfl hne
    refine ⟨true, _, _,
      load_window rs hs hb _ cur last (start rs ie) ?stream hlt hlastN (start_mono rs last ie hlastIe) c _ hbw, ?core,
      seg rs cur last, seg_ne_nil rs cur last hlt hlastN, rfl, rfl, ?split⟩
    case stream => exact ⟨hc.file, hfpos, hoff, hptr, hc.hoe, _, hc.hob, start_lt_start rs hs hne hc.leN⟩
    case core =>
      refine { hc with hie := rfl, shuffle := rfl, no := ⟨_, rfl, hcarry32⟩,
                       cur := ⟨last, rfl, h60, fun _ => ⟨hibLast, hlastIe⟩⟩, fp := fun _ => ⟨hptr, _, rfl⟩,
                       seq := ?_ }
      intro c' hc' _ _
      cases hc'
      exact ⟨rfl, rfl⟩
    case split =>
      rw [hu]
      simp only [unread, Bool.false_eq_true, if_false]
      exact seg_append rs cur last ie hcurLast hlastIe

theorem writeAll_single (r : Bytes) : writeAll [r] = (writeRecord r).1 := by simp [writeAll]

/-- when the `while (n_read < n)` loop of the shuffled branch stops, having started with `nRead` records read and chunk `c` -/
structure ShufPost (rs : List Bytes) (s : St) (c : Chunk) (ib ie n nRead : Nat) (s' : St) (c' : Chunk)
    (taken : List Bytes) : Prop where
  core : Core rs true s' ib ie
  split : unread rs s = taken ++ unread rs s'
  le : nRead ≤ n → nRead + taken.length ≤ n
  /-- it stops short of `n` only for want of records -/
  short : nRead + taken.length < n → unread rs s' = []
  /-- the chunk receives the images, after what it held unless this is the first record of the batch -/
  chunk : if taken = [] then c' = c
    else c'.begin = 0 ∧ c'.rest = (if nRead = 0 then [] else c.rest) ++ writeAll taken

theorem shufLoop_spec {rs : List Bytes} (hs : Short rs) (hb : Bnd rs) (ib ie n : Nat) :
    ∀ (fuel : Nat) (s : St) (c : Chunk) (nRead : Nat),
      Core rs true s ib ie → n - nRead < fuel → (0 < nRead → c.begin = 0) →
      ∃ s' c' taken, shufLoop fuel s c n nRead = .ok (s', c', nRead + taken.length) ∧
        ShufPost rs s c ib ie n nRead s' c' taken := by
  intro fuel
  induction fuel with
  | zero => intro s c nRead _ hf; omega
  | succ fuel ih =>
    intro s c nRead hc hf hc0
    obtain ⟨cur, hcur, hc60, _⟩ := hc.cur
    have hperm := hc.shuf rfl
    have hplen : s.perm.length = ie - ib := by rw [hperm.length_eq]; simp
    have hu := unread_shuf hc.toBase hcur
    have stop : (nRead < n → unread rs s = []) → ShufPost rs s c ib ie n nRead s c [] := fun h =>
      ⟨hc, rfl, fun h => h, fun h' => h (by simpa using h'), by simp⟩
    unfold shufLoop
    by_cases hmore : nRead < n
    · rw [if_pos (by simp [nbMore, hmore])]
      simp only [hcur]
      by_cases hhas : cur < s.perm.length
      · -- record `i = permutation_[current_index_]` is read after the chunk, then the loop goes on
        rw [if_pos (by simp [nbHasPerm, hhas])]
        have hmem := hperm.subset (List.getElem_mem hhas)
        rw [List.mem_range'_1] at hmem
        obtain ⟨i, hi⟩ : ∃ i, s.perm[cur] = i := ⟨_, rfl⟩
        have hget : s.perm[cur]? = some i := by rw [List.getElem?_eq_getElem hhas, hi]
        rw [hi] at hmem
        have hie : i + 1 ≤ ie := by omega
        have hne : ib < ie := by omega
        have hpi : i < rs.length := Nat.lt_of_lt_of_le hie hc.leN
        have hcur1 : cur + 1 ≤ rs.length := by have := hc.leN; omega
        clear hmem
        obtain ⟨hptr, pos, hpos⟩ := hc.fp hne
        have hidx : s.index[i]? = some (start rs i, start rs (i + 1) - start rs i) := by
          rw [hc.index]; exact goodIndex_get rs _ (Nat.le_of_lt hpi)
        have hfp0 : filePtrOf s.file.length (start rs i) = 0 := by
          rw [hc.file]; exact filePtrOf_lt _ _ (start_lt_total rs hs hpi)
        have hseek := nbSeek_zero (start rs i) s.file.length (Nat.lt_trans (start_lt rs hb i) (by decide))
        have hbw := nbRecWords_spec _ _ (start_mod4 rs hs i) (start_mod4 rs hs (i + 1))
        simp only [hget, hidx, hfp0, hptr]
        rw [if_neg (by simp [nbReopen]), if_neg (by simp [hpos]), hseek,
          fill_window rs hs hb _ i (i + 1) (start rs ie) ?stream (Nat.lt_succ_self i) hpi (start_mono rs _ _ hie) c _
            nRead hbw hc0]
        case stream => exact ⟨hc.file, rfl, rfl, rfl, hc.hoe, _, hc.hob, start_lt_start rs hs hne hc.leN⟩
        dsimp only
        -- the rest of the loop, from the state after this record and the chunk that now ends with its image
        obtain ⟨s', c', taken, hrun, post⟩ := ih
          { s with offCurr := some (start rs (i + 1)), bufWords := nbRecWords (start rs (i + 1) - start rs i),
                   filePtr := some 0, fpos := some (start rs (i + 1)), curIdx := some (cur + 1) }
          { dataWords := if nRead = 0 then loadResize (nbRecWords (start rs (i + 1) - start rs i))
                         else appendResize c.dataWords (nbRecWords (start rs (i + 1) - start rs i)),
            begin := 0, rest := (if nRead = 0 then [] else c.rest) ++ writeAll (seg rs i (i + 1)) }
          (nRead + 1)
          { hc with fp := fun _ => ⟨rfl, _, rfl⟩,
                    cur := ⟨cur + 1, rfl, Nat.lt_trans (index_lt rs hs hb hcur1) (by decide), nofun⟩, seq := nofun }
          (by omega) (fun _ => rfl)
        have hlen : nRead + (rs[i] :: taken).length = nRead + 1 + taken.length := by
          rw [List.length_cons]; omega
        refine ⟨s', c', rs[i] :: taken, hlen ▸ hrun, post.core, ?split, fun _ => hlen ▸ post.le (by omega),
          fun h => post.short (hlen ▸ h), ?chunk⟩
        case split =>
          rw [List.cons_append, ← post.split, hu, List.drop_eq_getElem_cons hhas, hi]
          simp only [List.filterMap_cons, List.getElem?_eq_getElem hpi, unread, hc.hie, hc.shuffle, if_true]
        case chunk =>
          rw [if_neg (by simp)]
          have hC : (if nRead = 0 then [] else c.rest) ++ writeAll (rs[i] :: taken) =
              ((if nRead = 0 then [] else c.rest) ++ writeAll (seg rs i (i + 1))) ++ writeAll taken := by
            rw [seg_one rs i hpi, List.append_assoc, ← Split.writeAll_append]; rfl
          have hchunk := post.chunk
          by_cases ht : taken = []
          · rw [if_pos ht] at hchunk
            rw [hchunk, hC, ht]
            exact ⟨rfl, (List.append_nil _).symm⟩
          · rw [if_neg ht, if_neg (Nat.succ_ne_zero nRead)] at hchunk
            exact ⟨hchunk.1, by rw [hchunk.2, hC]⟩
      · -- the permutation is used up
        rw [if_neg (by simp [nbHasPerm, hhas])]
        exact ⟨s, c, [], rfl, stop fun _ => by rw [hu, List.drop_eq_nil_of_le (by omega)]; rfl⟩
    · rw [if_neg (by simp [nbMore, hmore])]
      exact ⟨s, c, [], rfl, stop fun h => absurd h hmore⟩

theorem nbe_shuf {rs : List Bytes} {s : St} (c : Chunk) {ib ie b : Nat}
    (hc : Core rs true s ib ie) (hb1 : 1 ≤ b) (hb32 : b < 2 ^ 32) :
    ∃ flag s' c', nextBatchEx s c b = .ok (flag, s', c') ∧ NbePost rs true s c ib ie flag s' c' := by
  obtain ⟨no, hno, hno32⟩ := hc.no
  have hn := nbCount_bounds no b hb1 hb32 hno32
  obtain ⟨s1, c1, taken, hrun, post⟩ :=
    shufLoop_spec hc.short hc.bnd ib ie (nbCount no b) (nbCount no b + 1) s c 0 hc (by omega) (fun h => by omega)
  unfold nextBatchEx
  simp only [hc.shuffle, if_true, hno, hrun]
  have hle := post.le (Nat.zero_le _)
  have hchunk := post.chunk
  cases taken with
  | nil =>
    rw [if_neg (by simp [nbAny])]
    exact ⟨false, _, _, rfl, post.core, by rw [post.split, post.short (by simp; omega)]; rfl,
      by rw [hchunk]; exact ⟨rfl, rfl⟩⟩
  | cons r taken =>
    rw [if_pos (by simp [nbAny])]
    have hcarry : nbCarry (nbCount no b) (0 + (r :: taken).length) = nbCount no b - (r :: taken).length := by
      unfold nbCarry; rw [sub64_of_le (by omega) (by omega)]; omega
    rw [hcarry]
    exact ⟨true, _, _, rfl, { post.core with no := ⟨_, rfl, by omega⟩ }, r :: taken, by simp, hchunk.1,
      by simpa using hchunk.2, post.split⟩

theorem nbe_spec {rs : List Bytes} {sh : Bool} {s : St} (c : Chunk) {ib ie b : Nat}
    (hc : Core rs sh s ib ie) (hb1 : 1 ≤ b) (hb32 : b < 2 ^ 32) :
    ∃ flag s' c', nextBatchEx s c b = .ok (flag, s', c') ∧ NbePost rs sh s c ib ie flag s' c' := by
  cases sh with
  | true => exact nbe_shuf c hc hb1 hb32
  | false => exact nbe_seq c hc hb1 hb32

end DmlcModel.Indexed
