/-
The public path: the consumer side of `ThreadedInputSplit` around the repaired `IndexedRecordIOSplitter`
(what `InputSplit::Create(.., "indexed_recordio", ..)` returns).
-/
import DmlcModel.Indexed.Index

namespace DmlcModel.Indexed
open DmlcModel.RecordIO (writeAll)
open DmlcModel.Split (Short)

section loop
variable {rs : List Bytes} {ext : Chunk → Except Err (Option (Bytes × Chunk))}
  {isRec : Bool} (hext : ExtSpec ext isRec) (dw : Nat) {sh : Bool} {ib ie : Nat}
include hext

theorem W.fetch_spec (fuel : Nat) {s : St} (hc : Core rs sh s ib ie) :
    ∃ r w' todo', W.nextLoop ext dw (fuel + 2) { base := s, cur := none } = .ok (r, w') ∧
      Serves rs sh w'.base w'.cur ib ie todo' ∧ Pulled isRec (unread rs s) r todo' := by
  obtain ⟨flag, s1, c1, e1, e3⟩ := Serves.refill hext { dataWords := dw + 1 } hc hc.batch.1 hc.batch.2
  unfold W.nextLoop W.produce
  simp only [e1]
  cases flag with
  | false =>
    obtain ⟨hnone, hcore, _⟩ := e3
    exact ⟨none, _, _, rfl, .of_core hcore rfl, hnone⟩
  | true =>
    obtain ⟨x, c2, todo', g1, g2, g3⟩ := e3
    unfold W.nextLoop
    simp only [g1]
    exact ⟨some x, _, todo', rfl, g2, g3⟩

theorem W.nextLoop_spec {w : W} {todo : List Bytes} (h : Serves rs sh w.base w.cur ib ie todo) :
    ∃ r w' todo', W.nextLoop ext dw 4 w = .ok (r, w') ∧ Serves rs sh w'.base w'.cur ib ie todo' ∧
      Pulled isRec todo r todo' := by
  obtain ⟨s, cur⟩ := w
  obtain ⟨pend, hh, rfl⟩ := h.holds
  cases cur with
  | none => cases (show pend = [] from hh); exact W.fetch_spec hext dw 2 h.core
  | some c =>
    by_cases hp : pend = []
    · subst hp
      unfold W.nextLoop
      simp only [hext.nil c hh.1]
      exact W.fetch_spec hext dw 1 h.core
    · obtain ⟨x, c', todo', g1, g2, g3⟩ := Serves.take hext h.core h.short hh hp
      unfold W.nextLoop
      simp only [g1]
      exact ⟨some x, _, todo', rfl, g2, g3⟩

end loop

theorem wpull_spec {rs : List Bytes} (dw : Nat) {sh : Bool} {w : W} {ib ie : Nat}
    {todo : List Bytes} (h : Serves rs sh w.base w.cur ib ie todo) (p : WPull) :
    ∃ r w' todo', wpull dw w p = .ok (r, w') ∧ Serves rs sh w'.base w'.cur ib ie todo' ∧
      Pulled p.isRec todo r todo' := by
  cases p with
  | record => exact W.nextLoop_spec extSpec_record dw h
  | chunk => exact W.nextLoop_spec extSpec_chunk dw h

theorem wbf_serves {rs : List Bytes} {sh : Bool} (w : W) {ib ie : Nat} (p : List Nat)
    (hc : Base rs sh w.base ib ie) (hp : sh = true → p.Perm (List.range' ib (ie - ib))) :
    ∃ w', w.beforeFirst p = .ok w' ∧ Serves rs sh w'.base w'.cur ib ie (passOrder rs sh p ib ie) := by
  obtain ⟨s', e1, e2, e3⟩ := bf_serves p hc hp
  unfold W.beforeFirst
  rw [e1]
  exact ⟨_, rfl, e3.forget e2⟩

theorem wreset_serves {rs : List Bytes} {sh : Bool} {w : W} (hf : OnFile rs sh w.base) {k n : Nat} {p₁ p₂ : List Nat}
    (hq₁ : PartOk rs.length sh k n p₁) (hq₂ : PartOk rs.length sh k n p₂) :
    ∃ w', w.resetPartition k n p₁ p₂ = .ok w' ∧
      Serves rs sh w'.base w'.cur (sliceBegin rs.length n k) (sliceEnd rs.length n k)
        (passOrder rs sh p₂ (sliceBegin rs.length n k) (sliceEnd rs.length n k)) := by
  obtain ⟨s', e1, e2, e3⟩ := reset_serves hf hq₁
  unfold W.resetPartition
  rw [e1]
  exact wbf_serves { w with base := s' } p₂ e3.core.toBase hq₂.perm

/-- the induction of `run_spec` again: `Op` / `WOp`, `run` / `wrun` are separate definitions -/
theorem wrun_spec {rs : List Bytes} (dw : Nat) {sh : Bool} :
    ∀ (ops : List WOp) {w : W} {ib ie : Nat} {todo : List Bytes},
    Serves rs sh w.base w.cur ib ie todo → WOpsOk rs.length sh ib ie ops →
    ∃ w' todo', wrun dw w ops = .ok w' ∧
      Serves rs sh w'.base w'.cur (wfinalSlice rs.length ib ie ops).1 (wfinalSlice rs.length ib ie ops).2 todo' := by
  intro ops
  induction ops with
  | nil => intro w ib ie todo h _; exact ⟨w, todo, rfl, h⟩
  | cons o os ih =>
    intro w ib ie todo h hok
    cases o with
    | pull p =>
      obtain ⟨r, w1, todo1, e1, e2, _⟩ := wpull_spec dw h p
      obtain ⟨w', todo', f1, f2⟩ := ih e2 hok
      exact ⟨w', todo', by simp only [wrun, wstep, e1]; exact f1, f2⟩
    | bf p =>
      obtain ⟨w1, e1, e2⟩ := wbf_serves w p h.core.toBase hok.1
      obtain ⟨w', todo', f1, f2⟩ := ih e2 hok.2
      exact ⟨w', todo', by simp only [wrun, wstep, e1, Except.map]; exact f1, f2⟩
    | reset k n p₁ p₂ =>
      obtain ⟨hn, hn32, hk, hp, hrest⟩ := hok
      obtain ⟨w1, e1, e2⟩ := wreset_serves h.core.toOnFile ⟨hn, hn32, hk, fun h => (hp h).1⟩
        ⟨hn, hn32, hk, fun h => (hp h).2⟩
      obtain ⟨w', todo', f1, f2⟩ := ih e2 hrest
      exact ⟨w', todo', by simp only [wrun, wstep, e1, Except.map]; exact f1, f2⟩

theorem wdecode_blob (p : WPull) (pre : List Bytes) (x : Bytes) (hs : Short pre) (h : Blob p.isRec x pre) :
    wdecode (p, x) = pre := by
  cases p <;> simp only [Blob, WPull.isRec, if_true, Bool.false_eq_true, if_false] at h
  · rw [h.2]; rfl
  · rw [h.2]; exact readAll_images pre hs

theorem wdrain_spec {rs : List Bytes} (dw : Nat) {sh : Bool} (sched : Nat → WPull)
    {ib ie : Nat} {fuel : Nat} {w : W} {todo : List Bytes} (h : Serves rs sh w.base w.cur ib ie todo)
    (hf : todo.length < fuel) : ∃ evs, wdrain dw sched fuel 0 w = .ok evs ∧ evs.flatMap wdecode = todo :=
  drain_todo (sched := sched) (R := fun w todo => Serves rs sh w.base w.cur ib ie todo)
    (fun _ _ _ _ e => by simp only [wdrain, e]) (fun _ _ _ _ _ _ e f => by simp only [wdrain, e, f])
    (fun _ _ h => h.short) (fun i _ _ h => wpull_spec dw h _) wdecode_blob fuel 0 w todo h hf

/-- `InputSplit::Create(.., k, n, "indexed_recordio", shuffle, seed, batch)` on an indexed RecordIO file -/
theorem create_spec (rs : List Bytes) (hs : Short rs) (hb : Bnd rs) (hne : rs ≠ []) (idx : List Nat)
    (hidx : idx.Perm (starts rs)) (k n batch : Nat) (shuffle : Bool) (dw : Nat) (p : List Nat)
    (hq : PartOk rs.length shuffle k n p) (hbatch : 1 ≤ batch ∧ batch < 2 ^ 32) :
    ∃ w, W.create (writeAll rs) idx k n batch shuffle dw p = .ok w ∧
      Serves rs shuffle w.base w.cur (sliceBegin rs.length n k) (sliceEnd rs.length n k)
        (passOrder rs shuffle p (sliceBegin rs.length n k) (sliceEnd rs.length n k)) := by
  obtain ⟨s, e1, e0, e2⟩ := mk_spec rs hs hb hne idx hidx k n batch shuffle dw p hq hbatch
  obtain ⟨no, hno, _⟩ := e2.core.no
  obtain ⟨cur, hcur, _⟩ := e2.core.cur
  unfold W.create
  rw [if_neg (by simp [hq.lt]), e1]
  simp only [hno, hcur, e2.core.hie]
  exact ⟨_, rfl, e2.forget e0⟩

end DmlcModel.Indexed
