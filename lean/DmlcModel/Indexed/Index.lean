/-
`ReadIndexFile` on an index file whose lines list the record start offsets in any order, and the
constructor `mk`.
-/
import DmlcModel.Indexed.Run

namespace DmlcModel.Indexed
open DmlcModel.Gen.Indexed
open DmlcModel.RecordIO (writeAll)
open DmlcModel.Split (Short)

theorem starts_pairwise (rs : List Bytes) : (starts rs).Pairwise (fun a b => decide (a ≤ b) = true) := by
  unfold starts
  rw [List.pairwise_map]
  have := @List.pairwise_lt_range rs.length
  exact this.imp (fun {a b} h => by simpa using start_mono rs a b (Nat.le_of_lt h))

theorem sort_starts (rs : List Bytes) (idx : List Nat) (h : idx.Perm (starts rs)) :
    idx.mergeSort (fun a b => decide (a ≤ b)) = starts rs := by
  apply List.Perm.eq_of_pairwise (le := fun a b => decide (a ≤ b) = true)
  · intro a b _ _ h1 h2
    simp at h1 h2; omega
  · exact List.pairwise_mergeSort (fun a b c h1 h2 => by simp at h1 h2 ⊢; omega)
      (fun a b => by simp; omega) idx
  · exact starts_pairwise rs
  · exact (List.mergeSort_perm idx _).trans h

theorem diffs_range' (rs : List Bytes) (hb : Bnd rs) : ∀ (k a : Nat), a + (k + 1) = rs.length →
    diffs (writeAll rs).length ((List.range' a (k + 1)).map (start rs)) =
      (List.range' a (k + 1)).map (fun i => (start rs i, start rs (i + 1) - start rs i)) := by
  unfold Bnd at hb
  intro k
  induction k with
  | zero =>
    intro a ha
    have h1 := start_total rs (a + 1) (by omega)
    have h2 := start_le_total rs a
    show diffs (writeAll rs).length [start rs a] = [(start rs a, start rs (a + 1) - start rs a)]
    simp only [diffs, riLastLen]
    rw [sub64_of_le (by omega) h2, h1]
  | succ k ih =>
    intro a ha
    have h2 := start_le_total rs (a + 1)
    have h3 := start_mono rs a (a + 1) (by omega)
    rw [List.range'_succ, List.range'_succ]
    simp only [List.map_cons, diffs]
    have := ih (a + 1) (by omega)
    rw [List.range'_succ] at this
    simp only [List.map_cons] at this
    rw [this]
    simp only [riLen]
    rw [sub64_of_le (by omega) h3]

theorem readIndex_spec (rs : List Bytes) (hb : Bnd rs) (hne : rs ≠ []) (idx : List Nat) (h : idx.Perm (starts rs)) :
    readIndexFile (writeAll rs).length idx = .ok (goodIndex rs) := by
  have hlen : 0 < rs.length := List.length_pos_iff.mpr hne
  unfold readIndexFile
  simp only [sort_starts rs idx h]
  have hnotempty : (starts rs).isEmpty = false := by
    unfold starts
    cases hr : rs.length with
    | zero => omega
    | succ m => simp [List.range_succ]
  rw [hnotempty]
  simp only [Bool.false_eq_true, if_false, fix_readIndexSentinel, if_true]
  unfold starts goodIndex
  obtain ⟨k, hk⟩ : ∃ k, rs.length = k + 1 := ⟨rs.length - 1, by omega⟩
  rw [List.range_eq_range', hk, diffs_range' rs hb k 0 (by omega)]
  rw [← hk, start_total rs rs.length (Nat.le_refl _)]
  rfl

theorem mk_spec (rs : List Bytes) (hs : Short rs) (hb : Bnd rs) (hne : rs ≠ []) (idx : List Nat)
    (hidx : idx.Perm (starts rs)) (k n batch : Nat) (shuffle : Bool) (w : Nat) (p : List Nat)
    (hq : PartOk rs.length shuffle k n p) (hbatch : 1 ≤ batch ∧ batch < 2 ^ 32) :
    ∃ s, mk (writeAll rs) idx k n batch shuffle w p = .ok s ∧ s.chunk.rest = [] ∧
      Serves rs shuffle s (some s.chunk) (sliceBegin rs.length n k) (sliceEnd rs.length n k)
        (passOrder rs shuffle p (sliceBegin rs.length n k) (sliceEnd rs.length n k)) := by
  have hN := Split.writeAll_length_ge rs hs
  have hlen : 0 < rs.length := List.length_pos_iff.mpr hne
  have hm4 := Split.writeAll_length_mod4 rs hs
  unfold mk
  rw [if_neg (by rw [List.isEmpty_iff_length_eq_zero]; omega), if_neg (by simp [initAlign, ixAlign_eq]; omega),
    readIndex_spec rs hb hne idx hidx]
  exact reset_serves ⟨hs, hb, rfl, rfl, rfl, hbatch⟩ hq

end DmlcModel.Indexed
