/-
`IndexedRecordIOSplitter::ExtractNextRecord` is a textual copy of `RecordIOSplitter::ExtractNextRecord`, so `extractRecord` /
`extractMore` are `Split.recExtract` / `Split.recExtractMore` (C04) up to the renaming of the generated kernels and of the
outcome type; `Split.recExtract_spec` is transported along that.
-/
import DmlcModel.Indexed.Model
import DmlcModel.Split.RecLemmas

namespace DmlcModel.Indexed
open DmlcModel.Gen.Indexed
open DmlcModel.RecordIO (writeAll writeRecord)

def toS (c : Chunk) : Split.Chunk := { dataWords := c.dataWords, begin := c.begin, rest := c.rest }
def ofS (c : Split.Chunk) : Chunk := { dataWords := c.dataWords, begin := c.begin, rest := c.rest }

def errOfS : Split.Err → Err
  | .check => .check | .oob => .oob | .uninit => .uninit | .div => .div | .fuel => .fuel

def resOfS : Except Split.Err (Option (Bytes × Split.Chunk)) → Except Err (Option (Bytes × Chunk))
  | .error e => .error (errOfS e)
  | .ok none => .ok none
  | .ok (some (b, c)) => .ok (some (b, ofS c))

theorem exAdvance_eq : exAdvance = Gen.Split.rsExtAdvance := rfl
theorem exHeader_eq : exHeader = Gen.Split.rsExtHeader := rfl
theorem exSingle_eq : exSingle = Gen.Split.rsExtSingle := rfl
theorem exFirst_eq : exFirst = Gen.Split.rsExtFirst := rfl
theorem exMore_eq : exMore = Gen.Split.rsExtMore := rfl

theorem extractMore_eq (fuel : Nat) : ∀ (out : Bytes) (c : Chunk) (cflag : Nat),
    extractMore fuel out c cflag = resOfS (Split.recExtractMore fuel out (toS c) cflag) := by
  induction fuel with
  | zero => intro out c cflag; rfl
  | succ fuel ih =>
    intro out c cflag
    unfold extractMore Split.recExtractMore
    rw [exMore_eq]
    by_cases hm : Gen.Split.rsExtMore cflag = true
    · simp only [hm, if_true, toS]
      split
      · rename_i m0 m1 m2 m3 l0 l1 l2 l3 body heq
        simp only [heq]
        by_cases hk : word32 m0 m1 m2 m3 = Gen.RecordIO.kMagic
        · simp only [hk, if_true, exAdvance_eq]
          by_cases hb : body.length < Gen.RecordIO.decodeLength (word32 l0 l1 l2 l3) ∨
              (m0 :: m1 :: m2 :: m3 :: l0 :: l1 :: l2 :: l3 :: body).length <
                Gen.Split.rsExtAdvance (Gen.RecordIO.decodeLength (word32 l0 l1 l2 l3))
          · simp only [hb, ↓reduceIte]; rfl
          · simp only [hb, ↓reduceIte]; rw [ih]; rfl
        · simp only [hk, if_false]; rfl
      · rename_i hno
        split
        · rename_i m0 m1 m2 m3 l0 l1 l2 l3 body heq
          exact absurd heq (hno _ _ _ _ _ _ _ _ _)
        · rfl
    · simp only [hm]
      cases c; rfl

theorem extractRecord_eq (c : Chunk) : extractRecord c = resOfS (Split.recExtract (toS c)) := by
  rcases c with ⟨dw, bg, rest⟩
  unfold extractRecord Split.recExtract
  simp only [toS, exHeader_eq, exAdvance_eq, exSingle_eq, exFirst_eq]
  by_cases h1 : rest.isEmpty = true
  · simp only [h1, ↓reduceIte]; rfl
  · by_cases h2 : rest.length < Gen.Split.rsExtHeader
    · simp only [h1, h2, ↓reduceIte]; rfl
    · by_cases h3 : bg % 4 ≠ 0 ∨ (bg + rest.length) % 4 ≠ 0
      · simp only [h1, h2, h3, ↓reduceIte]; rfl
      · simp only [h1, h2, h3, ↓reduceIte]
        match rest with
        | m0 :: m1 :: m2 :: m3 :: l0 :: l1 :: l2 :: l3 :: body =>
          simp only
          by_cases h4 : (m0 :: m1 :: m2 :: m3 :: l0 :: l1 :: l2 :: l3 :: body : Bytes).length <
              Gen.Split.rsExtAdvance (Gen.RecordIO.decodeLength (word32 l0 l1 l2 l3))
          · simp only [h4, ↓reduceIte]; rfl
          · simp only [h4, ↓reduceIte]
            by_cases h5 : Gen.Split.rsExtSingle (Gen.RecordIO.decodeFlag (word32 l0 l1 l2 l3)) = true
            · simp only [h5, ↓reduceIte]; rfl
            · simp only [h5]
              by_cases h6 : Gen.Split.rsExtFirst (Gen.RecordIO.decodeFlag (word32 l0 l1 l2 l3)) = true
              · simp only [h6, ↓reduceIte]; rw [extractMore_eq]; rfl
              · simp only [h6]; rfl
        | [] => rfl
        | [_] => rfl
        | [_, _] => rfl
        | [_, _, _] => rfl
        | [_, _, _, _] => rfl
        | [_, _, _, _, _] => rfl
        | [_, _, _, _, _, _] => rfl
        | [_, _, _, _, _, _, _] => rfl

theorem extractRecord_spec (r : Bytes) (rs : List Bytes) (h : ∀ x ∈ r :: rs, x.length < 2 ^ 29) (c : Chunk)
    (hc : c.rest = writeAll (r :: rs)) (hb : c.begin % 4 = 0) :
    extractRecord c = .ok (some (r, { c with begin := c.begin + (writeRecord r).1.length, rest := writeAll rs })) := by
  rw [extractRecord_eq, Split.recExtract_spec r rs h (toS c) hc hb]
  rfl

theorem extractRecord_nil (c : Chunk) (hc : c.rest = []) : extractRecord c = .ok none := by
  unfold extractRecord; simp [hc]

end DmlcModel.Indexed
