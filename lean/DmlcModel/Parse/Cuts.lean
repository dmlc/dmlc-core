/-
Cutting a text at end-of-line bytes: the rows of the pieces concatenate to the rows of the whole
(for every `LineFormat`).  Thread slices cut *at* an end-of-line byte (it starts the right piece),
chunks and parts cut *after* one (it ends the left piece).  All by `LineFormat.cut` on the records.
-/
import DmlcModel.Parse.Concat

namespace DmlcModel.Parse
open DmlcModel

theorem eolSplitGo_append_eol (x y cur : Bytes) (e : UInt8) (he : isEolB e = true) :
    eolSplitGo (x ++ e :: y) cur = eolSplitGo x cur ++ eolSplitGo y [] := by
  induction x generalizing cur with
  | nil => simp [eolSplitGo, he]
  | cons b x ih => by_cases hb : isEolB b = true <;> simp [eolSplitGo, hb, ih]

theorem eolSplit_append_eol (x y : Bytes) (e : UInt8) (he : isEolB e = true) :
    eolSplit (x ++ e :: y) = eolSplit x ++ eolSplit y := eolSplitGo_append_eol x y [] e he

theorem eolSplit_eol_cons (y : Bytes) (e : UInt8) (he : isEolB e = true) : eolSplit (e :: y) = [] :: eolSplit y := by
  simp [eolSplit, eolSplitGo, he]

/-- `x₁ e₁ x₂ e₂ … z`: the pieces `xᵢ eᵢ` end with an end-of-line byte (chunks of an InputSplit, parts) -/
def joinAfter : List (Bytes × UInt8) → Bytes → Bytes
  | [], z => z
  | p :: ps, z => p.1 ++ p.2 :: joinAfter ps z

/-- `z (e₁ y₁) (e₂ y₂) …`: every piece but the first starts with an end-of-line byte (FillData's thread slices) -/
def joinAt (z : Bytes) (ps : List (UInt8 × Bytes)) : Bytes := z ++ ps.flatMap fun p => p.1 :: p.2

section
variable {good : UInt8 → Bool} {rows : Bytes → Res (List Row)} {recS : Bytes → Res (Option LineRec)}
  (F : LineFormat good rows recS)
include F

theorem LineFormat.cut_rows (x y : Bytes) (e : UInt8) (he : isEolB e = true)
    (hg : ∀ b ∈ x ++ e :: y, good b = true) (hb : (x ++ e :: y).length + 2 < 2 ^ 64) (rss : List (List Row))
    (hl : (eolSplit (x ++ e :: y)).mapM rows = .ok rss) (ha : AgreeRows rss.flatten) :
    ∃ rx ry, rows (x ++ e :: y) = .ok (rx ++ ry) ∧ rows x = .ok rx ∧ rows (e :: y) = .ok ry ∧
      rows (x ++ [e]) = .ok rx ∧ rows y = .ok ry :=
  let ⟨_, hp, _⟩ := F.parses_of_lines _ hg hb rss hl ha
  let ⟨rx, ry, e1, h1, h2, h3, h4⟩ := F.cut he hp
  ⟨rx.map toRow, ry.map toRow, by rw [F.rows_of_parses hp, e1, List.map_append], F.rows_of_parses h1,
    F.rows_of_parses h2, F.rows_of_parses h3, F.rows_of_parses h4⟩

theorem LineFormat.parses_after_eol (ps : List (Bytes × UInt8)) (z : Bytes) (he : ∀ p ∈ ps, isEolB p.2 = true)
    (recs : List LineRec) (h : Parses good recS (joinAfter ps z) recs) :
    ∃ rs rz, ps.mapM (fun p => rows (p.1 ++ [p.2])) = .ok rs ∧ rows z = .ok rz ∧ recs.map toRow = rs.flatten ++ rz := by
  induction ps generalizing recs with
  | nil => exact ⟨[], _, rfl, F.rows_of_parses h, rfl⟩
  | cons p ps ih =>
    obtain ⟨rx, ry, rfl, _, _, hx, hy⟩ := F.cut (he p (by simp)) h
    obtain ⟨rs, rz, h1, h2, h3⟩ := ih (fun q hq => he q (by simp [hq])) ry hy
    exact ⟨_, rz, mapM_cons_ok_iff.mpr ⟨_, rs, F.rows_of_parses hx, h1, rfl⟩, h2, by simp [h3]⟩

theorem LineFormat.pieces_after_eol (ps : List (Bytes × UInt8)) (z : Bytes) (he : ∀ p ∈ ps, isEolB p.2 = true)
    (hg : ∀ b ∈ joinAfter ps z, good b = true) (hb : (joinAfter ps z).length + 2 < 2 ^ 64) (rss : List (List Row))
    (hl : (eolSplit (joinAfter ps z)).mapM rows = .ok rss) (ha : AgreeRows rss.flatten) :
    ∃ rs rz, ps.mapM (fun p => rows (p.1 ++ [p.2])) = .ok rs ∧ rows z = .ok rz ∧
      rows (joinAfter ps z) = .ok (rs.flatten ++ rz) :=
  let ⟨recs, hp, _⟩ := F.parses_of_lines _ hg hb rss hl ha
  let ⟨rs, rz, h1, h2, h3⟩ := F.parses_after_eol ps z he recs hp
  ⟨rs, rz, h1, h2, h3 ▸ F.rows_of_parses hp⟩

theorem LineFormat.parses_at_eol (ps : List (UInt8 × Bytes)) (z : Bytes) (he : ∀ p ∈ ps, isEolB p.1 = true)
    (recs : List LineRec) (h : Parses good recS (joinAt z ps) recs) :
    ∃ rz rs, rows z = .ok rz ∧ ps.mapM (fun p => rows (p.1 :: p.2)) = .ok rs ∧ recs.map toRow = rz ++ rs.flatten := by
  induction ps generalizing z recs with
  | nil => exact ⟨_, [], F.rows_of_parses (by simpa [joinAt] using h), rfl, by simp⟩
  | cons p ps ih =>
    have hj : joinAt z (p :: ps) = z ++ joinAt (p.1 :: p.2) ps := by simp [joinAt]
    obtain ⟨rx, ry, rfl, hx, hy⟩ := F.split (Or.inr fun e he' => by cases he'; exact he p (by simp)) (hj ▸ h)
    obtain ⟨rz, rs, h1, h2, h3⟩ := ih (p.1 :: p.2) (fun q hq => he q (by simp [hq])) ry hy
    exact ⟨_, _, F.rows_of_parses hx, mapM_cons_ok_iff.mpr ⟨_, rs, h1, h2, rfl⟩, by simp [h3]⟩

theorem LineFormat.pieces_at_eol (ps : List (UInt8 × Bytes)) (z : Bytes) (he : ∀ p ∈ ps, isEolB p.1 = true)
    (hg : ∀ b ∈ joinAt z ps, good b = true) (hb : (joinAt z ps).length + 3 < 2 ^ 64) (rss : List (List Row))
    (hl : (eolSplit (joinAt z ps)).mapM rows = .ok rss) (ha : AgreeRows rss.flatten) :
    ∃ rz rs, rows z = .ok rz ∧ ps.mapM (fun p => rows (p.1 :: p.2)) = .ok rs ∧
      rows (joinAt z ps) = .ok (rz ++ rs.flatten) :=
  let ⟨recs, hp, _⟩ := F.parses_of_lines _ hg (by omega) rss hl ha
  let ⟨rz, rs, h1, h2, h3⟩ := F.parses_at_eol ps z he recs hp
  ⟨rz, rs, h1, h2, h3 ▸ F.rows_of_parses hp⟩

end

end DmlcModel.Parse
