/-
Rendered tokens read back: one number token (`lex_scan`), ParsePair on `lexeme[:lexeme]`, and an entry syntax with its tokenizer
as a parameter (`EntryFormat`), so that the feature loops of the libsvm and the libfm parser are one induction over the rendered
entries; a rendered libsvm line.
-/
import DmlcModel.Parse.Table

namespace DmlcModel.Parse
open DmlcModel

theorem Clean.append {a b : Bytes} (ha : Clean a) (hb : Clean b) : Clean (a ++ b) :=
  fun x hx => (List.mem_append.mp hx).elim (ha x) (hb x)
theorem Clean.cons {x : UInt8} {a : Bytes} (hx : nonStopB x = true) (ha : Clean a) : Clean (x :: a) :=
  Clean.append (a := [x]) (fun _ hy => List.mem_singleton.mp hy ▸ hx) ha
theorem Clean.nil : Clean [] := fun _ hx => nomatch hx
theorem Clean.right {a b : Bytes} (h : Clean (a ++ b)) : Clean b := fun x hx => h x (List.mem_append_right a hx)
theorem Clean.left {a b : Bytes} (h : Clean (a ++ b)) : Clean a := fun x hx => h x (List.mem_append_left b hx)
theorem Clean.tail {x : UInt8} {a : Bytes} (h : Clean (x :: a)) : Clean a := Clean.right (a := [x]) h
theorem Clean.takeWhile {s : Bytes} (h : Clean s) : s.takeWhile nonStopB = s := takeWhile_all _ _ h

theorem clean_noEol {s : Bytes} (h : Clean s) : ∀ b ∈ s, isEolB b = false :=
  fun b hb => nonStop_notEol b (h b hb)

theorem lexeme_clean {lex : Bytes} (h : IsLexeme lex) : Clean lex := fun b hb => digitChar_nonStop b (h.2 b hb)

theorem blanks_clean {s : Bytes} (h : blanksOnly s) : Clean s := fun b hb => blank_nonStop b (h b hb)

theorem blank_isDelim (b : UInt8) (h : isBlankB b = true) : isDelimB b = true := by
  have h1 : isDigitCharB b = false := by simpa [notDigitCharB, isDigitCharB] using blank_notDigit b h
  have h2 : ConvSimple.isNumCh b = false := by
    simp only [isBlankB, Gen.Parse.isblank, Bool.or_eq_true, beq_iff_eq] at h
    simp [ConvSimple.isNumCh, ConvSimple.isDigitB, ConvSimple.isAlphaB, Gen.Parse.isdigit, ← UInt8.toNat_inj]; omega
  simp [isDelimB, h1, h2]
theorem delim_notDigit (b : UInt8) (h : isDelimB b = true) : isDigitCharB b = false := by
  simp [isDelimB] at h; exact h.1
theorem notDigit_of_digit (b : UInt8) (h : isDigitCharB b = true) : notDigitCharB b = false := by
  simp only [notDigitCharB, isDigitCharB] at *; simp [h]
theorem digit_notBlank (b : UInt8) (h : isDigitCharB b = true) : isBlankB b = false := by
  simp [isBlankB, Gen.Parse.isblank, isDigitCharB, Gen.Parse.isdigitchars] at *; omega

theorem blanks_head_delim {s : Bytes} (h : blanksOnly s) : ∀ b, s.head? = some b → isDelimB b = true := by
  intro b hb
  cases s with
  | nil => simp at hb
  | cons x xs => simp at hb; subst hb; exact blank_isDelim _ (h _ (by simp))

/-- neither `:` nor the `q` of `qid:` -/
theorem digit_or_hash {b : UInt8} (h : isDigitCharB b = true ∨ b = 35) : b ≠ 58 ∧ b ≠ 113 := by
  rcases h with h | rfl
  · exact ⟨fun e => by subst e; exact absurd h (by decide), fun e => by subst e; exact absurd h (by decide)⟩
  · decide

def DigitLed (s : Bytes) : Prop := ∃ d r, s = d :: r ∧ isDigitCharB d = true

theorem DigitLed.append {s : Bytes} (h : DigitLed s) (t : Bytes) : DigitLed (s ++ t) := by
  obtain ⟨d, r, rfl, hd⟩ := h
  exact ⟨d, r ++ t, rfl, hd⟩

theorem DigitLed.dropBlank {s : Bytes} (h : DigitLed s) : s.dropWhile isBlankB = s := by
  obtain ⟨d, r, rfl, hd⟩ := h
  simp [List.dropWhile, digit_notBlank d hd]

theorem lex_head {lex : Bytes} (h : IsLexeme lex) : DigitLed lex := by
  cases lex with
  | nil => exact absurd rfl h.1
  | cons d r => exact ⟨d, r, rfl, h.2 d (by simp)⟩

def optVal (g : Bytes → Res Nat) : Option Bytes → Res (Option Nat)
  | some w => (g w).map some
  | none => pure none

theorem optVal_some {g : Bytes → Res Nat} {w : Bytes} {o : Option Nat} (h : optVal g (some w) = .ok o) :
    ∃ v, g w = .ok v ∧ o = some v := by
  obtain ⟨v, hg, rfl⟩ := map_ok_iff.mp h
  exact ⟨v, hg, rfl⟩

theorem optVal_isSome {g : Bytes → Res Nat} {w : Option Bytes} {o : Option Nat} (h : optVal g w = .ok o) :
    o.isSome = w.isSome := by
  cases w with
  | none => cases h; rfl
  | some w => obtain ⟨v, _, rfl⟩ := optVal_some h; rfl

/-- what may follow a token: no NUL or end-of-line byte in it, a delimiter first, no `:` behind its leading blanks -/
structure TokTail (t : Bytes) : Prop where
  clean : Clean t
  head : ∀ b, t.head? = some b → isDelimB b = true
  next : ∀ b, (t.dropWhile isBlankB).head? = some b → b ≠ 58

theorem colon_tail {t : Bytes} (hc : Clean t) :
    Clean (58 :: t) ∧ ∀ b, (58 :: t).head? = some b → isDelimB b = true :=
  ⟨Clean.cons (by decide) hc, fun b hb => by simp at hb; subst hb; decide⟩

/-- the three scans of ParsePair / ParseTriple over `lexeme tail`: nothing skipped in front, the conversion sees the
lexeme, the number characters end where the lexeme ends -/
theorem lex_scan {g : Bytes → Res Nat} (hg : Exact g) {lex tail : Bytes} {v : Nat} (hl : IsLexeme lex)
    (hc : Clean tail) (ht : ∀ b, tail.head? = some b → isDelimB b = true) (hv : g lex = .ok v) :
    ∃ d s, lex ++ tail = d :: s ∧ (d :: s).dropWhile notDigitCharB = d :: s ∧
      g ((d :: s).takeWhile nonStopB) = .ok v ∧ (d :: s).dropWhile isDigitCharB = tail := by
  obtain ⟨d, r, rfl, hd⟩ := lex_head hl
  refine ⟨d, r ++ tail, rfl, by simp [List.dropWhile, notDigit_of_digit d hd], ?_, ?_⟩
  · rw [← List.cons_append, ((lexeme_clean hl).append hc).takeWhile, hg.exact _ _ hl ht, hv]
  · exact dropWhile_append_all _ (d :: r) tail hl.2 (fun b hb => delim_notDigit b (ht b hb))

theorem colon_dropBlank (s : Bytes) : (58 :: s).dropWhile isBlankB = 58 :: s := by
  simp [List.dropWhile, isBlankB, Gen.Parse.isblank]

theorem dropWhile_blank_notDigit (s : Bytes) :
    (s.dropWhile isBlankB).dropWhile notDigitCharB = s.dropWhile notDigitCharB := by
  induction s with
  | nil => rfl
  | cons b s ih =>
    by_cases hb : isBlankB b = true
    · rw [List.dropWhile_cons_of_pos hb, ih, List.dropWhile_cons_of_pos (blank_notDigit b hb)]
    · rw [List.dropWhile_cons_of_neg hb]

theorem pairS_dropBlank (g1 g2 : Bytes → Res Nat) (s : Bytes) : pairS g1 g2 (s.dropWhile isBlankB) = pairS g1 g2 s := by
  unfold pairS; rw [dropWhile_blank_notDigit]

/-- with one lexeme the blanks behind it are consumed (the next byte is not ':'); with two the stop is exactly at `tail` -/
theorem pairS_render {g1 g2 : Bytes → Res Nat} (h1 : Exact g1) (h2 : Exact g2) {lex tail : Bytes} {val : Option Bytes}
    {v1 : Nat} {v2 : Option Nat} (hl : IsLexeme lex) (hv : ∀ v, val = some v → IsLexeme v) (ht : TokTail tail)
    (e1 : g1 lex = .ok v1) (e2 : optVal g2 val = .ok v2) :
    ∃ o, pairS g1 g2 (lex ++ (valPart val ++ tail)) = .ok o ∧ 1 ≤ o.r ∧ o.v1 = v1 ∧
      (if o.r == 2 then some o.v2 else none) = v2 ∧ o.rest <:+ tail ∧
      o.rest.dropWhile isBlankB = tail.dropWhile isBlankB := by
  cases val with
  | none =>
    cases e2
    obtain ⟨d, s, e, a1, a2, a3⟩ := lex_scan h1 hl ht.clean ht.head e1
    refine ⟨{ r := 1, rest := tail.dropWhile isBlankB, v1 := v1 }, ?_, Nat.le_refl 1, rfl, rfl,
      List.dropWhile_suffix _, dropWhile_idem _ _⟩
    rw [valPart, List.nil_append, e]; unfold pairS
    simp only [a1, a2, a3, bind, Except.bind]
    cases hd3 : tail.dropWhile isBlankB with
    | nil => rfl
    | cons b s4 => simp [ht.next b (by rw [hd3]; rfl)]
  | some w =>
    obtain ⟨x, hx, rfl⟩ := optVal_some e2
    obtain ⟨d2, s2, e, b1, b2, b3⟩ := lex_scan h2 (hv w rfl) ht.clean ht.head hx
    have T := colon_tail ((lexeme_clean (hv w rfl)).append ht.clean)
    obtain ⟨d1, s1, e', a1, a2, a3⟩ := lex_scan h1 hl T.1 T.2 e1
    refine ⟨{ r := 2, rest := tail, v1 := v1, v2 := x }, ?_, Nat.le_succ 1, rfl, rfl, List.suffix_refl _, rfl⟩
    rw [valPart, List.cons_append, e']; unfold pairS
    simp only [a1, a2, a3, bind, Except.bind, colon_dropBlank, e, b1, b2, b3]
    simp

/-- the end of a line: blanks, then nothing or a `#` comment -/
structure EndPart (fin : Bytes) : Prop where
  clean : Clean fin
  shape : ∃ tr c, fin = tr ++ c ∧ blanksOnly tr ∧ (c = [] ∨ ∃ c', c = 35 :: c')

theorem blanks_endPart {s : Bytes} (h : blanksOnly s) : EndPart s :=
  ⟨blanks_clean h, s, [], (List.append_nil s).symm, h, Or.inl rfl⟩

theorem EndPart.dropBlank_eq {fin : Bytes} (h : EndPart fin) :
    fin.dropWhile isBlankB = [] ∨ ∃ c', fin.dropWhile isBlankB = 35 :: c' := by
  obtain ⟨tr, c, rfl, htr, hc⟩ := h.shape
  rcases hc with rfl | ⟨c', rfl⟩
  · exact Or.inl (by rw [List.append_nil]; exact dropWhile_all isBlankB tr htr)
  · exact Or.inr ⟨c', dropWhile_append_all _ tr _ htr (by intro x hx; simp at hx; subst hx; decide)⟩

theorem EndPart.head_delim {fin : Bytes} (h : EndPart fin) : ∀ b, fin.head? = some b → isDelimB b = true := by
  obtain ⟨tr, c, rfl, htr, hc⟩ := h.shape
  cases tr with
  | nil =>
    rcases hc with rfl | ⟨c', rfl⟩
    · intro b hb; simp at hb
    · intro b hb; simp at hb; subst hb; decide
  | cons t tr => exact fun b hb => blanks_head_delim htr b (by simpa using hb)

theorem icbS_digitLed {X : Bytes} (hX : DigitLed X) : icbS X = X := by
  obtain ⟨d, r, rfl, hd⟩ := hX
  have hnc : isCommentB d = false := by
    simp [isCommentB, Gen.Parse.icbIsComment, Gen.Parse.commentSymbol, isDigitCharB, Gen.Parse.isdigitchars] at hd ⊢
    omega
  have hst : Gen.Parse.icbStops d.toNat = true := by
    have := digit_notBlank d hd
    simp [Gen.Parse.icbStops]; exact this
  simp [icbS, hnc, hst]

theorem EndPart.icbS_nil {fin : Bytes} (h : EndPart fin) : icbS fin = [] := by
  rw [← icbS_dropBlank]
  rcases h.dropBlank_eq with e | ⟨c', e⟩ <;> rw [e] <;> rfl

/-! ## an entry syntax with its tokenizer -/

def ents (eb : Entry → Bytes) : List (Bytes × Entry) → Bytes → Bytes
  | [], fin => fin
  | se :: rest, fin => se.1 ++ (eb se.2 ++ ents eb rest fin)

theorem ents_clean (eb : Entry → Bytes) (ses : List (Bytes × Entry)) (fin : Bytes) (hfin : Clean fin)
    (hs : ∀ se ∈ ses, blanksOnly se.1 ∧ Clean (eb se.2)) : Clean (ents eb ses fin) := by
  induction ses with
  | nil => exact hfin
  | cons se rest ih =>
    exact (blanks_clean (hs se (by simp)).1).append ((hs se (by simp)).2.append (ih (fun x hx => hs x (by simp [hx]))))

/-- how one entry is written (`bytes`), what it means (`exp`), and the feature loop that reads entries back
(`loop` = `svmFeatsS` / `fmFeatsS`) with its tokenizer (`tok` = `ParsePair` behind `IgnoreCommentAndBlank` /
`ParseTriple`): a token with `noF` of its count is no feature, any other one is the feature `feat`.  `End` says which
line ends the tokenizer passes over. -/
structure EntryFormat (α : Type) where
  bytes : Entry → Bytes
  Wf : Entry → Prop
  exp : Entry → Res α
  End : Bytes → Prop
  loop : Nat → Bytes → List α → Res (List α)
  tok : Bytes → Res PairS
  noF : Nat → Bool
  feat : PairS → α
  loop_nil : ∀ fuel acc, loop (fuel + 1) [] acc = .ok acc.reverse
  loop_cons : ∀ fuel s acc, s ≠ [] → loop (fuel + 1) s acc = (tok s).bind fun o =>
    if noF o.r then loop fuel o.rest acc else loop fuel o.rest (feat o :: acc)
  skip : ∀ s, tok (s.dropWhile isBlankB) = tok s
  lead : ∀ e, Wf e → Clean (bytes e) ∧ DigitLed (bytes e)
  entry : ∀ e tail x, Wf e → TokTail tail → exp e = .ok x →
    ∃ o, tok (bytes e ++ tail) = .ok o ∧ noF o.r = false ∧ feat o = x ∧ o.rest <:+ tail ∧
      o.rest.dropWhile isBlankB = tail.dropWhile isBlankB
  endPart : ∀ fin, End fin → EndPart fin
  stop : ∀ fin, End fin → ∃ o, tok fin = .ok o ∧ noF o.r = true ∧ o.rest = []

namespace EntryFormat
variable {α : Type} (F : EntryFormat α)

theorem ents_next {fin : Bytes} (hfin : F.End fin) (ses : List (Bytes × Entry))
    (hs : ∀ se ∈ ses, blanksOnly se.1 ∧ F.Wf se.2) :
    ∀ b, ((ents F.bytes ses fin).dropWhile isBlankB).head? = some b → isDigitCharB b = true ∨ b = 35 := by
  intro b hb
  cases ses with
  | nil =>
    rcases (F.endPart fin hfin).dropBlank_eq with e | ⟨c', e⟩ <;> rw [show ents F.bytes [] fin = fin from rfl, e] at hb <;>
      simp at hb
    exact Or.inr hb.symm
  | cons se rest =>
    obtain ⟨d, r, hd, hdc⟩ := (F.lead se.2 (hs se (by simp)).2).2
    rw [show ents F.bytes (se :: rest) fin = se.1 ++ (F.bytes se.2 ++ ents F.bytes rest fin) from rfl,
      List.dropWhile_append_of_pos (hs se (by simp)).1,
      ((F.lead se.2 (hs se (by simp)).2).2.append _).dropBlank, hd] at hb
    simp at hb; subst hb
    exact Or.inl hdc

theorem ents_tail {fin : Bytes} (hfin : F.End fin) (ses : List (Bytes × Entry))
    (hs : ∀ se ∈ ses, isSep se.1 ∧ F.Wf se.2) : TokTail (ents F.bytes ses fin) := by
  refine ⟨?_, ?_, fun b hb => (digit_or_hash (F.ents_next hfin ses (fun se h => ⟨(hs se h).1.2, (hs se h).2⟩) b hb)).1⟩
  · exact ents_clean _ _ _ (F.endPart fin hfin).clean (fun se h => ⟨(hs se h).1.2, (F.lead se.2 (hs se h).2).1⟩)
  · cases ses with
    | nil => exact (F.endPart fin hfin).head_delim
    | cons se rest =>
      obtain ⟨hne, hbl⟩ := (hs se (by simp)).1
      intro b hb
      refine blanks_head_delim hbl b ?_
      cases hsep : se.1 with
      | nil => exact absurd hsep hne
      | cons x xs => simpa [ents, hsep] using hb

/-- started anywhere in the blanks in front of the entries (the separator of the first entry included) -/
theorem feats_render {fin : Bytes} (hfin : F.End fin) :
    ∀ (ses : List (Bytes × Entry)) (s : Bytes) (acc fs : List α) (fuel : Nat),
      s.dropWhile isBlankB = (ents F.bytes ses fin).dropWhile isBlankB →
      (∀ se ∈ ses, blanksOnly se.1 ∧ F.Wf se.2) → (∀ se ∈ ses.tail, se.1 ≠ []) →
      (ses.map (·.2)).mapM F.exp = .ok fs → s.length + 1 ≤ fuel →
      F.loop fuel s acc = .ok (acc.reverse ++ fs) := by
  -- `s` is given up to its leading blanks only: a token leaves `tail` or `tail` behind its blanks, the loop goes on alike
  intro ses
  induction ses with
  | nil =>
    intro s acc fs fuel hs _ _ hexp hf
    cases hexp
    obtain ⟨f, rfl⟩ : ∃ f, fuel = f + 1 := ⟨fuel - 1, by omega⟩
    cases s with
    | nil => simp [F.loop_nil]
    | cons b s =>
      obtain ⟨o, ho, hr, hrest⟩ := F.stop fin hfin
      obtain ⟨f', rfl⟩ : ∃ f', f = f' + 1 := ⟨f - 1, by simp at hf; omega⟩
      have hs' : (b :: s).dropWhile isBlankB = fin.dropWhile isBlankB := hs
      rw [F.loop_cons _ _ _ (by simp), ← F.skip, hs', F.skip, ho]
      simp [Except.bind, hr, hrest, F.loop_nil]
  | cons se rest ih =>
    intro s acc fs fuel hs hw hsep hexp hf
    obtain ⟨x, fs', hx, hre, rfl⟩ := mapM_cons_ok_iff.mp hexp
    have hrs : ∀ x ∈ rest, isSep x.1 ∧ F.Wf x.2 := fun x hx =>
      ⟨⟨hsep x (by simpa using hx), (hw x (by simp [hx])).1⟩, (hw x (by simp [hx])).2⟩
    obtain ⟨hbl, hwf⟩ := hw se (by simp)
    have hN : s.dropWhile isBlankB = F.bytes se.2 ++ ents F.bytes rest fin := by
      rw [hs, show ents F.bytes (se :: rest) fin = se.1 ++ (F.bytes se.2 ++ ents F.bytes rest fin) from rfl,
        List.dropWhile_append_of_pos hbl, ((F.lead se.2 hwf).2.append _).dropBlank]
    obtain ⟨o, ho, hr, hmk, hsuf, hdrop⟩ := F.entry se.2 _ x hwf (F.ents_tail hfin rest hrs) hx
    have hlen : (F.bytes se.2 ++ ents F.bytes rest fin).length ≤ s.length := hN ▸ (List.dropWhile_suffix _).length_le
    obtain ⟨d, r, hd, _⟩ := (F.lead se.2 hwf).2
    have hne : s ≠ [] := by intro e; rw [e, hd] at hN; cases hN
    obtain ⟨f, rfl⟩ : ∃ f, fuel = f + 1 := ⟨fuel - 1, by omega⟩
    rw [F.loop_cons _ _ _ hne, ← F.skip, hN, ho]
    simp only [Except.bind, hr, hmk, Bool.false_eq_true, if_false]
    have := ih o.rest (x :: acc) fs' f hdrop (fun se h => ⟨(hrs se h).1.2, (hrs se h).2⟩)
      (fun se h => (hrs se (List.mem_of_mem_tail h)).1.1) hre
      (by have := hsuf.length_le; rw [hd] at hlen; simp only [List.length_append, List.length_cons] at hlen; omega)
    simpa using this

theorem feats_ents {fin : Bytes} (hfin : F.End fin) (ses : List (Bytes × Entry))
    (hs : ∀ se ∈ ses, isSep se.1 ∧ F.Wf se.2) (fs : List α) (hexp : (ses.map (·.2)).mapM F.exp = .ok fs)
    (X : Bytes) (hX : X.dropWhile isBlankB = (ents F.bytes ses fin).dropWhile isBlankB) :
    F.loop (X.length + 1) X [] = .ok fs := by
  simpa using F.feats_render hfin ses X [] fs _ hX (fun se h => ⟨(hs se h).1.2, (hs se h).2⟩)
    (fun se h => (hs se (List.mem_of_mem_tail h)).1.1) hexp (Nat.le_refl _)

end EntryFormat

/-! ## libsvm entries -/

theorem entsBytes_eq (ses : List (Bytes × Entry)) (fin : Bytes) : entsBytes ses fin = ents entryBytes ses fin := by
  induction ses with
  | nil => rfl
  | cons se rest ih => simp [entsBytes, ents, ih]

theorem digits_lexeme {s : Bytes} (h : IsDigits s) : IsLexeme s :=
  ⟨h.1, fun b hb => by
    have := h.2 b hb
    simp [isDigitCharB, Gen.Parse.isdigitchars, Gen.Parse.isdigit] at this ⊢; omega⟩

theorem valPart_clean {v : Option Bytes} (h : ∀ x, v = some x → IsLexeme x) : Clean (valPart v) := by
  cases hv : v with
  | none => exact Clean.nil
  | some x => exact Clean.cons (by decide) (lexeme_clean (h x hv))

theorem entryBytes_clean {e : Entry} (h : WfEntry e) : Clean (entryBytes e) :=
  (lexeme_clean (digits_lexeme h.index)).append (valPart_clean h.value)

theorem expEntry_ok {gI gR : Bytes → Res Nat} {e : Entry} {x : Nat × Option Nat} (h : expEntry gI gR e = .ok x) :
    ∃ i v, gI e.index = .ok i ∧ optVal gR e.value = .ok v ∧ x = (i, v) := by
  obtain ⟨i, hi, h⟩ := bind_ok_iff.mp h
  obtain ⟨v, hv, h⟩ := bind_ok_iff.mp h
  cases h
  exact ⟨i, v, hi, hv, rfl⟩

def svmEntries (gI gR : Bytes → Res Nat) (hI : Exact gI) (hR : Exact gR) : EntryFormat (Nat × Option Nat) where
  bytes := entryBytes
  Wf := WfEntry
  exp := expEntry gI gR
  End := EndPart
  loop := svmFeatsS gI gR
  tok := fun s => pairS gI gR (icbS s)
  noF := Gen.Parse.svmNoFeature
  feat := fun o => (o.v1, if Gen.Parse.svmHasValue o.r then some o.v2 else none)
  loop_nil := fun _ _ => rfl
  loop_cons := fun _ s _ hs => by
    cases s with
    | nil => exact absurd rfl hs
    | cons _ _ => rfl
  skip := fun s => by rw [icbS_dropBlank]
  lead := fun e h => ⟨entryBytes_clean h, (lex_head (digits_lexeme h.index)).append _⟩
  entry := fun e tail x hw ht hx => by
    obtain ⟨i, v, hi, hv, rfl⟩ := expEntry_ok hx
    obtain ⟨o, ho, h1, hv1, hv2, hsuf, hdrop⟩ := pairS_render hI hR (digits_lexeme hw.index) hw.value ht hi hv
    refine ⟨o, ?_, by simp [Gen.Parse.svmNoFeature]; omega, Prod.ext hv1 hv2, hsuf, hdrop⟩
    rw [show entryBytes e ++ tail = e.index ++ (valPart e.value ++ tail) from List.append_assoc _ _ _,
      icbS_digitLed ((lex_head (digits_lexeme hw.index)).append _)]
    exact ho
  endPart := fun _ h => h
  stop := fun fin h => ⟨_, by rw [h.icbS_nil]; rfl, rfl, rfl⟩

/-! ## a libsvm line -/

theorem cPart_clean {c : Option Bytes} (h : ∀ x, c = some x → Clean x) : Clean (cPart c) := by
  cases hc : c with
  | none => exact Clean.nil
  | some x => exact Clean.cons (by decide) (h x hc)

theorem endPart_mk {tr : Bytes} {c : Option Bytes} (htr : blanksOnly tr) (hc : ∀ x, c = some x → Clean x) :
    EndPart (tr ++ cPart c) := by
  refine ⟨(blanks_clean htr).append (cPart_clean hc), tr, cPart c, rfl, htr, ?_⟩
  cases c with
  | none => exact Or.inl rfl
  | some c => exact Or.inr ⟨c, rfl⟩

theorem WfLine.fin {σ : LineStyle} {r : TRow} (h : WfLine σ r) : EndPart (finPart σ) := endPart_mk h.trail h.comment

theorem WfLine.ses {σ : LineStyle} {r : TRow} (h : WfLine σ r) :
    (∀ se ∈ σ.seps.zip r.entries, isSep se.1 ∧ WfEntry se.2) ∧ (σ.seps.zip r.entries).map (·.2) = r.entries :=
  ⟨fun _ hse => ⟨h.seps _ (List.of_mem_zip hse).1, h.entries _ (List.of_mem_zip hse).2⟩,
    List.map_snd_zip (Nat.le_of_eq h.nseps.symm)⟩

theorem expLine_ok {gR gI gQ : Bytes → Res Nat} {r : TRow} {L : SvmLine} (h : expLine gR gI gQ r = .ok L) :
    ∃ lv wv qv fs, gR r.label = .ok lv ∧ optVal gR r.weight = .ok wv ∧ optVal gQ r.qid = .ok qv ∧
      expFeats gI gR r.entries = .ok fs ∧ L = { label := lv, weight := wv, qid := qv, feats := fs } := by
  obtain ⟨lv, hlv, h⟩ := bind_ok_iff.mp h
  obtain ⟨wv, hwv, h⟩ := bind_ok_iff.mp h
  obtain ⟨qv, hqv, h⟩ := bind_ok_iff.mp h
  obtain ⟨fs, hfs, h⟩ := bind_ok_iff.mp h
  cases h
  exact ⟨lv, wv, qv, fs, hlv, hwv, hqv, hfs, rfl⟩

theorem expEntry_isSome {gI gR : Bytes → Res Nat} (e : Entry) (x : Nat × Option Nat) (h : expEntry gI gR e = .ok x) :
    x.2.isSome = e.value.isSome := by
  obtain ⟨i, v, _, hv, rfl⟩ := expEntry_ok h
  exact optVal_isSome hv

theorem qidPart_clean {σ : LineStyle} {r : TRow} (h : WfLine σ r) : Clean (qidPart σ r.qid) := by
  cases hq : r.qid with
  | none => exact Clean.nil
  | some q =>
    exact (blanks_clean h.qidSep.2).append (Clean.append
      (by intro x hx; simp at hx; rcases hx with rfl | rfl | rfl | rfl <;> decide)
      (lexeme_clean (digits_lexeme (h.qid q hq))))

theorem svmContent_clean {σ : LineStyle} {r : TRow} (hwf : WfLine σ r) : Clean (svmContent σ r) := by
  unfold svmContent
  rw [entsBytes_eq]
  exact (blanks_clean hwf.lead).append ((lexeme_clean hwf.label).append ((valPart_clean hwf.weight).append
    ((qidPart_clean hwf).append (ents_clean _ _ _ hwf.fin.clean
      (fun se h => ⟨(hwf.ses.1 se h).1.2, entryBytes_clean (hwf.ses.1 se h).2⟩)))))

def svmQidStage (gQ : Bytes → Res Nat) (s2 : Bytes) : Res (Bytes × Option Nat) :=
  if !s2.isEmpty && (s2.take Gen.Parse.qidPrefix.length).map UInt8.toNat == Gen.Parse.qidPrefix then do
    let s3 := s2.drop Gen.Parse.qidAdvance
    let q ← (match s3 with
      | [] => pure 0
      | b :: _ => if Gen.Parse.isdigitchars b.toNat then gQ (s3.takeWhile nonStopB) else pure 0)
    pure (s3.dropWhile qidDigitB, some q)
  else pure (s2, none)

theorem svmLineS_eq (gR gI gQ : Bytes → Res Nat) (l : Bytes) :
    svmLineS gR gI gQ l = (pairS gR gR (icbS (l.dropWhile isEolB))).bind fun o =>
      if Gen.Parse.svmEmptyLine o.r then .ok none else
      (svmQidStage gQ (o.rest.dropWhile isBlankB)).bind fun sq =>
      (svmFeatsS gI gR (sq.1.length + 1) sq.1 []).bind fun feats =>
      .ok (some { label := o.v1, weight := if Gen.Parse.svmHasWeight o.r then some o.v2 else none, qid := sq.2, feats }) :=
  rfl

theorem qidStage_some (gQ : Bytes → Res Nat) (hQ : Exact gQ) (q E : Bytes) (qv : Nat) (hq : IsDigits q)
    (hE : TokTail E) (hv : gQ q = .ok qv) :
    svmQidStage gQ ([113, 105, 100, 58] ++ (q ++ E)) = .ok (E, some qv) := by
  obtain ⟨d, s, e, _, e2, e3⟩ := lex_scan hQ (digits_lexeme hq) hE.clean hE.head hv
  have hd : Gen.Parse.isdigitchars d.toNat = true := by
    obtain ⟨d', _, hd', hdc⟩ := (lex_head (digits_lexeme hq)).append E
    rw [e] at hd'; cases hd'; exact hdc
  rw [e]
  simp only [svmQidStage, show ((113 : UInt8) :: 105 :: 100 :: 58 :: (d :: s)).drop Gen.Parse.qidAdvance = d :: s from rfl,
    List.cons_append, List.nil_append, if_true, hd, e2, show (qidDigitB : UInt8 → Bool) = isDigitCharB from rfl, e3,
    bind, Except.bind, pure, Except.pure]
  exact if_pos rfl

theorem qidStage_none (gQ : Bytes → Res Nat) (s2 : Bytes) (h : ∀ b, s2.head? = some b → b ≠ 113) :
    svmQidStage gQ s2 = .ok (s2, none) := by
  cases s2 with
  | nil => rfl
  | cons b s =>
    unfold svmQidStage
    rw [if_neg]
    · rfl
    · intro hc
      simp [Gen.Parse.qidPrefix] at hc
      exact h b rfl (by rw [← UInt8.toNat_inj]; simpa using hc.1)

theorem svmLineS_render (gR gI gQ : Bytes → Res Nat) (hR : Exact gR) (hI : Exact gI) (hQ : Exact gQ)
    (σ : LineStyle) (r : TRow) (hwf : WfLine σ r) (L : SvmLine) (hexp : expLine gR gI gQ r = .ok L) :
    svmLineS gR gI gQ (svmContent σ r) = .ok (some L) := by
  obtain ⟨lv, wv, qv, fs, hlv, hwv, hqv, hfs, rfl⟩ := expLine_ok hexp
  have hE : TokTail (ents entryBytes (σ.seps.zip r.entries) (finPart σ)) :=
    (svmEntries gI gR hI hR).ents_tail hwf.fin _ hwf.ses.1
  have hnext := (svmEntries gI gR hI hR).ents_next hwf.fin _ (fun se h => ⟨(hwf.ses.1 se h).1.2, (hwf.ses.1 se h).2⟩)
  have hfeat := (svmEntries gI gR hI hR).feats_ents hwf.fin _ hwf.ses.1 fs (by rw [hwf.ses.2]; exact hfs)
  -- the qid stage, on what the label pair leaves behind the blanks it may or may not have consumed
  have hstage : TokTail (qidPart σ r.qid ++ ents entryBytes (σ.seps.zip r.entries) (finPart σ)) ∧
      ∃ s3, svmQidStage gQ ((qidPart σ r.qid ++ ents entryBytes (σ.seps.zip r.entries) (finPart σ)).dropWhile isBlankB)
          = .ok (s3, qv) ∧ svmFeatsS gI gR (s3.length + 1) s3 [] = .ok fs := by
    cases hq : r.qid with
    | none =>
      rw [hq] at hqv; cases hqv
      exact ⟨hE, _, qidStage_none gQ _ (fun b hb => (digit_or_hash (hnext b hb)).2),
        hfeat _ (dropWhile_idem _ _)⟩
    | some q =>
      rw [hq] at hqv
      obtain ⟨qn, hgq, rfl⟩ := optVal_some hqv
      have hdw : (qidPart σ (some q) ++ ents entryBytes (σ.seps.zip r.entries) (finPart σ)).dropWhile isBlankB
          = [113, 105, 100, 58] ++ (q ++ ents entryBytes (σ.seps.zip r.entries) (finPart σ)) := by
        simp only [qidPart, List.append_assoc]
        exact dropWhile_append_all _ _ _ hwf.qidSep.2 (by intro x hx; simp at hx; subst hx; decide)
      refine ⟨⟨(hq ▸ qidPart_clean hwf).append hE.clean, ?_, ?_⟩, _, ?_, hfeat _ rfl⟩
      · intro b hb
        refine blanks_head_delim hwf.qidSep.2 b ?_
        cases hsep : σ.qidSep with
        | nil => exact absurd hsep hwf.qidSep.1
        | cons x xs => simpa [qidPart, hsep] using hb
      · rw [hdw]; intro b hb; simp at hb; subst hb; decide
      · rw [hdw]; exact qidStage_some gQ hQ q _ qn (hwf.qid q hq) hE hgq
  obtain ⟨hT, s3, hst, hfs3⟩ := hstage
  obtain ⟨o, ho, h1, hv1, hv2, _, hdrop⟩ := pairS_render hR hR hwf.label hwf.weight hT hlv hwv
  have hem : Gen.Parse.svmEmptyLine o.r = false := by simp [svmEmptyLine_spec]; omega
  rw [svmLineS_eq, dropWhile_eol_self _ (clean_noEol (svmContent_clean hwf)), svmContent, entsBytes_eq, icbS_blanks_append hwf.lead,
    icbS_digitLed ((lex_head hwf.label).append _), ho]
  simp only [Except.bind, hem, hdrop, hst, hfs3, Bool.false_eq_true, if_false]
  rw [hv1, show (if Gen.Parse.svmHasWeight o.r = true then some o.v2 else none) = wv from hv2]

end DmlcModel.Parse
