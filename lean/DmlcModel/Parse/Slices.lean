/-
FillData's thread slices (text_parser.h: nstep / sbegin / send + BackFindEndLine): contiguous, covering the
chunk, every interior boundary at position 0 or at an end-of-line byte.
-/
import DmlcModel.Parse.Model
import DmlcModel.BasicLemmas

namespace DmlcModel.Parse
open DmlcModel

/-- the value `BackFindEndLine` returns (0 on a faulting read) -/
def bfv (mem : Bytes) (k : Nat) : Nat := match backFind mem k with | .ok q => q | .error _ => 0

theorem backFind_succ (mem : Bytes) (k : Nat) (hk : k + 1 < mem.length) :
    backFind mem (k + 1) = if isEolB mem[k + 1] then .ok (k + 1) else backFind mem k := by
  simp only [backFind, byteAt, List.getElem?_eq_getElem hk, bind, Except.bind, isEolB]
  rfl

theorem bfv_succ_eq (mem : Bytes) (k : Nat) (hk : k + 1 < mem.length) :
    bfv mem (k + 1) = if isEolB mem[k + 1] then k + 1 else bfv mem k := by
  unfold bfv
  rw [backFind_succ mem k hk]
  cases isEolB mem[k + 1] <;> rfl

theorem backFind_bfv (mem : Bytes) (k : Nat) (hk : k < mem.length) :
    backFind mem k = .ok (bfv mem k) ∧ bfv mem k ≤ k ∧
      (bfv mem k = 0 ∨ ∃ b, mem[bfv mem k]? = some b ∧ isEolB b = true) := by
  induction k with
  | zero => exact ⟨rfl, Nat.le_refl _, Or.inl rfl⟩
  | succ k ih =>
    obtain ⟨hq, hle, hsh⟩ := ih (by omega)
    rw [backFind_succ mem k hk, bfv_succ_eq mem k hk]
    cases he : isEolB mem[k + 1] with
    | true => exact ⟨rfl, Nat.le_refl _, Or.inr ⟨_, List.getElem?_eq_getElem hk, he⟩⟩
    | false => exact ⟨hq, Nat.le_succ_of_le hle, hsh⟩

theorem bfv_succ (mem : Bytes) (k : Nat) (hk : k + 1 < mem.length) : bfv mem k ≤ bfv mem (k + 1) := by
  rw [bfv_succ_eq mem k hk]
  split
  · exact Nat.le_succ_of_le (backFind_bfv mem k (by omega)).2.1
  · exact Nat.le_refl _

theorem bfv_mono (mem : Bytes) (a b : Nat) (hab : a ≤ b) (hb : b < mem.length) : bfv mem a ≤ bfv mem b := by
  induction b with
  | zero => have : a = 0 := by omega
            subst this; exact Nat.le_refl _
  | succ b ih =>
    by_cases h : a = b + 1
    · subst h; exact Nat.le_refl _
    · have := ih (by omega) (by omega)
      have := bfv_succ mem b hb
      omega

/-- `nstep` is the rounded-up quotient: `nthread * nstep ≥ size`, without overflow -/
theorem nstep_spec (size nthread : Nat) (h1 : 1 ≤ nthread) (hs : size + nthread < 9223372036854775808) :
    size ≤ nthread * Gen.Parse.nstep size nthread ∧ nthread * Gen.Parse.nstep size nthread ≤ size + nthread - 1 := by
  have e : sub64 (u64 (size + nthread)) 1 = size + nthread - 1 := by
    rw [u64_of_lt (by omega), sub64_of_le (by omega) (by omega)]
  have h2 := Nat.lt_mul_div_succ (size + nthread - 1) (show 0 < nthread by omega)
  have h3 := Nat.mul_div_le (size + nthread - 1) nthread
  rw [Gen.Parse.nstep, e]
  rw [Nat.mul_add] at h2
  omega

def cutAt (mem : Bytes) (size nthread i : Nat) : Nat :=
  if i = nthread then size else bfv mem (min (i * Gen.Parse.nstep size nthread) size)

/-- `cut 0 … cut nthread` are the boundaries of FillData's slices: contiguous, covering the chunk, and every cut but the last
is 0 (the slices in front of it are empty) or the position of an end-of-line byte -/
structure ThreadCuts (mem : Bytes) (size nthread : Nat) (cut : Nat → Nat) : Prop where
  first : cut 0 = 0
  last : cut nthread = size
  mono : ∀ i, i < nthread → cut i ≤ cut (i + 1)
  atEol : ∀ i, i < nthread → cut i = 0 ∨ ∃ b, mem[cut i]? = some b ∧ isEolB b = true
  slice : ∀ tid, tid < nthread → threadSlice mem size nthread tid = .ok (cut tid, cut (tid + 1))

/-- **FillData's slices satisfy the cut hypothesis of `C11_thread_invariant_nary_*`** -/
theorem fillData_slices (mem : Bytes) (size nthread : Nat) (h1 : 1 ≤ nthread) (hn : nthread < 4294967296)
    (hs : size + nthread < 9223372036854775808) (hr : size < mem.length) :
    ThreadCuts mem size nthread (cutAt mem size nthread) := by
  obtain ⟨hge, hle⟩ := nstep_spec size nthread h1 hs
  generalize hN : Gen.Parse.nstep size nthread = N at hge hle
  have hmul : ∀ i, i ≤ nthread → i * N ≤ nthread * N := fun i hi => Nat.mul_le_mul_right N hi
  have hu : ∀ i, i ≤ nthread → u64 (i * N) = i * N := fun i hi =>
    u64_of_lt (by have := hmul i hi; omega)
  have h32 : ∀ i, i < nthread → u32 (i + 1) = i + 1 := fun i hi => u32_of_lt (by omega)
  have hsb : ∀ i, i ≤ nthread → Gen.Parse.sbegin i N size = min (i * N) size := fun i hi => by
    rw [Gen.Parse.sbegin, hu i hi]
  have hse : ∀ i, i < nthread → Gen.Parse.send i N size = min ((i + 1) * N) size := fun i hi => by
    rw [Gen.Parse.send, h32 i hi, hu (i + 1) hi]
  have hlast : ∀ i, i < nthread → Gen.Parse.lastThread i nthread = decide (i + 1 = nthread) := fun i hi => by
    rw [Gen.Parse.lastThread, h32 i hi, Bool.beq_eq_decide_eq]
  have hmin : ∀ i, min (i * N) size < mem.length := fun i => by omega
  refine ⟨?_, ?_, ?_, ?_, ?_⟩
  · have h0 : ¬ (0 = nthread) := by omega
    have hm0 : min (0 * N) size = 0 := by rw [Nat.zero_mul]; exact Nat.zero_min _
    unfold cutAt
    rw [if_neg h0, hN, hm0]
    rfl
  · simp [cutAt]
  · intro i hi
    by_cases hl : i + 1 = nthread
    · have : ¬ (i = nthread) := by omega
      simp only [cutAt, this, hl, if_true, if_false, hN]
      have := (backFind_bfv mem _ (hmin i)).2.1
      omega
    · have h2 : ¬ (i = nthread) := by omega
      simp only [cutAt, h2, hl, if_false, hN]
      apply bfv_mono _ _ _ _ (hmin (i + 1))
      have : i * N ≤ (i + 1) * N := Nat.mul_le_mul_right N (by omega)
      omega
  · intro i hi
    have : ¬ (i = nthread) := by omega
    simp only [cutAt, this, if_false, hN]
    exact (backFind_bfv mem _ (hmin i)).2.2
  · intro tid ht
    have h2 : ¬ (tid = nthread) := by omega
    have e1 := (backFind_bfv mem _ (hmin tid)).1
    unfold threadSlice
    rw [hN, hsb tid (by omega), hse tid ht, hlast tid ht, e1]
    simp only [Except.bind]
    by_cases hl : tid + 1 = nthread
    · have hfull : min ((tid + 1) * N) size = size := by rw [hl]; exact Nat.min_eq_right hge
      rw [decide_eq_true hl, if_pos rfl, hfull]
      unfold cutAt
      rw [if_neg h2, if_pos hl, hN]
    · have e2 := (backFind_bfv mem _ (hmin (tid + 1))).1
      rw [decide_eq_false hl]
      simp only [Bool.false_eq_true, if_false, e2]
      unfold cutAt
      rw [if_neg h2, if_neg hl, hN]

end DmlcModel.Parse
