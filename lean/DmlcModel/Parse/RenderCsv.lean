/-
csv: the cell loop of CSVParser::ParseBlock on a rendered line.  The loop is a fold of `csvUpdate` over the cell values, which
has a closed form (`csvFold_eq`, by induction from the last cell: it is the only cell of its column below 2^32 columns).
-/
import DmlcModel.Parse.Render
import DmlcModel.Parse.Csv

namespace DmlcModel.Parse
open DmlcModel

/-! ## part 1: the fold over cell values -/

theorem range'_zip_eq {α : Type} (c : Nat) (xs : List α) : (List.range' c xs.length).zip xs = enumF c xs := by
  induction xs generalizing c with
  | nil => rfl
  | cons x xs ih => simp [List.range'_succ, enumF, ih]

theorem range_zip_eq {α : Type} (xs : List α) : (List.range xs.length).zip xs = enumF 0 xs := by
  rw [List.range_eq_range', range'_zip_eq]

theorem enumF_mem {α : Type} (c : Nat) (xs : List α) (z : Nat × α) (h : z ∈ enumF c xs) :
    c ≤ z.1 ∧ z.1 < c + xs.length ∧ z.2 ∈ xs := by
  induction xs generalizing c with
  | nil => simp [enumF] at h
  | cons x xs ih =>
    simp only [enumF, List.mem_cons] at h
    rcases h with rfl | h
    · simp
    · have := ih (c + 1) h
      simp only [List.length_cons, List.mem_cons]
      exact ⟨by omega, by omega, Or.inr this.2.2⟩

theorem enumF_map_snd {α : Type} (c : Nat) (xs : List α) : (enumF c xs).map (·.2) = xs := by
  induction xs generalizing c with
  | nil => rfl
  | cons x xs ih => simp [enumF, ih]

/-- one step of the cell loop on a cell value (`none`: an empty cell, nothing converted) -/
def csvStep (prm : CsvParam) (st : CsvLine) (c : Option Nat) : CsvLine :=
  match c with
  | some v => csvUpdate prm st v true
  | none => csvUpdate prm st 0 false

def csvFold (prm : CsvParam) (st : CsvLine) (vals : List (Option Nat)) : CsvLine := vals.foldl (csvStep prm) st

/-- in a feature column the value of an empty cell is not looked at -/
theorem csvUpdate_absent (prm : CsvParam) (st : CsvLine) (v : Nat) (h : featP prm st.col = true) :
    csvUpdate prm st v false = csvStep prm st none := by
  simp only [featP, Bool.and_eq_true, bne_iff_ne, ne_eq, Bool.not_eq_true'] at h
  have h1 : Gen.Parse.csvIsLabel (u32 st.col) prm.labelCol = false := by simp [Gen.Parse.csvIsLabel, h.1]
  have h2 : Gen.Parse.csvIsWeight prm.isReal (u32 st.col) prm.weightCol = false := by
    simpa [Gen.Parse.csvIsWeight] using h.2
  simp [csvStep, csvUpdate, h1, h2]

theorem csvStep_col (prm : CsvParam) (st : CsvLine) (c : Option Nat) : (csvStep prm st c).col = st.col + 1 := by
  cases c <;> simp only [csvStep, csvUpdate] <;> (repeat' split) <;> rfl

/-- the formula of `expectCsvRow` -/
def csvRowOfVals (prm : CsvParam) (vals : List (Option Nat)) : Row :=
  let cols := (List.range vals.length).zip vals
  let feats := (cols.filter fun cv => u32 cv.1 != prm.labelCol && !(prm.isReal && u32 cv.1 == prm.weightCol))
  let numbered := (List.range feats.length).zip (feats.map (·.2))
  let present := numbered.filterMap fun iv => iv.2.map fun v => (iv.1, v)
  { label := (cols.find? fun cv => u32 cv.1 == prm.labelCol).bind (·.2)
    weight := if prm.isReal then (cols.find? fun cv => u32 cv.1 == prm.weightCol).bind (·.2) else none
    qid := none, field := none, index := present.map (·.1)
    value := if present.isEmpty then none else some (present.map (·.2)) }

def featCells (prm : CsvParam) (c : Nat) (vals : List (Option Nat)) : List (Option Nat) :=
  ((enumF c vals).filter fun cv => featP prm cv.1).map (·.2)

def presentF (i : Nat) (fs : List (Option Nat)) : List (Nat × Nat) :=
  (enumF i fs).filterMap fun iv => iv.2.map fun v => (iv.1, v)

/-- at most 2^32 columns, so that `column_index` does not wrap -/
structure ColsOk (prm : CsvParam) (c : Nat) (vals : List (Option Nat)) : Prop where
  width : c + vals.length ≤ 4294967296
  label : ∀ cv ∈ enumF c vals, labP prm cv.1 = true → cv.2 ≠ none
  weight : ∀ cv ∈ enumF c vals, wgtP prm cv.1 = true → cv.2 ≠ none ∧ labP prm cv.1 = false

theorem isNaN_quietNaN : isNaNBits quietNaN = true := by decide

theorem snoc_induction {α : Type} {P : List α → Prop} (nil : P []) (snoc : ∀ xs x, P xs → P (xs ++ [x])) (xs : List α) :
    P xs := by
  rw [← List.reverse_reverse xs]
  induction xs.reverse with
  | nil => exact nil
  | cons x xs ih => rw [List.reverse_cons]; exact snoc _ _ ih

theorem enumF_append {α : Type} (c : Nat) (xs ys : List α) : enumF c (xs ++ ys) = enumF c xs ++ enumF (c + xs.length) ys := by
  induction xs generalizing c with
  | nil => rfl
  | cons x xs ih => simp [enumF, ih, Nat.add_assoc, Nat.add_comm 1]

theorem find?_col_none {α : Type} (vals : List α) (hw : vals.length < 4294967296) :
    ((enumF 0 vals).find? fun cv => u32 cv.1 == u32 vals.length) = none :=
  List.find?_eq_none.mpr fun cv hcv => by
    have := enumF_mem 0 vals cv hcv
    simp only [beq_iff_eq]; unfold u32; omega

theorem csvFold_eq (prm : CsvParam) (vals : List (Option Nat)) (hok : ColsOk prm 0 vals) :
    csvFold prm {} vals =
      { label := ((enumF 0 vals).find? fun cv => u32 cv.1 == prm.labelCol).bind (·.2)
        weight := (((enumF 0 vals).find? fun cv => wgtP prm cv.1).bind (·.2)).getD quietNaN
        feats := (presentF 0 (featCells prm 0 vals)).reverse
        col := vals.length
        idx := (featCells prm 0 vals).length } := by
  induction vals using snoc_induction with
  | nil => rfl
  | snoc vals v ih =>
    have hw : vals.length < 4294967296 := by have := hok.width; simp at this; omega
    have hmem : (vals.length, v) ∈ enumF 0 (vals ++ [v]) := by simp [enumF_append, enumF]
    rw [show csvFold prm {} (vals ++ [v]) = csvStep prm (csvFold prm {} vals) v from by simp [csvFold],
      ih ⟨by omega, fun cv h => hok.label cv (by simp [enumF_append, h]),
        fun cv h => hok.weight cv (by simp [enumF_append, h])⟩]
    -- the last cell: in the label or weight column it is the first (and only) cell of that column and is not empty;
    -- in a feature column it is numbered and, if not empty, entered
    have hl := hok.label _ hmem
    have hwg := hok.weight _ hmem
    have hfl : labP prm vals.length = true → ((enumF 0 vals).find? fun cv => u32 cv.1 == prm.labelCol) = none :=
      fun h => by rw [← beq_iff_eq.mp h]; exact find?_col_none vals hw
    have hfw : wgtP prm vals.length = true → ((enumF 0 vals).find? fun cv => wgtP prm cv.1) = none := fun h => by
      simp only [wgtP, Bool.and_eq_true, beq_iff_eq] at h
      simp only [wgtP, h.1, Bool.true_and, ← h.2]; exact find?_col_none vals hw
    have h1 : Gen.Parse.csvIsLabel (u32 vals.length) prm.labelCol = labP prm vals.length := rfl
    have h2 : Gen.Parse.csvIsWeight prm.isReal (u32 vals.length) prm.weightCol = wgtP prm vals.length := rfl
    have hf : featP prm vals.length = (!labP prm vals.length && !wgtP prm vals.length) := rfl
    simp only [enumF_append, Nat.zero_add, enumF, List.find?_append, featCells, List.filter_append, List.map_append,
      presentF, List.filterMap_append, List.length_append, List.find?_cons, List.find?_nil, List.filter_cons,
      List.filter_nil, hf, show (u32 vals.length == prm.labelCol) = labP prm vals.length from rfl] at hl hwg ⊢
    -- column kind (label / weight / feature) × empty or not.  An empty cell in the label or weight column contradicts `hl` /
    -- `hwg`; label and weight column at once contradicts `hwg`; in a label (weight) column `hfl` (`hfw`) makes this cell the one
    -- `find?` finds; a feature cell is appended to `featCells`, and to `presentF` unless it is empty
    cases hL : labP prm vals.length <;> cases hW : wgtP prm vals.length <;> cases v <;>
      simp [hL, hW, hfl, hfw, csvStep, csvUpdate, h1, h2, enumF] at hl hwg ⊢

theorem toRow_csvFold (prm : CsvParam) (vals : List (Option Nat)) (hok : ColsOk prm 0 vals)
    (hnan : ∀ w, (csvRowOfVals prm vals).weight = some w → isNaNBits w = false) :
    toRow (csvRec (csvFold prm {} vals)) = csvRowOfVals prm vals := by
  have hpres := range_zip_eq (featCells prm 0 vals)
  simp only [featCells, List.length_map, featP] at hpres
  simp only [csvRowOfVals, range_zip_eq, hpres] at hnan ⊢
  have hwgt : ∀ W, W = (((enumF 0 vals).find? fun cv => wgtP prm cv.1).bind (·.2)).getD quietNaN →
      (if isNaNBits W = true then none else some W) =
      (if prm.isReal = true then ((enumF 0 vals).find? fun cv => u32 cv.1 == prm.weightCol).bind (·.2) else none) := by
    rintro W rfl
    cases hr : prm.isReal
    · simp [wgtP, hr, List.find?_eq_none.mpr, isNaN_quietNaN]
    · simp only [hr, if_true, wgtP, Bool.true_and] at hnan ⊢
      cases hfd : ((enumF 0 vals).find? fun cv => u32 cv.1 == prm.weightCol).bind (·.2) with
      | none => simp [isNaN_quietNaN]
      | some w => simp [hnan w hfd]
  simp only [csvFold_eq prm vals hok, toRow, csvRec, hwgt _ rfl, presentF, featCells, featP, List.reverse_reverse,
    List.isEmpty_nil, Bool.true_or, if_true]
  cases List.filterMap _ _ <;> simp

/-! ## part 2: the cell loop on a rendered line -/

theorem clean_nonNul {s : Bytes} (h : Clean s) : ∀ b ∈ s, nonNulB b = true := by
  intro b hb
  have := h b hb
  simp only [nonStopB, isStopB, Bool.not_eq_true', Bool.or_eq_false_iff, beq_eq_false_iff_ne, ne_eq] at this
  simp [nonNulB, this.1]

/-- a cell with the blanks around it: (cell, (blanks in front, blanks behind)); `none` = empty cell -/
abbrev CellP := Option Bytes × (Bytes × Bytes)

def cellBytes (cp : CellP) : Bytes :=
  match cp.1 with
  | some lex => cp.2.1 ++ lex ++ cp.2.2
  | none => []

def lineOf (d : UInt8) : List CellP → Bytes
  | [] => []
  | cp :: rest => cellBytes cp ++ rest.flatMap fun c => d :: cellBytes c

theorem lineOf_eq (d : UInt8) (cps : List CellP) :
    ((cps.map cellBytes).intersperse [d]).flatten = lineOf d cps := by
  induction cps with
  | nil => rfl
  | cons cp rest ih =>
    cases rest with
    | nil => simp [lineOf]
    | cons cp' rest' =>
      simp only [List.map_cons, List.intersperse_cons_cons, List.flatten_cons, lineOf] at ih ⊢
      rw [ih]; simp

theorem lineOf_tail (d : UInt8) (rest : List CellP) :
    ((rest.flatMap fun c => d :: cellBytes c) = [] ∨ ∃ R, (rest.flatMap fun c => d :: cellBytes c) = d :: R) ∧
      (rest.flatMap fun c => d :: cellBytes c).drop 1 = lineOf d rest := by
  cases rest with
  | nil => exact ⟨Or.inl rfl, rfl⟩
  | cons c rest => exact ⟨Or.inr ⟨_, rfl⟩, rfl⟩

def cellVal (gC : Bytes → Res (Nat × Nat)) (c : Option Bytes) : Res (Option Nat) :=
  match c with
  | some lex => (gC lex).map fun vk => some vk.1
  | none => pure none

theorem expectCsvRow_eq (gC : Bytes → Res (Nat × Nat)) (prm : CsvParam) (cells : List (Option Bytes)) :
    Props.C12.expectCsvRow gC prm cells = (cells.mapM (cellVal gC)).bind fun vals => .ok (csvRowOfVals prm vals) :=
  rfl

structure Delim (prm : CsvParam) (d : UInt8) : Prop where
  eq : d.toNat = prm.delim
  delim : isDelimB d = true
  notEol : isEolB d = false
  ne0 : d ≠ 0

structure CellOk (gC : Bytes → Res (Nat × Nat)) (d : UInt8) (cp : CellP) : Prop where
  lead : blanksOnly cp.2.1
  trail : blanksOnly cp.2.2
  blankDelim : isBlankB d = true → cp.2.1 = [] ∧ cp.2.2 = []
  lex : ∀ lex, cp.1 = some lex → IsLexeme lex
  lead0 : SkipsBlanks gC ∨ cp.2.1 = []

theorem notDelimB_self {d : UInt8} {delim : Nat} (hd : d.toNat = delim) : notDelimB delim d = false := by
  simp [notDelimB, Gen.Parse.csvNotDelim, hd]

theorem notDelimB_ne {d b : UInt8} {delim : Nat} (hd : d.toNat = delim) (h : b ≠ d) : notDelimB delim b = true := by
  simp only [notDelimB, Gen.Parse.csvNotDelim, bne_iff_ne, ne_eq, ← hd]
  intro e; exact h (UInt8.toNat_inj.mp e)

theorem pad_ne_delim {d : UInt8} {p : Bytes} (hp : blanksOnly p) (hbd : isBlankB d = true → p = []) :
    ∀ b ∈ p, b ≠ d := by
  intro b hb e
  subst e
  have := hbd (hp b hb)
  rw [this] at hb; simp at hb

theorem dropWhile_pad {d : UInt8} {delim : Nat} (hd : d.toNat = delim) {p : Bytes} (hp : blanksOnly p)
    (hbd : isBlankB d = true → p = []) {X : Bytes} (hX : X = [] ∨ ∃ R, X = d :: R) :
    (p ++ X).dropWhile (notDelimB delim) = X :=
  dropWhile_append_all _ p X (fun b hb => notDelimB_ne hd (pad_ne_delim hp hbd b hb)) (fun b hb => by
    rcases hX with rfl | ⟨R, rfl⟩ <;> simp at hb
    subst hb; exact notDelimB_self hd)

theorem digit_notCellSpace (b : UInt8) (h : isDigitCharB b = true) : isCellSpaceB b = false := by
  simp [isCellSpaceB, Gen.Parse.isspace, isDigitCharB, Gen.Parse.isdigitchars] at *; omega

theorem blank_isCellSpace (b : UInt8) (h : isBlankB b = true) : isCellSpaceB b = true := by
  simp [isBlankB, Gen.Parse.isblank, isCellSpaceB, Gen.Parse.isspace] at *; omega

/-- the blank-cell guard on a rendered non-empty cell: the skip loop runs over the blanks in front (which are not the
delimiter) and stops at the first byte of the lexeme, so the cell is converted -/
theorem csvCellS_lex (gC : Bytes → Res (Nat × Nat)) {d : UInt8} {delim : Nat} (hd : d.toNat = delim)
    (hdd : isDelimB d = true) (p1 lex tail : Bytes) (hp1 : blanksOnly p1) (hbd : isBlankB d = true → p1 = [])
    (hlex : IsLexeme lex) :
    csvCellS gC delim (p1 ++ (lex ++ tail)) = gC ((p1 ++ (lex ++ tail)).takeWhile nonStopB) := by
  obtain ⟨y, r, hy, hyd⟩ := lex_head hlex
  have hyne : y ≠ d := by
    intro e; subst e; rw [delim_notDigit y hdd] at hyd; cases hyd
  have hynd : notDelimB delim y = true := notDelimB_ne hd hyne
  have hdw : (p1 ++ (lex ++ tail)).dropWhile (isCellSpaceNotDelimB delim) = y :: (r ++ tail) := by
    rw [hy]
    exact dropWhile_append_all _ p1 _ (fun b hb => by
        have h1 : Gen.Parse.csvNotDelim b.toNat delim = true := notDelimB_ne hd (pad_ne_delim hp1 hbd b hb)
        simp [isCellSpaceNotDelimB, h1, blank_isCellSpace b (hp1 b hb)])
      (fun b hb => by
        simp at hb; subst hb
        simp [isCellSpaceNotDelimB, digit_notCellSpace y hyd])
  simp only [csvCellS, hdw, hynd, if_true]

/-- … and on an empty cell in front of the delimiter: the skip loop stops at the delimiter, a missing value -/
theorem csvCellS_delim (gC : Bytes → Res (Nat × Nat)) {d : UInt8} {delim : Nat} (hd : d.toNat = delim) (R : Bytes) :
    csvCellS gC delim (d :: R) = .ok (0, 0) := by
  have h1 : Gen.Parse.csvNotDelim d.toNat delim = false := notDelimB_self hd
  have h2 : isCellSpaceNotDelimB delim d = false := by simp [isCellSpaceNotDelimB, h1]
  simp [csvCellS, List.dropWhile, h2, notDelimB_self hd]

theorem cellBytes_some (cp : CellP) (lex : Bytes) (h : cp.1 = some lex) : cellBytes cp = cp.2.1 ++ lex ++ cp.2.2 := by
  simp [cellBytes, h]

theorem cellBytes_none (cp : CellP) (h : cp.1 = none) : cellBytes cp = [] := by
  simp [cellBytes, h]

theorem cellBytes_bytes {gC : Bytes → Res (Nat × Nat)} {d : UInt8} {cp : CellP} (h : CellOk gC d cp) :
    ∀ b ∈ cellBytes cp, isBlankB b = true ∨ isDigitCharB b = true ∨ b = d := by
  intro b hb
  cases hc : cp.1 with
  | none => rw [cellBytes_none cp hc] at hb; simp at hb
  | some lex =>
    rw [cellBytes_some cp lex hc] at hb
    simp only [List.mem_append] at hb
    rcases hb with (hb | hb) | hb
    · exact Or.inl (h.lead b hb)
    · exact Or.inr (Or.inl ((h.lex lex hc).2 b hb))
    · exact Or.inl (h.trail b hb)

theorem lineOf_bytes {gC : Bytes → Res (Nat × Nat)} {d : UInt8} (cps : List CellP) (h : ∀ cp ∈ cps, CellOk gC d cp) :
    ∀ b ∈ lineOf d cps, isBlankB b = true ∨ isDigitCharB b = true ∨ b = d := by
  intro b hb
  cases cps with
  | nil => cases hb
  | cons cp rest =>
    rcases List.mem_append.mp hb with hb | hb
    · exact cellBytes_bytes (h cp (by simp)) b hb
    · obtain ⟨c, hc, hbc⟩ := List.mem_flatMap.mp hb
      rcases List.mem_cons.mp hbc with rfl | hbc
      · exact Or.inr (Or.inr rfl)
      · exact cellBytes_bytes (h c (by simp [hc])) b hbc

theorem lineOf_clean {gC : Bytes → Res (Nat × Nat)} {prm : CsvParam} {d : UInt8} (D : Delim prm d)
    (cps : List CellP) (h : ∀ cp ∈ cps, CellOk gC d cp) : Clean (lineOf d cps) := by
  intro b hb
  rcases lineOf_bytes cps h b hb with h1 | h1 | rfl
  · exact blank_nonStop b h1
  · exact digitChar_nonStop b h1
  · simp [nonStopB, isStopB, D.notEol, D.ne0]

theorem lineOf_ne_nil {gC : Bytes → Res (Nat × Nat)} {d : UInt8} (cps : List CellP) (h : ∀ cp ∈ cps, CellOk gC d cp)
    (hne : cps ≠ []) (hl : (cps.map (·.1)).getLast? ≠ some none) : lineOf d cps ≠ [] := by
  match cps, hne with
  | [cp], _ =>
    cases hc : cp.1 with
    | none => exact absurd (by simp [hc]) hl
    | some lex => simp [lineOf, cellBytes_some cp lex hc, ((h cp (by simp)).lex lex hc).1]
  | cp :: cp' :: rest, _ => simp [lineOf]

theorem cell_conv {gC : Bytes → Res (Nat × Nat)} (hC : CellExact gC) (p1 lex tail : Bytes) (v k : Nat)
    (hlead : SkipsBlanks gC ∨ p1 = []) (hp1 : blanksOnly p1) (hlex : IsLexeme lex)
    (ht : ∀ b, tail.head? = some b → isDelimB b = true) (hv : gC lex = .ok (v, k)) :
    gC (p1 ++ (lex ++ tail)) = .ok (v, p1.length + lex.length) := by
  have hk := (hC lex tail hlex ht).2 v k hv
  subst hk
  rcases hlead with hs | rfl
  · rw [hs p1 lex tail hp1 hlex ht, hv]; rfl
  · simp [(hC lex tail hlex ht).1, hv]

theorem csvCellsS_cell (gC : Bytes → Res (Nat × Nat)) (prm : CsvParam) (fuel : Nat) (s : Bytes) (st : CsvLine)
    (v k : Nat) (rest : Bytes) (hs : s ≠ []) (hc : csvCellS gC prm.delim s = .ok (v, k))
    (hr : (s.drop k).dropWhile (notDelimB prm.delim) = rest) :
    csvCellsS gC prm (fuel + 1) s st =
      if rest.isEmpty && (csvUpdate prm st v (k % 18446744073709551616 != 0)).idx == 0 then .error .check
      else csvCellsS gC prm fuel (rest.drop 1) (csvUpdate prm st v (k % 18446744073709551616 != 0)) := by
  cases s with
  | nil => exact absurd rfl hs
  | cons b s => simp only [csvCellsS, hc, hr, bind, Except.bind]

theorem cellVal_some_ok {gC : Bytes → Res (Nat × Nat)} {lex : Bytes} {o : Option Nat}
    (h : cellVal gC (some lex) = .ok o) : ∃ x k, gC lex = .ok (x, k) ∧ o = some x := by
  obtain ⟨vk, hg, rfl⟩ := map_ok_iff.mp h
  exact ⟨vk.1, vk.2, hg, rfl⟩

theorem delim_head {d : UInt8} (hdd : isDelimB d = true) {p : Bytes} (hp : blanksOnly p) (X : Bytes)
    (hX : X = [] ∨ ∃ R, X = d :: R) : ∀ b, (p ++ X).head? = some b → isDelimB b = true := by
  intro b hb
  cases p with
  | nil =>
    rcases hX with rfl | ⟨R, rfl⟩
    · simp at hb
    · simp at hb; subst hb; exact hdd
  | cons x xs => simp at hb; subst hb; exact blank_isDelim _ (hp _ (by simp))

section
variable {gC : Bytes → Res (Nat × Nat)} (hC : CellExact gC) {prm : CsvParam} {d : UInt8} (D : Delim prm d)
include hC D

/-- one round of the cell loop: `X` is the delimiter and more cells, or the end of the line -/
theorem csvCellsS_step (cp : CellP) (X : Bytes) (hX : X = [] ∨ ∃ R, X = d :: R)
    (hcp : CellOk gC d cp) (o : Option Nat) (ho : cellVal gC cp.1 = .ok o) (st : CsvLine) (fuel : Nat)
    (hclean : Clean (cellBytes cp ++ X)) (hne : cellBytes cp ++ X ≠ [])
    (hlen : (cellBytes cp).length < 18446744073709551616) (hnone : cp.1 = none → featP prm st.col = true) :
    csvCellsS gC prm (fuel + 1) (cellBytes cp ++ X) st =
      if X.isEmpty && (csvStep prm st o).idx == 0 then .error .check
      else csvCellsS gC prm fuel (X.drop 1) (csvStep prm st o) := by
  cases hc : cp.1 with
  | none =>
    -- the guard of fixes/C12-3.diff: the skip loop stops at the delimiter, whatever the conversion would do there
    rw [hc] at ho; cases ho
    rw [cellBytes_none cp hc] at hne ⊢
    obtain ⟨R, rfl⟩ : ∃ R, X = d :: R := hX.resolve_left hne
    rw [csvCellsS_cell gC prm fuel _ st 0 0 (d :: R) hne (csvCellS_delim gC D.eq R) (by simp [notDelimB_self D.eq]),
      show csvUpdate prm st 0 (0 % 18446744073709551616 != 0) = csvStep prm st none from
        csvUpdate_absent prm st 0 (hnone hc)]
  | some lex =>
    rw [hc] at ho
    obtain ⟨x, k, hg, rfl⟩ := cellVal_some_ok ho
    have hlex := hcp.lex lex hc
    rw [cellBytes_some cp lex hc] at hclean hne hlen ⊢
    simp only [List.append_assoc] at hclean hne ⊢
    have hcell : csvCellS gC prm.delim (cp.2.1 ++ (lex ++ (cp.2.2 ++ X))) = .ok (x, cp.2.1.length + lex.length) := by
      rw [csvCellS_lex gC D.eq D.delim _ _ _ hcp.lead (fun h => (hcp.blankDelim h).1) hlex, hclean.takeWhile]
      exact cell_conv hC cp.2.1 lex _ x k hcp.lead0 hcp.lead hlex (delim_head D.delim hcp.trail X hX) hg
    have hdrop : ((cp.2.1 ++ (lex ++ (cp.2.2 ++ X))).drop (cp.2.1.length + lex.length)).dropWhile
        (notDelimB prm.delim) = X := by
      rw [← List.append_assoc, List.drop_left' (by simp)]
      exact dropWhile_pad D.eq hcp.trail (fun h => (hcp.blankDelim h).2) hX
    have hpres : ((cp.2.1.length + lex.length) % 18446744073709551616 != 0) = true := by
      obtain ⟨y, r, hy, _⟩ := lex_head hlex
      simp only [List.length_append, hy, List.length_cons] at hlen ⊢
      simp only [bne_iff_ne, ne_eq]; omega
    rw [csvCellsS_cell gC prm fuel _ st x _ X hne hcell hdrop, hpres]
    rfl

theorem csvCellsS_line :
    ∀ (cps : List CellP) (vals : List (Option Nat)) (st : CsvLine) (fuel : Nat),
      (cps.map (·.1)).getLast? ≠ some none →
      (∀ cp ∈ cps, CellOk gC d cp) → (cps.map (·.1)).mapM (cellVal gC) = .ok vals →
      (lineOf d cps).length + 1 ≤ fuel → (lineOf d cps).length < 18446744073709551616 →
      (∀ cv ∈ enumF st.col (cps.map (·.1)), cv.2 = none → featP prm cv.1 = true) →
      (csvFold prm st vals).idx ≠ 0 →
      csvCellsS gC prm fuel (lineOf d cps) st = .ok (csvFold prm st vals) := by
  intro cps
  induction cps with
  | nil =>
    intro vals st fuel _ _ hvals hfuel _ _ _
    cases hvals
    obtain ⟨f, rfl⟩ : ∃ f, fuel = f + 1 := ⟨fuel - 1, by omega⟩
    rfl
  | cons cp rest ih =>
    intro vals st fuel hl hok hvals hfuel hlen hnone hidx
    obtain ⟨o, vals', ho, hvals', rfl⟩ := mapM_cons_ok_iff.mp hvals
    obtain ⟨f, rfl⟩ : ∃ f, fuel = f + 1 := ⟨fuel - 1, by omega⟩
    obtain ⟨hX, hdrop⟩ := lineOf_tail d rest
    have hne := lineOf_ne_nil _ hok (List.cons_ne_nil _ _) hl
    rw [lineOf] at hfuel hlen hne ⊢
    have hpos := List.length_pos_iff.mpr hne
    have hlr := congrArg List.length hdrop
    simp only [List.length_append, List.length_drop] at hfuel hlen hpos hlr
    rw [csvCellsS_step hC D cp _ hX (hok cp (by simp)) o ho st f (lineOf_clean D _ hok) hne (by omega)
      fun hc => hnone (st.col, none) (by simp [enumF, hc]) rfl]
    -- at the end of the line the CHECK "delimiter not found" looks at the index the fold ends with
    have hchk : ((rest.flatMap fun c => d :: cellBytes c).isEmpty && (csvStep prm st o).idx == 0) = false := by
      cases rest with
      | nil => cases hvals'; simpa [csvFold] using hidx
      | cons _ _ => rfl
    rw [hchk, hdrop]
    exact ih vals' _ f (fun e => hl (by simp [List.getLast?_cons, e])) (fun x hx => hok x (by simp [hx])) hvals'
      (by omega) (by omega)
      (fun cv hcv => hnone cv (by
        rw [csvStep_col] at hcv
        simp only [List.map_cons, enumF, List.mem_cons] at hcv ⊢; exact Or.inr hcv)) hidx

end

/-! ## part 3: one line -/

/-- a rendered line does not start with a UTF-8 BOM -/
theorem dropBOM_of_bytes (l : Bytes) (d : UInt8)
    (h : ∀ b ∈ l, isBlankB b = true ∨ isDigitCharB b = true ∨ b = d) : dropBOM l = l := by
  have key : ∀ x : UInt8, (isBlankB x = true ∨ isDigitCharB x = true ∨ x = d) → x.toNat = 239 ∨ x.toNat = 187 → x = d := by
    intro x hx hx2
    rcases hx with h1 | h1 | h1
    · simp [isBlankB, Gen.Parse.isblank] at h1; omega
    · simp [isDigitCharB, Gen.Parse.isdigitchars] at h1; omega
    · exact h1
  unfold dropBOM
  split
  · rename_i hcond
    rcases l with _ | ⟨a, _ | ⟨b, _ | ⟨c, l⟩⟩⟩ <;> simp [Gen.Parse.bomLen, Gen.Parse.bomBytes] at hcond
    have ha := key a (h a (by simp)) (Or.inl hcond.1)
    have hb := key b (h b (by simp)) (Or.inr hcond.2.1)
    have : a.toNat = b.toNat := by rw [ha, hb]
    omega
  · rfl

theorem enumF_rel {α β γ : Type} (f : α → γ) (g : β → γ) :
    ∀ (xs : List α) (ys : List β) (c : Nat), xs.map f = ys.map g →
      ∀ p ∈ enumF c xs, ∃ y, (p.1, y) ∈ enumF c ys ∧ g y = f p.2 := by
  intro xs
  induction xs with
  | nil => intro _ _ _ p hp; simp [enumF] at hp
  | cons x xs ih =>
    intro ys c h p hp
    cases ys with
    | nil => simp at h
    | cons y ys =>
      simp only [List.map_cons, List.cons.injEq] at h
      simp only [enumF, List.mem_cons] at hp ⊢
      rcases hp with rfl | hp
      · exact ⟨y, Or.inl rfl, h.1.symm⟩
      · obtain ⟨y', hy', e⟩ := ih ys (c + 1) h.2 p hp
        exact ⟨y', Or.inr hy', e⟩

theorem cellVal_isSome {gC : Bytes → Res (Nat × Nat)} {c : Option Bytes} {o : Option Nat}
    (h : cellVal gC c = .ok o) : o.isSome = c.isSome := by
  cases c with
  | none => cases h; rfl
  | some lex => obtain ⟨_, _, _, rfl⟩ := cellVal_some_ok h; rfl

theorem colsOk_of_fits {gC : Bytes → Res (Nat × Nat)} {prm : CsvParam} {cells : List (Option Bytes)}
    {vals : List (Option Nat)} (hv : cells.mapM (cellVal gC) = .ok vals) (hf : CsvRowFits prm cells) :
    ColsOk prm 0 vals ∧ featCells prm 0 vals ≠ [] ∧
      (∀ cv ∈ enumF 0 cells, cv.2 = none → featP prm cv.1 = true) := by
  obtain ⟨h1, h2, h3, cf, hcf, hcff⟩ := hf
  have hs : vals.map Option.isSome = cells.map Option.isSome :=
    mapM_map_eq _ _ _ (fun _ _ h => cellVal_isSome h) _ _ hv
  have r1 : ∀ cv ∈ enumF 0 vals, ∃ cb, (cv.1, cb) ∈ enumF 0 cells ∧ (cv.2 = none → cb = none) := fun cv hcv => by
    obtain ⟨cb, hcb, e⟩ := enumF_rel _ _ vals cells 0 hs cv hcv
    exact ⟨cb, hcb, fun hn => Option.not_isSome_iff_eq_none.mp (by simp [e, hn])⟩
  refine ⟨⟨by have := congrArg List.length hs; simp only [List.length_map] at this; omega, ?_, ?_⟩, ?_, ?_⟩
  · intro cv hcv hl hn
    obtain ⟨cb, hcb, himp⟩ := r1 cv hcv
    exact h2 (cv.1, cb) hcb hl (himp hn)
  · intro cv hcv hw
    obtain ⟨cb, hcb, himp⟩ := r1 cv hcv
    exact ⟨fun hn => (h3 (cv.1, cb) hcb hw).1 (himp hn), (h3 (cv.1, cb) hcb hw).2⟩
  · obtain ⟨v, hv', _⟩ := enumF_rel _ _ cells vals 0 hs.symm cf hcf
    intro e
    have : v ∈ featCells prm 0 vals := by
      simp only [featCells, List.mem_map, List.mem_filter]
      exact ⟨(cf.1, v), ⟨hv', hcff⟩, rfl⟩
    rw [e] at this; simp at this
  · intro cv hcv hn
    have hl : labP prm cv.1 = false := Bool.eq_false_iff.mpr fun hh => h2 cv hcv hh hn
    have hw : wgtP prm cv.1 = false := Bool.eq_false_iff.mpr fun hh => (h3 cv hcv hh).1 hn
    show (!labP prm cv.1 && !wgtP prm cv.1) = true
    simp [hl, hw]

theorem csv_line_rec {gC : Bytes → Res (Nat × Nat)} (hC : CellExact gC) {prm : CsvParam} {d : UInt8} (D : Delim prm d)
    (cps : List CellP) (vals : List (Option Nat)) (hne : cps ≠ []) (hl : (cps.map (·.1)).getLast? ≠ some none)
    (hok : ∀ cp ∈ cps, CellOk gC d cp)
    (hvals : (cps.map (·.1)).mapM (cellVal gC) = .ok vals) (hfit : CsvRowFits prm (cps.map (·.1)))
    (hlen : (lineOf d cps).length < 18446744073709551616) :
    csvRecS gC prm (lineOf d cps) = .ok (some (csvRec (csvFold prm {} vals))) := by
  obtain ⟨hcols, hfeat, hnone⟩ := colsOk_of_fits hvals hfit
  -- a feature column exists, so the "delimiter not found" CHECK at the end of the line passes
  have hidx : (csvFold prm {} vals).idx ≠ 0 := by
    rw [csvFold_eq prm vals hcols]; exact fun e => hfeat (List.eq_nil_of_length_eq_zero e)
  have hloop := csvCellsS_line hC D cps vals {} ((lineOf d cps).length + 1) hl hok hvals (Nat.le_refl _) hlen hnone hidx
  obtain ⟨c, l', hcl⟩ := List.exists_cons_of_ne_nil (lineOf_ne_nil cps hok hne hl)
  rw [csvRecS, dropWhile_eol_self _ (clean_noEol (lineOf_clean D cps hok)), csvLineS,
    dropBOM_of_bytes _ d (lineOf_bytes cps hok)]
  rw [hcl] at hloop ⊢
  simp only [hloop, Except.map, Option.map]

theorem mem_zip_zip {α β γ : Type} (xs : List α) (ys : List β) (zs : List γ) (a : α) (b : β) (c : γ)
    (h : (a, (b, c)) ∈ xs.zip (ys.zip zs)) : (a, c) ∈ xs.zip zs ∧ b ∈ ys := by
  induction xs generalizing ys zs with
  | nil => simp at h
  | cons x xs ih =>
    cases ys with
    | nil => simp at h
    | cons y ys =>
      cases zs with
      | nil => simp at h
      | cons z zs =>
        simp only [List.zip_cons_cons, List.mem_cons, Prod.mk.injEq] at h ⊢
        rcases h with ⟨rfl, rfl, rfl⟩ | h
        · exact ⟨Or.inl ⟨rfl, rfl⟩, Or.inl rfl⟩
        · have := ih ys zs h
          exact ⟨Or.inr this.1, Or.inr this.2⟩

end DmlcModel.Parse
