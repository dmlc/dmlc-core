/-
CSVParser::ParseBlock on lists (cell loop, line loop) and the proof that the pointer model computes them, for NUL-free texts
under the locality contract of `conv.cell`: CSVParser::ParseBlock as a `BlockFormat`.
-/
import DmlcModel.Parse.Spec
import DmlcModel.Parse.Concat

namespace DmlcModel.Parse
open DmlcModel

def notDelimB (delim : Nat) (b : UInt8) : Bool := Gen.Parse.csvNotDelim b.toNat delim

/-- the conversion of the cell at the start of `s`: value and number of bytes consumed.  The guard of the repaired
source (fixes/C12-3.diff): nothing but cell space up to the delimiter `delim` or the line end = a missing value -/
def csvCellS (gC : Bytes → Res (Nat × Nat)) (delim : Nat) (s : Bytes) : Res (Nat × Nat) :=
  match s.dropWhile (isCellSpaceNotDelimB delim) with
  | [] => .ok (0, 0)
  | b :: _ => if notDelimB delim b then gC (s.takeWhile nonStopB) else .ok (0, 0)

def csvCellsS (gC : Bytes → Res (Nat × Nat)) (prm : CsvParam) : Nat → Bytes → CsvLine → Res CsvLine
  | 0, _, _ => .error .oob
  | fuel + 1, s, st =>
    match s with
    | [] => .ok st
    | _ :: _ => do
      let vk ← csvCellS gC prm.delim s
      let st := csvUpdate prm st vk.1 (vk.2 % 18446744073709551616 != 0)
      let rest := (s.drop vk.2).dropWhile (notDelimB prm.delim)
      if rest.isEmpty && st.idx == 0 then .error .check else
      csvCellsS gC prm fuel (rest.drop 1) st

theorem sub64_add (p k : Nat) (hp : p < 2 ^ 64) : sub64 (p + k) p = k % 18446744073709551616 := by
  unfold sub64
  omega

/-- a line (no end-of-line byte, no NUL) that holds a byte which is not cell space: the run the conversion is
started on holds a byte that is not line space -/
theorem cellSpace_any (s : Bytes) (hs : ∀ b ∈ s, isEolB b = false) (hn : ∀ b ∈ s, b ≠ 0)
    (h : ∃ b ∈ s, isCellSpaceB b = false) :
    (s.takeWhile nonStopB).any (fun b => !isLineSpaceB b) = true := by
  rw [takeWhile_all _ _ fun b hb => by simp [nonStopB, isStopB, hs b hb, hn b hb]]
  obtain ⟨b, hb, hc⟩ := h
  have : isLineSpaceB b = false := by
    simp [isCellSpaceB, Gen.Parse.isspace, isLineSpaceB, ← UInt8.toNat_inj] at hc ⊢
    omega
  exact List.any_eq_true.mpr ⟨b, hb, by simp [this]⟩

section
variable {conv : Conv} {gR gI gQ : Bytes → Res Nat} {gC : Bytes → Res (Nat × Nat)}
  (hL : conv.LocalWith gR gI gQ gC) {mem : Bytes} {lend : Nat} (ht : Term mem lend)
include hL ht

theorem csvCellConv_at (delim : Nat) {p : Nat} {s : Bytes}
    (h : At mem p lend s) (hs : ∀ b ∈ s, isEolB b = false) (hn : ∀ b ∈ s, b ≠ 0) :
    csvCellConv Fixes.repaired conv delim mem lend p = (csvCellS gC delim s).map (fun vk => (vk.1, p + vk.2)) := by
  have hfx : Fixes.repaired.csvBlankGuard = true := rfl
  have hfx2 : Fixes.repaired.csvDelimGuard = true := rfl
  simp only [csvCellConv, csvCellS, hfx, hfx2, if_true, bind, Except.bind, pure, Except.pure]
  cases hd : s.dropWhile (isCellSpaceNotDelimB delim) with
  | nil => simp [scan_nil h hd, Except.map]
  | cons x xs =>
    obtain ⟨q, eq, hq, aq⟩ := scan_cons h hd
    have hx : isCellSpaceNotDelimB delim x = false := dropWhile_head_false _ _ _ _ hd
    simp only [eq, hq, if_false, byteAt_at aq]
    by_cases hnd : notDelimB delim x = true
    · have hnd' : Gen.Parse.csvNotDelim x.toNat delim = true := hnd
      have hxc : isCellSpaceB x = false := by simpa [isCellSpaceNotDelimB, hnd'] using hx
      have hxs : x ∈ s := (List.dropWhile_suffix _).subset (by rw [hd]; simp)
      have hrun := runAt_at h ht
      simp only [hnd, hnd', Bool.not_true, Bool.false_eq_true, if_false, if_true]
      rw [hL.cell mem p (by rw [hrun]; exact cellSpace_any _ hs hn ⟨x, hxs, hxc⟩), hrun]
    · have hnd' : Gen.Parse.csvNotDelim x.toNat delim = false := by simpa [notDelimB] using hnd
      simp [hnd, hnd', Except.map]

theorem csvCells_at (prm : CsvParam) (hr : lend < mem.length) (hb : lend < 2 ^ 64) :
    ∀ (fuel p : Nat) (s : Bytes) (st : CsvLine), At mem p lend s →
      (∀ b ∈ s, isEolB b = false) → (∀ b ∈ s, b ≠ 0) →
      csvCells Fixes.repaired conv prm mem lend fuel p st = csvCellsS gC prm fuel s st := by
  intro fuel
  induction fuel with
  | zero => intro p s st _ _ _; rfl
  | succ fuel ih =>
    intro p s st h hs hn
    cases s with
    | nil => simp [csvCells, csvCellsS, h.eq_stop_iff.mpr rfl]
    | cons b s =>
      have hp : p < 2 ^ 64 := by have := h.2; omega
      simp only [csvCells, csvCellsS, h.ne_stop, if_false, bind, Except.bind, csvCellConv_at hL ht prm.delim h hs hn]
      cases csvCellS gC prm.delim (b :: s) with
      | error e => simp [Except.map]
      | ok vk =>
        obtain ⟨v, k⟩ := vk
        simp only [Except.map]
        have hpres : Gen.Parse.csvCellPresent p (p + k) = (k % 18446744073709551616 != 0) := by
          simp [Gen.Parse.csvCellPresent, sub64_add p k hp]
        -- `endptr` clamped to the line end
        obtain ⟨q2, hq2, a2⟩ : ∃ q2, Gen.Parse.csvClamp (p + k) lend = q2 ∧ At mem q2 lend ((b :: s).drop k) := by
          have hl := h.2
          by_cases hk : k < (b :: s).length
          · exact ⟨p + k, by simp [Gen.Parse.csvClamp]; omega, h.drop k (by omega)⟩
          · refine ⟨lend, by simp [Gen.Parse.csvClamp]; omega, ?_⟩
            rw [List.drop_eq_nil_of_le (by omega)]; exact At.nil mem lend
        obtain ⟨q3, e3, a3⟩ := scanRd_at (pred := notDelimB prm.delim) a2 hr
        have e3' : scanRd (fun b => Gen.Parse.csvNotDelim b.toNat prm.delim) mem lend q2 = .ok q3 := e3
        simp only [hq2, e3', hpres]
        cases hrest : ((b :: s).drop k).dropWhile (notDelimB prm.delim) with
        | nil =>
          rw [hrest] at a3
          simp only [a3.eq_stop_iff.mpr rfl, Gen.Parse.csvNoDelimiter, beq_self_eq_true, Bool.true_and,
            List.isEmpty_nil, bne_self_eq_false, Bool.false_eq_true, if_false, List.drop_nil]
          split
          · rfl
          · exact ih lend [] _ (At.nil mem lend) (by simp) (by simp)
        | cons x xs =>
          rw [hrest] at a3
          have hsub : ∀ y ∈ xs, y ∈ b :: s := fun y hy =>
            (hrest ▸ (List.dropWhile_suffix _).trans (List.drop_suffix _ _) : (x :: xs) <:+ (b :: s)).subset
              (List.mem_cons_of_mem x hy)
          have hq3 : (q3 == lend) = false := by simpa using a3.ne_stop
          simp only [Gen.Parse.csvNoDelimiter, hq3, a3.ne_stop, Bool.false_and, Bool.false_eq_true, if_false,
            List.isEmpty_cons, bne_iff_ne, ne_eq, not_false_eq_true, if_true, List.drop_one, List.tail_cons]
          exact ih (q3 + 1) xs _ a3.tail (fun y hy => hs y (hsub y hy)) (fun y hy => hn y (hsub y hy))

end

def csvRec (l : CsvLine) : LineRec :=
  { label := l.label, weight := if isNaNBits l.weight then none else some l.weight, qid := none, fields := [],
    idx := l.feats.reverse.map (·.1), vals := l.feats.reverse.map (·.2) }

theorem csvPush_eq (c : Container) (l : CsvLine) : csvPush c l = addRow c (csvRec l) := by
  cases hl : l.label <;> by_cases hw : isNaNBits l.weight = true <;> simp [csvPush, addRow, csvRec, hl, hw]

theorem foldl_csvPush (ls : List CsvLine) : ls.foldl csvPush {} = build (ls.map csvRec) := by
  have : csvPush = fun c l => addRow c (csvRec l) := funext fun c => funext (csvPush_eq c)
  rw [this, build, List.foldl_map]

/-- `IgnoreUTF8BOM` -/
def dropBOM (l : Bytes) : Bytes :=
  if Gen.Parse.bomLen ≤ l.length && (l.take Gen.Parse.bomLen).map UInt8.toNat == Gen.Parse.bomBytes then
    l.drop Gen.Parse.bomLen else l

theorem ignoreBOM_at {mem : Bytes} {p stop : Nat} {S : Bytes} (h : At mem p stop S) :
    At mem (ignoreBOM mem p stop) stop (dropBOM S) := by
  unfold ignoreBOM dropBOM
  have hl := h.2
  have hcond : (p + Gen.Parse.bomLen ≤ stop) = (Gen.Parse.bomLen ≤ S.length) := by
    apply propext; constructor <;> intro hh <;> omega
  by_cases hlen : Gen.Parse.bomLen ≤ S.length
  · have htake : (mem.drop p).take Gen.Parse.bomLen = S.take Gen.Parse.bomLen := by
      rw [h.1, List.take_append_of_le_length hlen]
    simp only [hcond, hlen, decide_true, Bool.true_and, htake]
    split
    · exact h.drop _ hlen
    · exact h
  · simp only [hcond, hlen, decide_false, Bool.false_and, Bool.false_eq_true, if_false]; exact h

/-- one csv line (repaired source): BOM skip, then the cell loop; a line that is nothing but a BOM is an empty line -/
def csvLineS (gC : Bytes → Res (Nat × Nat)) (prm : CsvParam) (l : Bytes) : Res (Option CsvLine) :=
  match dropBOM l with
  | [] => .ok none
  | c :: l' => (csvCellsS gC prm ((c :: l').length + 1) (c :: l') {}).map some

theorem bom_not_eol : ∀ x ∈ Gen.Parse.bomBytes, x ≠ 10 ∧ x ≠ 13 := by decide

/-- the BOM test looks at the line only: the byte behind the line is an end-of-line byte or nothing -/
theorem dropBOM_append (l R : Bytes) (hR : ∀ b, R.head? = some b → isEolB b = true) :
    dropBOM (l ++ R) = dropBOM l ++ R := by
  have h3 : Gen.Parse.bomLen = Gen.Parse.bomBytes.length := rfl
  have hbeq := take_append_beq Gen.Parse.bomBytes l R fun b hb hm => by
    rcases (isEolB_iff b).mp (hR b hb) with rfl | rfl
    · exact (bom_not_eol _ hm).1 rfl
    · exact (bom_not_eol _ hm).2 rfl
  unfold dropBOM
  rw [h3, hbeq]
  by_cases hm : ((l.take Gen.Parse.bomBytes.length).map UInt8.toNat == Gen.Parse.bomBytes) = true
  · have hlen : Gen.Parse.bomBytes.length ≤ l.length := by
      have := congrArg List.length (beq_iff_eq.mp hm)
      rw [List.length_map, List.length_take] at this
      omega
    have hlen' : Gen.Parse.bomBytes.length ≤ (l ++ R).length := by rw [List.length_append]; omega
    simp only [hm, hlen, hlen', decide_true, Bool.and_self, if_true, List.drop_append_of_le_length hlen]
  · simp only [hm, Bool.and_false, Bool.false_eq_true, if_false]

theorem dropBOM_suffix (l : Bytes) : dropBOM l <:+ l := by
  unfold dropBOM; split
  · exact List.drop_suffix _ _
  · exact List.suffix_refl _

/-- the test `lbegin == end || *lbegin == '\n' || *lbegin == '\r'` of the repaired line loop -/
theorem leadTest_at {mem : Bytes} {p stop : Nat} {R : Bytes} (a : At mem p stop R) :
    (if p = stop then pure true else do
      let b ← byteAt mem p
      pure (Gen.Parse.csvLeadIsEol b.toNat) : Res Bool) = .ok (R.head?.all isEolB) := by
  cases R with
  | nil => simp [a.eq_stop_iff.mpr rfl, pure, Except.pure]
  | cons x xs => simp [a.ne_stop, byteAt_at a, csvLeadIsEol_eq, bind, Except.bind, pure, Except.pure]

theorem csvLineS_nil (gC : Bytes → Res (Nat × Nat)) (prm : CsvParam) : csvLineS gC prm [] = .ok none := by
  simp [csvLineS, dropBOM]

theorem csvLoop_spec {conv : Conv} {gR gI gQ : Bytes → Res Nat} {gC : Bytes → Res (Nat × Nat)}
    (hL : conv.LocalWith gR gI gQ gC) (prm : CsvParam) {mem : Bytes} {stop : Nat}
    (hr : stop < mem.length) (hb : stop < 2 ^ 64) :
    ∀ (fuel lbegin : Nat) (S : Bytes) (c : Container), At mem lbegin stop S → S.length < fuel →
      (∀ b ∈ S, b ≠ 0) → (∀ b, S.head? = some b → isEolB b = false) → TermOr mem stop S →
      csvLoop Fixes.repaired conv prm mem stop fuel lbegin c =
        (recsOf (fun L => csvLineS gC prm (L.dropWhile isEolB)) S).map fun ls => ls.foldl csvPush c := by
  have hdrop := recsOf_dropEol (g := fun L => csvLineS gC prm (L.dropWhile isEolB))
    (fun L => by rw [dropWhile_stripEol isEolB fun _ h => h]) (csvLineS_nil gC prm)
  intro fuel
  induction fuel with
  | zero => intro _ _ _ _ hf; omega
  | succ fuel ih =>
    intro lbegin S c h hf hn hh ht
    have hfx : Fixes.repaired.csvBomGuard = true := rfl
    cases S with
    | nil => simp [csvLoop, h.eq_stop_iff.mpr rfl, recsOf, codeLines, pure, Except.pure, Except.map]
    | cons b S' =>
      have hbne : isEolB b = false := hh b rfl
      have hR := dropWhile_notEol_head S'
      have hlEol : ∀ x ∈ b :: S'.takeWhile notEolB, isEolB x = false := by
        intro x hx
        rcases List.mem_cons.mp hx with rfl | hx
        · exact hbne
        · exact takeWhile_notEol S' x hx
      have hS : b :: S' = (b :: S'.takeWhile notEolB) ++ S'.dropWhile notEolB := by simp
      have hsufR : (S'.dropWhile notEolB).dropWhile isEolB <:+ S' :=
        (List.dropWhile_suffix _).trans (List.dropWhile_suffix _)
      -- what follows the line, whatever container it is entered with
      have hrec : ∀ q c', At mem q stop ((S'.dropWhile notEolB).dropWhile isEolB) →
          csvLoop Fixes.repaired conv prm mem stop fuel q c' =
            (recsOf (fun L => csvLineS gC prm (L.dropWhile isEolB)) (S'.dropWhile notEolB)).map
              fun ls => ls.foldl csvPush c' := fun q c' aq => by
        have hsuf := hsufR.trans (List.suffix_cons b S')
        rw [ih q _ c' aq (by have := hsufR.length_le; simp at hf; omega) (fun x hx => hn x (hsuf.subset hx))
          (dropWhile_head_not isEolB _) (ht.suffix hsuf), hdrop]
      have a0 := ignoreBOM_at h
      rw [hS, dropBOM_append _ _ hR] at a0
      have hsuf := dropBOM_suffix (b :: S'.takeWhile notEolB)
      simp only [recsOf] at hrec ⊢
      rw [csvLoop, codeLines_cons, List.mapM_cons, List.dropWhile_cons_of_neg (Bool.not_eq_true _ ▸ hbne), csvLineS]
      simp only [h.ne_stop, if_false, hfx, if_true, leadTest_at a0]
      cases hdb : dropBOM (b :: S'.takeWhile notEolB) with
      | nil =>
        rw [hdb] at a0
        obtain ⟨q, eq, aq⟩ := scan_at (pred := isEolB) a0
        have hhd : (S'.dropWhile notEolB).head?.all isEolB = true := by
          cases hRd : S'.dropWhile notEolB with
          | nil => rfl
          | cons x xs => exact hR x (by rw [hRd]; rfl)
        simp only [List.nil_append, hhd, bind, Except.bind, if_true, leadIsEol_fun, eq, hrec q c aq]
        cases (codeLines (S'.dropWhile notEolB)).mapM fun L => csvLineS gC prm (L.dropWhile isEolB) <;> rfl
      | cons c0 l'' =>
        rw [hdb] at a0 hsuf
        have hc0 : ∀ x ∈ c0 :: l'', isEolB x = false := fun x hx => hlEol x (hsuf.subset hx)
        have a0' : At mem (ignoreBOM mem lbegin stop) stop (c0 :: (l'' ++ S'.dropWhile notEolB)) := a0
        obtain ⟨lend, e1, aL, a1⟩ := line_at a0' (fun x hx => hc0 x (List.mem_cons_of_mem _ hx)) hR
        have hsufS : c0 :: (l'' ++ S'.dropWhile notEolB) <:+ b :: S' := by
          obtain ⟨t, ht'⟩ := hsuf
          exact ⟨t, by rw [hS, ← ht', List.append_assoc]; rfl⟩
        have htl : Term mem lend :=
          (term_line a1 hR (fun x hx => hc0 x (List.mem_cons_of_mem _ hx)) (ht.suffix hsufS)).resolve_right
            fun ⟨h0, _⟩ => by rw [hc0 c0 (by simp)] at h0; cases h0
        have hlend : lend ≤ stop := by have := a1.2; omega
        obtain ⟨q, eq, aq⟩ := scanRd_at (pred := isEolB) a1 hr
        -- the line `[.., lend)` is `c0 l''`, free of end-of-line and NUL bytes: the cell loop on it is its list-level twin
        have hcells : ∀ fuel st, csvCells Fixes.repaired conv prm mem lend fuel (ignoreBOM mem lbegin stop) st
            = csvCellsS gC prm fuel (c0 :: l'') st := fun fuel st =>
          csvCells_at hL htl prm (by omega) (by omega) fuel _ _ st aL hc0
            (fun x hx => hn x (hS ▸ List.mem_append_left _ (hsuf.subset hx)))
        simp only [List.cons_append, List.head?_cons, Option.all_some, hc0 c0 (by simp), Bool.false_eq_true, if_false,
          bind, Except.bind, csvNotEol_fun, trailIsEol_fun, e1, aL.fuel, hcells]
        cases csvCellsS gC prm ((c0 :: l'').length + 1) (c0 :: l'') {} with
        | error e => rfl
        | ok cl =>
          simp only [eq, Except.map, hrec q _ aq]
          cases (codeLines (S'.dropWhile notEolB)).mapM fun L => csvLineS gC prm (L.dropWhile isEolB) <;> rfl

theorem flatMap_toList_length_le (g : LineRec → Option Nat) (recs : List LineRec) :
    (recs.flatMap (fun r => (g r).toList)).length ≤ recs.length := by
  induction recs with
  | nil => simp
  | cons r rs ih =>
    cases h : g r
    · simp only [List.flatMap_cons, h, Option.toList_none, List.nil_append, List.length_cons]; omega
    · simp only [List.flatMap_cons, h, Option.toList_some, List.singleton_append, List.length_cons]; omega

/-- the two CHECKs that close `CSVParser::ParseBlock` are repeated by `GetBlock` (C13-1): a block that fails
them is rejected either way -/
theorem csv_checks_absorb (recs : List LineRec) (hb : recs.length + 2 < 2 ^ 64) :
    ((if !Gen.Parse.csvLabelCheck (build recs).label.length (build recs).offset.length then (.error .check : Res Container)
      else if !Gen.Parse.csvWeightCheck (build recs).weight.length (build recs).offset.length then .error .check
      else pure (build recs)).bind rowsOf) = rowsOf (build recs) := by
  have hlab : (build recs).label.length ≤ recs.length := by rw [build_eq]; exact flatMap_toList_length_le _ recs
  have hoff : (build recs).offset.length = recs.length + 1 := by rw [build_eq]; simp [sums_length]
  have hmod : u64 ((build recs).label.length + 1) = (build recs).label.length + 1 := u64_of_lt (by omega)
  have hreject : getBlockOk (build recs) = false → rowsOf (build recs) = .error .check := fun hg => by simp [rowsOf, hg]
  by_cases h1 : Gen.Parse.csvLabelCheck (build recs).label.length (build recs).offset.length = true
  · by_cases h2 : Gen.Parse.csvWeightCheck (build recs).weight.length (build recs).offset.length = true
    · simp [h1, h2, pure, Except.pure, Except.bind]
    · -- `csvWeightCheck` and `gbWeightCheck` are the same expression
      have hg : getBlockOk (build recs) = false := Bool.eq_false_iff.mpr fun hg =>
        h2 (hoff ▸ ((getBlockOk_build_iff recs).mp hg).2.2.1)
      simp [h1, h2, Except.bind, hreject hg]
  · have hg : getBlockOk (build recs) = false := Bool.eq_false_iff.mpr fun hg => h1 (by
      have := ((getBlockOk_build_iff recs).mp hg).1
      simp only [Gen.Parse.csvLabelCheck, hmod, hoff, Bool.or_eq_true, beq_iff_eq]
      omega)
    simp [h1, Except.bind, hreject hg]

def csvRowsAt (fx : Fixes) (conv : Conv) (prm : CsvParam) (mem : Bytes) (a b : Nat) : Res (List Row) :=
  (csvBlock fx conv prm mem a b).bind rowsOf

def csvRows (fx : Fixes) (conv : Conv) (prm : CsvParam) (t : Bytes) : Res (List Row) :=
  csvRowsAt fx conv prm (t ++ [0]) 0 t.length

def nonNulB (b : UInt8) : Bool := b != 0

def csvRecS (gC : Bytes → Res (Nat × Nat)) (prm : CsvParam) (L : Bytes) : Res (Option LineRec) :=
  (csvLineS gC prm (L.dropWhile isEolB)).map (Option.map csvRec)

section
variable {conv : Conv} {gR gI gQ : Bytes → Res Nat} {gC : Bytes → Res (Nat × Nat)}
  (hL : conv.LocalWith gR gI gQ gC)
include hL

theorem csv_block_eq_at (prm : CsvParam) {mem : Bytes} {a b : Nat} {t : Bytes}
    (hAt : At mem a b t) (hT : TermOr mem b t) (hr : b < mem.length) (hb : b < 2 ^ 64) (hlen : t.length + 2 < 2 ^ 64)
    (hn : ∀ x ∈ t, x ≠ 0) :
    csvRowsAt Fixes.repaired conv prm mem a b = (recsOf (csvRecS gC prm) t).bind fun recs => rowsOf (build recs) := by
  obtain ⟨q, eq, aq⟩ := scan_at (pred := isEolB) hAt
  have hloop := csvLoop_spec hL prm hr hb (mem.length + 2 - q) q _ {} aq (by have := aq.2; omega)
    (fun x hx => hn x ((List.dropWhile_suffix _).subset hx)) (dropWhile_head_not isEolB t) (hT.suffix (List.dropWhile_suffix _))
  unfold csvRowsAt csvBlock
  simp only [leadIsEol_fun, eq, bind, Except.bind, hloop,
    recsOf_dropEol (g := fun L => csvLineS gC prm (L.dropWhile isEolB))
      (fun L => by rw [dropWhile_stripEol isEolB fun _ h => h]) (csvLineS_nil gC prm)]
  delta csvRecS
  rw [recsOf_map]
  cases hm : recsOf (fun L => csvLineS gC prm (L.dropWhile isEolB)) t with
  | error e => rfl
  | ok ls =>
    have hl1 := recsOf_length hm
    simp only [Except.map, foldl_csvPush]
    exact csv_checks_absorb (ls.map csvRec) (by simp; omega)

theorem csv_blockFormat (prm : CsvParam) :
    BlockFormat nonNulB (csvBlock Fixes.repaired conv prm) (csvRecS gC prm) where
  at_eq := fun hAt hT hr hb hg hlen =>
    csv_block_eq_at hL prm hAt hT hr hb hlen fun x hx => by simpa [nonNulB] using hg x hx
  strip := fun L => by simp [csvRecS, dropWhile_stripEol isEolB fun _ h => h]
  nil := by simp [csvRecS, csvLineS_nil, Except.map]
  fields := Or.inl fun L r h => by obtain ⟨l, rfl⟩ := map_some_elim h; rfl

end

end DmlcModel.Parse
