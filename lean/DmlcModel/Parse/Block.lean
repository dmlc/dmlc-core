/-
The line loop of a block as a map over the "code lines" of the block (each line but the first
starts with the end-of-line byte that ended its predecessor), and the relation of the code lines
to the lines of the text (`eolSplit`).
-/
import DmlcModel.Parse.Lemmas
import DmlcModel.ExceptLemmas

namespace DmlcModel.Parse
open DmlcModel

/-- `cur` = the bytes of the current line so far, reversed -/
def codeLinesGo : Bytes → Bytes → List Bytes
  | [], cur => [cur.reverse]
  | b :: s, cur => if isEolB b then cur.reverse :: codeLinesGo s [b] else codeLinesGo s (b :: cur)

/-- the lines as the line loop sees them: the search for the line end starts at `lbegin + 1` -/
def codeLines : Bytes → List Bytes
  | [] => []
  | b :: s => codeLinesGo s [b]

theorem codeLinesGo_split (s cur : Bytes) :
    codeLinesGo s cur = (cur.reverse ++ s.takeWhile notEolB) :: codeLines (s.dropWhile notEolB) := by
  induction s generalizing cur with
  | nil => simp [codeLinesGo, codeLines]
  | cons b s ih =>
    by_cases hb : isEolB b = true
    · simp [codeLinesGo, hb, List.takeWhile, List.dropWhile, notEolB, codeLines]
    · simp only [codeLinesGo, hb, if_false, Bool.false_eq_true]
      rw [ih]
      simp [List.takeWhile, List.dropWhile, notEolB, hb]

theorem codeLines_cons (b : UInt8) (s : Bytes) :
    codeLines (b :: s) = (b :: s.takeWhile notEolB) :: codeLines (s.dropWhile notEolB) := by
  rw [codeLines, codeLinesGo_split]; simp

theorem takeWhile_append_dropWhile' (pred : UInt8 → Bool) (s : Bytes) : s.takeWhile pred ++ s.dropWhile pred = s :=
  List.takeWhile_append_dropWhile

theorem takeWhile_notEol (S : Bytes) : ∀ x ∈ S.takeWhile notEolB, isEolB x = false := fun x hx => by
  simpa [notEolB] using takeWhile_forall notEolB S x hx

theorem dropWhile_notEol_head (S : Bytes) : ∀ x, (S.dropWhile notEolB).head? = some x → isEolB x = true := fun x hx => by
  simpa [notEolB] using dropWhile_head_not notEolB S x hx

theorem term_of_rest' {mem : Bytes} {lend stop : Nat} {x : UInt8} {r : Bytes} (hr : At mem lend stop (x :: r))
    (hx : isEolB x = true) : Term mem lend := by
  intro b hb
  rw [← List.head?_drop, hr.1] at hb
  cases hb
  simp [isStopB, hx]

theorem term_of_rest {mem : Bytes} {lend stop : Nat} {r : Bytes} (hr : At mem lend stop r)
    (hrh : ∀ b, r.head? = some b → isEolB b = true) (ht : Term mem stop) : Term mem lend := by
  cases r with
  | nil => rw [hr.eq_stop_iff.mpr rfl]; exact ht
  | cons x r => exact term_of_rest' hr (hrh x rfl)

theorem term_whole (t : Bytes) : Term (t ++ [0]) t.length := by
  intro b hb
  simp at hb
  subst hb
  rfl

def EndsEolL (S : Bytes) : Prop := ∃ e, S.getLast? = some e ∧ isEolB e = true

/-- the end of the block `S = [.., stop)` is harmless: the byte behind it is a NUL / end-of-line byte (or lies
outside `mem`), or the block is empty, or its last byte is an end-of-line byte (then the last line of the line
loop is that byte alone and nothing behind the block is looked at) -/
def TermOr (mem : Bytes) (stop : Nat) (S : Bytes) : Prop := Term mem stop ∨ S = [] ∨ EndsEolL S

theorem TermOr.suffix {mem : Bytes} {stop : Nat} {S R : Bytes} (h : TermOr mem stop S) (hs : R <:+ S) :
    TermOr mem stop R := by
  rcases h with h | h | ⟨e, he, hee⟩
  · exact Or.inl h
  · subst h; exact Or.inr (Or.inl (List.eq_nil_of_suffix_nil hs))
  · by_cases hr : R = []
    · exact Or.inr (Or.inl hr)
    · obtain ⟨t, rfl⟩ := hs
      obtain ⟨x, hx⟩ := Option.ne_none_iff_exists'.mp (mt List.getLast?_eq_none_iff.mp hr)
      exact Or.inr (Or.inr ⟨e, by simpa [hx] using he, hee⟩)

/-- the byte behind the first line `b l` of what remains of the block (the rest `R` starts with an end-of-line byte
or is empty) is a NUL / end-of-line byte — unless the line is a lone end-of-line byte that ends the block -/
theorem term_line {mem : Bytes} {lend stop : Nat} {b : UInt8} {l R : Bytes} (a : At mem lend stop R)
    (hR : ∀ x, R.head? = some x → isEolB x = true) (hl : ∀ x ∈ l, isEolB x = false)
    (ht : TermOr mem stop (b :: (l ++ R))) : Term mem lend ∨ (isEolB b = true ∧ l = [] ∧ R = []) := by
  cases R with
  | cons y r => exact Or.inl (term_of_rest' a (hR y rfl))
  | nil =>
    rcases ht with ht | ht | ⟨e, he, hee⟩
    · exact Or.inl (a.eq_stop_iff.mpr rfl ▸ ht)
    · simp at ht
    · cases l with
      | nil => simp at he; exact Or.inr ⟨he ▸ hee, rfl, rfl⟩
      | cons y ys =>
        rw [List.append_nil, List.getLast?_cons_cons] at he
        rw [hl e (List.mem_of_getLast? he)] at hee
        cases hee

theorem line_at {mem : Bytes} {lbegin stop : Nat} {b : UInt8} {l R : Bytes} (h : At mem lbegin stop (b :: (l ++ R)))
    (hl : ∀ x ∈ l, isEolB x = false) (hR : ∀ x, R.head? = some x → isEolB x = true) :
    ∃ lend, scan notEolB mem stop (lbegin + 1) = .ok lend ∧ At mem lbegin lend (b :: l) ∧ At mem lend stop R := by
  obtain ⟨lend, e, a⟩ := scan_at (pred := notEolB) h.tail
  rw [dropWhile_append_all notEolB l R (fun x hx => by simp [notEolB, hl x hx])
    (fun x hx => by simp [notEolB, hR x hx])] at a
  exact ⟨lend, e, h.unappend a, a⟩

def recsOf {β : Type} (g : Bytes → Res (Option β)) (t : Bytes) : Res (List β) :=
  ((codeLines t).mapM g).map (List.filterMap id)

theorem recsOf_nil {β : Type} (g : Bytes → Res (Option β)) : recsOf g [] = .ok [] := rfl

theorem recsOf_ok_iff {β : Type} {g : Bytes → Res (Option β)} {t : Bytes} {recs : List β} :
    recsOf g t = .ok recs ↔ ∃ outs, (codeLines t).mapM g = .ok outs ∧ recs = outs.filterMap id := by
  unfold recsOf; cases (codeLines t).mapM g <;> simp [Except.map, eq_comm]


theorem lineLoop_spec {α : Type} {line : Nat → Nat → Res (Option α)} {lineS : Bytes → Res (Option α)}
    {push : Container → α → Container} {mem : Bytes} {stop : Nat}
    (hline : ∀ p q L R, At mem p q L → At mem q stop R → (∀ b, R.head? = some b → isEolB b = true) →
      (Term mem q ∨ ∃ e, L = [e] ∧ isEolB e = true) → line p q = lineS L) :
    ∀ (fuel lbegin : Nat) (S : Bytes) (c : Container), At mem lbegin stop S → S.length < fuel → TermOr mem stop S →
      lineLoop notEolB line push mem stop fuel lbegin c = (recsOf lineS S).map fun ls => ls.foldl push c := by
  unfold recsOf
  intro fuel
  induction fuel with
  | zero => intro _ _ _ _ hf; omega
  | succ fuel ih =>
    intro lbegin S c h hf ht
    cases S with
    | nil => simp [lineLoop, h.eq_stop_iff.mpr rfl, codeLines, pure, Except.pure, Except.map]
    | cons b S =>
      have hS : b :: S = b :: (S.takeWhile notEolB ++ S.dropWhile notEolB) := by simp
      have hR := dropWhile_notEol_head S
      obtain ⟨lend, e, aL, a⟩ := line_at (hS ▸ h) (takeWhile_notEol S) hR
      have htl : Term mem lend ∨ ∃ e, b :: S.takeWhile notEolB = [e] ∧ isEolB e = true :=
        (term_line a hR (takeWhile_notEol S) (hS ▸ ht)).imp_right fun ⟨hb, hl, _⟩ => ⟨b, by rw [hl], hb⟩
      have hsuf : S.dropWhile notEolB <:+ b :: S := (List.dropWhile_suffix _).trans (List.suffix_cons b S)
      simp only [lineLoop, h.ne_stop, if_false, e, bind, Except.bind, hline _ _ _ _ aL a hR htl, codeLines_cons,
        List.mapM_cons]
      cases lineS (b :: S.takeWhile notEolB) with
      | error err => rfl
      | ok o =>
        simp only [ih lend _ _ a (by have := (List.dropWhile_suffix (l := S) notEolB).length_le; simp at hf; omega)
          (ht.suffix hsuf)]
        cases (codeLines (S.dropWhile notEolB)).mapM lineS <;> cases o <;> rfl

def stripEol : Bytes → Bytes
  | [] => []
  | b :: s => if isEolB b then s else b :: s

/-- a scan that passes over end-of-line bytes does not miss the one `stripEol` drops -/
theorem dropWhile_stripEol (p : UInt8 → Bool) (hp : ∀ b, isEolB b = true → p b = true) (L : Bytes) :
    (stripEol L).dropWhile p = L.dropWhile p := by
  cases L with
  | nil => rfl
  | cons b s =>
    by_cases hb : isEolB b = true
    · simp [stripEol, hb, List.dropWhile, hp b hb]
    · simp [stripEol, hb]

theorem stripEol_snoc (x : Bytes) (b : UInt8) (hb : isEolB b = false) :
    stripEol (x ++ [b]) = stripEol x ++ [b] := by
  cases x with
  | nil => simp [stripEol, hb]
  | cons y x => by_cases hy : isEolB y = true <;> simp [stripEol, hy]

theorem codeLinesGo_strip (s cur cur' : Bytes) (h : stripEol cur.reverse = cur'.reverse) :
    (codeLinesGo s cur).map stripEol = eolSplitGo s cur' := by
  induction s generalizing cur cur' with
  | nil => simp [codeLinesGo, eolSplitGo, h]
  | cons b s ih =>
    by_cases hb : isEolB b = true
    · simp only [codeLinesGo, eolSplitGo, hb, if_true, List.map_cons, h]
      rw [ih [b] [] (by simp [stripEol, hb])]
    · simp only [codeLinesGo, eolSplitGo, hb, if_false, Bool.false_eq_true]
      apply ih
      simp only [List.reverse_cons]
      rw [stripEol_snoc _ _ (by simpa using hb), h]

/-- the code lines of a text, each stripped of its leading end-of-line byte, are the lines of the text
(up to one leading empty line when the text is empty or starts with an end-of-line byte) -/
theorem codeLines_strip (t : Bytes) :
    ∃ pre, (pre = [] ∨ pre = [[]]) ∧ eolSplit t = pre ++ (codeLines t).map stripEol := by
  cases t with
  | nil => exact ⟨[[]], Or.inr rfl, rfl⟩
  | cons b s =>
    by_cases hb : isEolB b = true
    · refine ⟨[[]], Or.inr rfl, ?_⟩
      simp only [eolSplit, eolSplitGo, hb, if_true, codeLines, List.reverse_nil]
      rw [codeLinesGo_strip s [b] [] (by simp [stripEol, hb])]; rfl
    · refine ⟨[], Or.inl rfl, ?_⟩
      simp only [eolSplit, eolSplitGo, hb, if_false, codeLines, Bool.false_eq_true]
      rw [codeLinesGo_strip s [b] [b] (by simp [stripEol, hb])]; rfl

theorem recsOf_map {β γ : Type} (g : Bytes → Res (Option β)) (f : β → γ) (t : Bytes) :
    recsOf (fun L => (g L).map (Option.map f)) t = (recsOf g t).map (List.map f) := by
  unfold recsOf
  rw [mapM_map_res]
  cases (codeLines t).mapM g <;> simp only [Except.map, filterMap_map_option]

theorem codeLinesGo_append_eol (x y cur : Bytes) (e : UInt8) (he : isEolB e = true) :
    codeLinesGo (x ++ e :: y) cur = codeLinesGo x cur ++ codeLines (e :: y) := by
  induction x generalizing cur with
  | nil => simp [codeLinesGo, codeLines, he]
  | cons b x ih => by_cases hb : isEolB b = true <;> simp [codeLinesGo, hb, ih]

theorem codeLines_append_eol (x y : Bytes) (e : UInt8) (he : isEolB e = true) :
    codeLines (x ++ e :: y) = codeLines x ++ codeLines (e :: y) := by
  cases x with
  | nil => rfl
  | cons b x => exact codeLinesGo_append_eol x y [b] e he

theorem recsOf_append_eol {β : Type} {g : Bytes → Res (Option β)} {x y : Bytes} {e : UInt8} (he : isEolB e = true)
    {r : List β} :
    recsOf g (x ++ e :: y) = .ok r ↔ ∃ u v, recsOf g x = .ok u ∧ recsOf g (e :: y) = .ok v ∧ r = u ++ v := by
  unfold recsOf
  rw [codeLines_append_eol x y e he, List.mapM_append]
  cases (codeLines x).mapM g <;> cases (codeLines (e :: y)).mapM g <;>
    simp [bind, Except.bind, Except.map, pure, Except.pure, eq_comm]

/-- a line function that does not see one leading end-of-line byte does not see one in front of the text either:
the extra code line, if any, is that byte alone and gives no record -/
theorem recsOf_eol_cons {β : Type} {g : Bytes → Res (Option β)} (hs : ∀ L, g (stripEol L) = g L) (h0 : g [] = .ok none)
    {e : UInt8} (he : isEolB e = true) (y : Bytes) : recsOf g (e :: y) = recsOf g y := by
  have h1 : g [e] = .ok none := by rw [← hs [e]]; simpa [stripEol, he] using h0
  unfold recsOf
  rw [codeLines_cons]
  cases y with
  | nil => simp [codeLines, h1, pure, Except.pure, bind, Except.bind, Except.map]
  | cons b y =>
    by_cases hb : isEolB b = true
    · have hb' : ¬ notEolB b = true := by simp [notEolB, hb]
      rw [List.takeWhile_cons_of_neg hb', List.dropWhile_cons_of_neg hb', List.mapM_cons, h1]
      cases (codeLines (b :: y)).mapM g <;> rfl
    · have hb' : notEolB b = true := by simp [notEolB, hb]
      rw [codeLines_cons, List.takeWhile_cons_of_pos hb', List.dropWhile_cons_of_pos hb', List.mapM_cons,
        List.mapM_cons, ← hs (e :: _)]
      simp [stripEol, he]

theorem recsOf_dropEol {β : Type} {g : Bytes → Res (Option β)} (hs : ∀ L, g (stripEol L) = g L) (h0 : g [] = .ok none)
    (R : Bytes) : recsOf g (R.dropWhile isEolB) = recsOf g R := by
  induction R with
  | nil => rfl
  | cons e R ih =>
    by_cases he : isEolB e = true
    · rw [List.dropWhile_cons_of_pos he, ih, recsOf_eol_cons hs h0 he]
    · rw [List.dropWhile_cons_of_neg he]

end DmlcModel.Parse
