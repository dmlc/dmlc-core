/-
The vocabulary of the C12 statements, definitions only: number lexemes and the exactness contract of the conversions, tables,
the free choices of a rendering (styles), the renderers, well-formedness, and what a table row means.  The second half is in
the namespace `DmlcModel.Props.C12`: the names the statements use.
-/
import DmlcModel.Parse.Spec
import DmlcModel.Parse.ConvSimple

namespace DmlcModel.Parse
open DmlcModel

/-- a number lexeme is spelled with number characters only (digits, sign, '.', 'e', 'E') and is not empty;
which of these strings are *numbers* is C14's business: a lexeme means whatever the conversion returns for
it when it stands alone -/
def IsLexeme (lex : Bytes) : Prop := lex ≠ [] ∧ ∀ b ∈ lex, isDigitCharB b = true

/-- bytes that may follow a lexeme: anything that is not a number character of strtonum.h nor a letter -/
def isDelimB (b : UInt8) : Bool := !isDigitCharB b && !ConvSimple.isNumCh b

structure Exact (g : Bytes → Res Nat) : Prop where
  exact : ∀ lex tail : Bytes, IsLexeme lex → (∀ b, tail.head? = some b → isDelimB b = true) →
    g (lex ++ tail) = g lex

/-- no NUL, no end-of-line byte -/
def Clean (s : Bytes) : Prop := ∀ b ∈ s, nonStopB b = true

def blanksOnly (s : Bytes) : Prop := ∀ b ∈ s, isBlankB b = true

def IsDigits (s : Bytes) : Prop := s ≠ [] ∧ ∀ b ∈ s, Gen.Parse.isdigit b.toNat = true

def isSep (s : Bytes) : Prop := s ≠ [] ∧ blanksOnly s

def isEolStr (s : Bytes) : Prop := s ≠ [] ∧ ∀ b ∈ s, isEolB b = true

/-! ## libsvm / libfm -/

structure Entry where
  field : Bytes := []       -- libfm: digits
  index : Bytes             -- digits
  value : Option Bytes      -- number lexeme

structure TRow where
  label : Bytes
  weight : Option Bytes
  qid : Option Bytes := none
  entries : List Entry

/-- the free choices inside one libsvm / libfm line -/
structure LineStyle where
  lead : Bytes              -- blanks in front of the label
  qidSep : Bytes            -- separator in front of `qid:`
  seps : List Bytes         -- separator in front of each entry
  trail : Bytes             -- blanks behind the last token
  comment : Option Bytes    -- libsvm: the text of a `#` comment

def valPart : Option Bytes → Bytes
  | some v => 58 :: v
  | none => []

def cPart : Option Bytes → Bytes
  | some c => 35 :: c
  | none => []

/-- a libsvm entry `index[:value]` -/
def entryBytes (e : Entry) : Bytes := e.index ++ valPart e.value

def entsBytes : List (Bytes × Entry) → Bytes → Bytes
  | [], fin => fin
  | se :: rest, fin => se.1 ++ entryBytes se.2 ++ entsBytes rest fin

def finPart (σ : LineStyle) : Bytes := σ.trail ++ cPart σ.comment

def qidPart (σ : LineStyle) : Option Bytes → Bytes
  | some q => σ.qidSep ++ ([113, 105, 100, 58] ++ q)
  | none => []

def svmContent (σ : LineStyle) (r : TRow) : Bytes :=
  σ.lead ++ (r.label ++ (valPart r.weight ++ (qidPart σ r.qid ++ entsBytes (σ.seps.zip r.entries) (finPart σ))))

def joinPieces (ps : List (Bytes × Bytes)) : Bytes := ps.flatMap fun p => p.1 ++ p.2

structure WfEntry (e : Entry) : Prop where
  index : IsDigits e.index
  value : ∀ v, e.value = some v → IsLexeme v

structure WfLine (σ : LineStyle) (r : TRow) : Prop where
  lead : blanksOnly σ.lead
  qidSep : isSep σ.qidSep
  nseps : σ.seps.length = r.entries.length
  seps : ∀ s ∈ σ.seps, isSep s
  trail : blanksOnly σ.trail
  comment : ∀ c, σ.comment = some c → Clean c
  label : IsLexeme r.label
  weight : ∀ w, r.weight = some w → IsLexeme w
  qid : ∀ q, r.qid = some q → IsDigits q
  entries : ∀ e ∈ r.entries, WfEntry e

def expEntry (gI gR : Bytes → Res Nat) (e : Entry) : Res (Nat × Option Nat) := do
  let i ← gI e.index
  let v ← (match e.value with | some v => (gR v).map some | none => pure none : Res (Option Nat))
  pure (i, v)

def expFeats (gI gR : Bytes → Res Nat) (es : List Entry) : Res (List (Nat × Option Nat)) :=
  es.mapM (expEntry gI gR)

/-- what a table row means as a libsvm line -/
def expLine (gR gI gQ : Bytes → Res Nat) (r : TRow) : Res SvmLine := do
  let label ← gR r.label
  let weight ← (match r.weight with | some w => (gR w).map some | none => pure none : Res (Option Nat))
  let qid ← (match r.qid with | some q => (gQ q).map some | none => pure none : Res (Option Nat))
  let feats ← expFeats gI gR r.entries
  pure { label, weight, qid, feats }

/-! ## csv -/

/-- the cell conversion skips blanks in front of a lexeme (as strtof / strtoll do) -/
def SkipsBlanks (gC : Bytes → Res (Nat × Nat)) : Prop :=
  ∀ bl lex tail : Bytes, blanksOnly bl → IsLexeme lex → (∀ b, tail.head? = some b → isDelimB b = true) →
    gC (bl ++ (lex ++ tail)) = (gC lex).map fun vk => (vk.1, bl.length + vk.2)

/-- the contract of `C12_csv_statement` for the cell conversion -/
def CellExact (gC : Bytes → Res (Nat × Nat)) : Prop :=
  ∀ lex tail : Bytes, IsLexeme lex → (∀ b, tail.head? = some b → isDelimB b = true) →
    gC (lex ++ tail) = gC lex ∧ ∀ v k, gC lex = .ok (v, k) → k = lex.length

def enumF {α : Type} (c : Nat) : List α → List (Nat × α)
  | [] => []
  | x :: xs => (c, x) :: enumF (c + 1) xs

def labP (prm : CsvParam) (col : Nat) : Bool := u32 col == prm.labelCol

def wgtP (prm : CsvParam) (col : Nat) : Bool := prm.isReal && u32 col == prm.weightCol

def featP (prm : CsvParam) (col : Nat) : Bool := u32 col != prm.labelCol && !(prm.isReal && u32 col == prm.weightCol)

/-- hypothesis (A1) of `C12_csv`: the cells of a row fit the label / weight columns -/
def CsvRowFits (prm : CsvParam) (r : List (Option Bytes)) : Prop :=
  r.length ≤ 4294967296 ∧
  (∀ cv ∈ enumF 0 r, labP prm cv.1 = true → cv.2 ≠ none) ∧
  (∀ cv ∈ enumF 0 r, wgtP prm cv.1 = true → cv.2 ≠ none ∧ labP prm cv.1 = false) ∧
  (∃ cv ∈ enumF 0 r, featP prm cv.1 = true)

instance (prm : CsvParam) (r : List (Option Bytes)) : Decidable (CsvRowFits prm r) := by
  unfold CsvRowFits; infer_instance

end DmlcModel.Parse

namespace DmlcModel.Props.C12
open DmlcModel DmlcModel.Parse

/-! ## documents -/

structure ExactWith (conv : Conv) (gR gI gQ : Bytes → Res Nat) (gC : Bytes → Res (Nat × Nat)) : Prop where
  loc : conv.LocalWith gR gI gQ gC
  real : Exact gR
  index : Exact gI
  qid : Exact gQ

/-- a blank or comment line between rows -/
structure Filler where
  blanks : Bytes
  comment : Option Bytes
  eol : Bytes

structure RowStyle where
  filler : List Filler      -- blank / comment lines in front of the row
  line : LineStyle
  eol : Bytes               -- `\n`, `\r`, `\r\n`, doubled, …

structure WfFiller (f : Filler) : Prop where
  blanks : blanksOnly f.blanks
  comment : ∀ c, f.comment = some c → Clean c
  eol : isEolStr f.eol

structure WfRow (σ : RowStyle) (r : TRow) : Prop where
  filler : ∀ f ∈ σ.filler, WfFiller f
  line : WfLine σ.line r
  eol : isEolStr σ.eol
  values : (∀ e ∈ r.entries, e.value.isSome = true) ∨ (∀ e ∈ r.entries, e.value = none)

def svmPieces (z : RowStyle × TRow) : List (Bytes × Bytes) :=
  z.1.filler.map (fun f => (f.blanks ++ cPart f.comment, f.eol)) ++ [(svmContent z.1.line z.2, z.1.eol)]

/-- a table rendered as a libsvm document, row `i` in style `σ[i]` -/
def renderSvm (σ : List RowStyle) (T : List TRow) : Bytes := joinPieces ((σ.zip T).flatMap svmPieces)

def fmEntryBytes (e : Entry) : Bytes := e.field ++ 58 :: (e.index ++ valPart e.value)

def fmContent (σ : LineStyle) (r : TRow) : Bytes :=
  σ.lead ++ (r.label ++ (valPart r.weight ++
    (((σ.seps.zip r.entries).flatMap fun se => se.1 ++ fmEntryBytes se.2) ++ σ.trail)))

def renderFm (σ : List RowStyle) (T : List TRow) : Bytes :=
  joinPieces ((σ.zip T).flatMap fun z =>
    z.1.filler.map (fun f => (f.blanks, f.eol)) ++ [(fmContent z.1.line z.2, z.1.eol)])

/-- what a table row means as a libfm line -/
def expLineFm (gR gI : Bytes → Res Nat) (r : TRow) : Res FmLine := do
  let label ← gR r.label
  let weight ← (match r.weight with | some w => (gR w).map some | none => pure none : Res (Option Nat))
  let feats ← r.entries.mapM fun e => do
    let f ← gI e.field
    let i ← gI e.index
    let v ← (match e.value with | some v => (gR v).map some | none => pure none : Res (Option Nat))
    pure (f, i, v)
  pure { label, weight, feats }

structure CsvStyle where
  delim : UInt8
  eol : List Bytes                     -- per row
  pad : List (List (Bytes × Bytes))    -- blanks around each non-empty cell

/-- a csv table: each row a list of cells, `none` = empty cell -/
def renderCsv (σ : CsvStyle) (T : List (List (Option Bytes))) : Bytes :=
  ((T.zip (σ.eol.zip σ.pad)).flatMap fun r =>
    (((r.1.zip r.2.2).map fun cp => match cp.1 with
        | some lex => cp.2.1 ++ lex ++ cp.2.2
        | none => []).intersperse [σ.delim]).flatten ++ r.2.1)

/-- the row a csv table row describes under (label_column, weight_column): empty cells absent but numbered -/
def expectCsvRow (gC : Bytes → Res (Nat × Nat)) (prm : CsvParam) (cells : List (Option Bytes)) : Res Row := do
  let vals ← cells.mapM fun c => match c with | some lex => (gC lex).map fun vk => some vk.1 | none => pure none
  let cols := (List.range vals.length).zip vals
  let feats := (cols.filter fun cv => u32 cv.1 != prm.labelCol && !(prm.isReal && u32 cv.1 == prm.weightCol))
  let numbered := (List.range feats.length).zip (feats.map (·.2))
  let present := numbered.filterMap fun iv => iv.2.map fun v => (iv.1, v)
  return { label := (cols.find? fun cv => u32 cv.1 == prm.labelCol).bind (·.2)
           weight := if prm.isReal then (cols.find? fun cv => u32 cv.1 == prm.weightCol).bind (·.2) else none
           qid := none, field := none, index := present.map (·.1)
           value := if present.isEmpty then none else some (present.map (·.2)) }

end DmlcModel.Props.C12
