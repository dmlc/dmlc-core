/-
Containers as lists of line records: the canonical builder `build` (closed form `build_eq`) and the rows `GetBlock` /
`operator[]` hand out for a built container.
-/
import DmlcModel.Parse.Model
import DmlcModel.ExceptLemmas

namespace DmlcModel.Parse
open DmlcModel

/-- what one line contributes to a container -/
structure LineRec where
  label : Option Nat
  weight : Option Nat
  qid : Option Nat
  fields : List Nat
  idx : List Nat
  vals : List Nat
  deriving Repr, DecidableEq

def addRow (c : Container) (r : LineRec) : Container :=
  { offset := c.offset ++ [c.index.length + r.idx.length]
    label := c.label ++ r.label.toList
    weight := c.weight ++ r.weight.toList
    qid := c.qid ++ r.qid.toList
    field := c.field ++ r.fields
    index := c.index ++ r.idx
    value := c.value ++ r.vals }

def build (recs : List LineRec) : Container := recs.foldl addRow {}

/-- the row `operator[]` hands out for a record -/
def toRow (r : LineRec) : Row :=
  { label := r.label, weight := r.weight, qid := r.qid
    field := if r.fields.isEmpty || r.idx.isEmpty then none else some r.fields
    index := r.idx
    value := if r.vals.isEmpty || r.idx.isEmpty then none else some r.vals }

def sums : Nat → List LineRec → List Nat
  | _, [] => []
  | n, r :: rs => (n + r.idx.length) :: sums (n + r.idx.length) rs

theorem foldl_addRow (recs : List LineRec) (c : Container) :
    recs.foldl addRow c =
      { offset := c.offset ++ sums c.index.length recs
        label := c.label ++ recs.flatMap (fun r => r.label.toList)
        weight := c.weight ++ recs.flatMap (fun r => r.weight.toList)
        qid := c.qid ++ recs.flatMap (fun r => r.qid.toList)
        field := c.field ++ recs.flatMap (·.fields)
        index := c.index ++ recs.flatMap (·.idx)
        value := c.value ++ recs.flatMap (·.vals) } := by
  induction recs generalizing c with
  | nil => simp [sums]
  | cons r rs ih =>
    simp only [List.foldl_cons, ih, addRow, sums, List.flatMap_cons, List.append_assoc, List.length_append,
      List.singleton_append]

theorem build_eq (recs : List LineRec) :
    build recs =
      { offset := 0 :: sums 0 recs
        label := recs.flatMap (fun r => r.label.toList)
        weight := recs.flatMap (fun r => r.weight.toList)
        qid := recs.flatMap (fun r => r.qid.toList)
        field := recs.flatMap (·.fields)
        index := recs.flatMap (·.idx)
        value := recs.flatMap (·.vals) } := by
  simp [build, foldl_addRow]

def pre (recs : List LineRec) (i : Nat) : Nat := ((recs.take i).map (·.idx.length)).sum

theorem sums_length (n : Nat) (recs : List LineRec) : (sums n recs).length = recs.length := by
  induction recs generalizing n with
  | nil => rfl
  | cons r rs ih => simp [sums, ih]

theorem sums_get (n : Nat) (recs : List LineRec) (i : Nat) (hi : i < recs.length) :
    (sums n recs)[i]? = some (n + pre recs (i + 1)) := by
  induction recs generalizing n i with
  | nil => simp at hi
  | cons r rs ih =>
    cases i with
    | zero => simp [sums, pre]
    | succ i =>
      simp only [sums, List.getElem?_cons_succ]
      rw [ih _ i (by simpa using hi)]
      simp [pre, List.take]; omega

theorem offset_get (recs : List LineRec) (i : Nat) (hi : i ≤ recs.length) :
    (0 :: sums 0 recs)[i]? = some (pre recs i) := by
  cases i with
  | zero => simp [pre]
  | succ i => simp [sums_get 0 recs i (by omega)]

theorem pre_eq (f : LineRec → List Nat) (recs : List LineRec) (hf : ∀ r ∈ recs, (f r).length = r.idx.length)
    (i : Nat) : pre recs i = ((recs.take i).flatMap f).length := by
  rw [pre, List.length_flatMap]
  exact congrArg List.sum (List.map_congr_left fun r hr => (hf r (List.mem_of_mem_take hr)).symm)

theorem pre_succ (recs : List LineRec) (i : Nat) (hi : i < recs.length) :
    pre recs (i + 1) = pre recs i + recs[i].idx.length := by
  rw [pre, pre, List.take_succ_eq_append_getElem hi, List.map_append]; simp

theorem pre_total (recs : List LineRec) : pre recs recs.length = (recs.flatMap (·.idx)).length := by
  rw [pre_eq (·.idx) recs (fun _ _ => rfl), List.take_length]

theorem pre_le_total (f : LineRec → List Nat) (recs : List LineRec) (hf : ∀ r ∈ recs, (f r).length = r.idx.length)
    (i : Nat) : pre recs i ≤ (recs.flatMap f).length := by
  rw [pre_eq f recs hf]
  conv => rhs; rw [← List.take_append_drop i recs, List.flatMap_append, List.length_append]
  exact Nat.le_add_right _ _

theorem slice_flatMap (f : LineRec → List Nat) (recs : List LineRec) (hf : ∀ r ∈ recs, (f r).length = r.idx.length)
    (i : Nat) (hi : i < recs.length) :
    slice (recs.flatMap f) (pre recs i) (pre recs (i + 1)) = f recs[i] := by
  have hs : recs.flatMap f = (recs.take i).flatMap f ++ (f recs[i] ++ (recs.drop (i + 1)).flatMap f) := by
    rw [← List.flatMap_cons, ← List.flatMap_append, ← List.drop_eq_getElem_cons hi, List.take_append_drop]
  rw [slice, pre_succ recs i hi, pre_eq f recs hf i, hs, List.drop_left, Nat.add_sub_cancel_left,
    ← hf recs[i] (List.getElem_mem hi), List.take_left]

theorem flatMap_toList_some (g : LineRec → Option Nat) (recs : List LineRec) (h : ∀ r ∈ recs, (g r).isSome = true)
    (i : Nat) (hi : i < recs.length) :
    (recs.flatMap (fun r => (g r).toList))[i]? = g recs[i] := by
  induction recs generalizing i with
  | nil => simp at hi
  | cons r rs ih =>
    obtain ⟨x, hx⟩ := Option.isSome_iff_exists.mp (h r (by simp))
    cases i with
    | zero => simp [hx]
    | succ i =>
      simp only [List.flatMap_cons, hx, Option.toList_some, List.singleton_append, List.getElem?_cons_succ,
        List.getElem_cons_succ]
      exact ih (fun y hy => h y (by simp [hy])) i (by simpa using hi)

theorem flatMap_toList_some_length (g : LineRec → Option Nat) (recs : List LineRec) (h : ∀ r ∈ recs, (g r).isSome = true) :
    (recs.flatMap (fun r => (g r).toList)).length = recs.length := by
  induction recs with
  | nil => rfl
  | cons r rs ih =>
    obtain ⟨x, hx⟩ := Option.isSome_iff_exists.mp (h r (by simp))
    simp [hx, ih (fun y hy => h y (by simp [hy]))] <;> omega

/-- all records carry the optional part `g`, or none does -/
def Uniform (g : LineRec → Option Nat) (recs : List LineRec) : Prop :=
  (∀ r ∈ recs, (g r).isSome = true) ∨ (∀ r ∈ recs, g r = none)

/-- the part `f` is given for every entry of every record, or for no entry at all -/
def UniformL (f : LineRec → List Nat) (recs : List LineRec) : Prop :=
  (∀ r ∈ recs, (f r).length = r.idx.length) ∨ (∀ r ∈ recs, f r = [])

structure AgreeRecs (recs : List LineRec) : Prop where
  label : Uniform (·.label) recs
  weight : Uniform (·.weight) recs
  qid : Uniform (·.qid) recs
  fields : UniformL (·.fields) recs
  vals : UniformL (·.vals) recs

theorem all_or_all_sub {α : Type} {P Q : α → Prop} {a b : List α} (h : (∀ x ∈ b, P x) ∨ (∀ x ∈ b, Q x))
    (hs : ∀ x ∈ a, x ∈ b) : (∀ x ∈ a, P x) ∨ (∀ x ∈ a, Q x) :=
  h.imp (fun g x hx => g x (hs x hx)) (fun g x hx => g x (hs x hx))

theorem AgreeRecs.sub {a b : List LineRec} (h : AgreeRecs b) (hs : ∀ r ∈ a, r ∈ b) : AgreeRecs a :=
  ⟨all_or_all_sub h.label hs, all_or_all_sub h.weight hs, all_or_all_sub h.qid hs, all_or_all_sub h.fields hs,
    all_or_all_sub h.vals hs⟩

theorem optAt_uniform (g : LineRec → Option Nat) (recs : List LineRec) (h : Uniform g recs) (i : Nat)
    (hi : i < recs.length) : optAt (recs.flatMap (fun r => (g r).toList)) i = .ok (g recs[i]) := by
  rcases h with h | h
  · have hl := flatMap_toList_some_length g recs h
    have hne : (recs.flatMap (fun r => (g r).toList)).isEmpty = false := by
      cases hx : recs.flatMap (fun r => (g r).toList) with
      | nil => rw [hx] at hl; simp at hl; omega
      | cons _ _ => rfl
    have hg := flatMap_toList_some g recs h i hi
    obtain ⟨x, hx⟩ := Option.isSome_iff_exists.mp (h recs[i] (List.getElem_mem hi))
    simp [optAt, hne, hg, hx]
  · have hn : recs.flatMap (fun r => (g r).toList) = [] := List.flatMap_eq_nil_iff.mpr fun r hr => by simp [h r hr]
    simp [optAt, hn, h recs[i] (List.getElem_mem hi)]

theorem flatMap_length_eq (f : LineRec → List Nat) (recs : List LineRec) (h : ∀ r ∈ recs, (f r).length = r.idx.length) :
    (recs.flatMap f).length = (recs.flatMap (·.idx)).length := by
  rw [List.length_flatMap, List.length_flatMap, List.map_congr_left h]

theorem optSlice_uniform (f : LineRec → List Nat) (recs : List LineRec) (h : UniformL f recs) (i : Nat)
    (hi : i < recs.length) :
    optSlice (recs.flatMap f) (pre recs i) (pre recs (i + 1))
      = .ok (if (f recs[i]).isEmpty || recs[i].idx.isEmpty then none else some (f recs[i])) := by
  have hps := pre_succ recs i hi
  rcases h with h | h
  · have hlen := h recs[i] (List.getElem_mem hi)
    by_cases he : recs[i].idx = []
    · have : pre recs i = pre recs (i + 1) := by rw [hps, he]; simp
      simp [optSlice, this, he]
    · have hne : recs[i].idx.length ≠ 0 := by simpa using he
      have hfe : f recs[i] ≠ [] := by intro e; rw [e] at hlen; simp at hlen; omega
      have hab : (pre recs i == pre recs (i + 1)) = false := by simp; omega
      have hle := pre_le_total f recs h (i + 1)
      have hnn : (recs.flatMap f).isEmpty = false := by
        cases hx : recs.flatMap f with
        | nil => rw [hx] at hle; simp at hle; omega
        | cons _ _ => rfl
      have hle' : pre recs (i + 1) ≤ (List.map (fun a => (f a).length) recs).sum := by
        simpa [List.length_flatMap] using hle
      simp [optSlice, hnn, hab, hle', slice_flatMap f recs h i hi, hfe, he]
  · simp [optSlice, List.flatMap_eq_nil_iff.mpr h, h recs[i] (List.getElem_mem hi)]

theorem rowAt_build (recs : List LineRec) (h : AgreeRecs recs) (i : Nat) (hi : i < recs.length) :
    rowAt (build recs) i = .ok (toRow recs[i]) := by
  have hidx := pre_le_total (·.idx) recs (fun _ _ => rfl) (i + 1)
  simp only [rowAt, build_eq, offset_get recs i (by omega), offset_get recs (i + 1) (by omega),
    optAt_uniform _ recs h.label i hi, optAt_uniform _ recs h.weight i hi, optAt_uniform _ recs h.qid i hi,
    optSlice_uniform _ recs h.fields i hi, optSlice_uniform _ recs h.vals i hi, bind, Except.bind, pure,
    Except.pure, hidx, if_true, slice_flatMap (·.idx) recs (fun _ _ => rfl) i hi, toRow]

theorem mapM_range' {β : Type} (f : Nat → Res β) (ys : List β) (k : Nat)
    (h : ∀ i (hi : i < ys.length), f (k + i) = .ok ys[i]) : (List.range' k ys.length).mapM f = .ok ys := by
  induction ys generalizing k with
  | nil => rfl
  | cons y ys ih =>
    refine mapM_cons_ok_iff.mpr ⟨y, ys, h 0 (by simp), ih (k + 1) fun i hi => ?_, rfl⟩
    have := h (i + 1) (by simpa using hi)
    rwa [List.getElem_cons_succ, ← Nat.add_assoc, Nat.add_right_comm] at this

theorem build_size (recs : List LineRec) : (build recs).size = recs.length := by
  simp [build_eq, Container.size, sums_length]

/-- the final `offset.push_back(index.size())` of the libsvm / libfm ParseBlock, under its guard `po` -/
def finish (po : Nat → Bool) (c : Container) : Container :=
  if po c.label.length then { c with offset := c.offset ++ [c.index.length] } else c

theorem svmPushOffset_eq (n : Nat) : Gen.Parse.svmPushOffset n = (n != 0) := rfl

theorem fmPushOffset_eq (n : Nat) : Gen.Parse.fmPushOffset n = (n != 0) := rfl

theorem finish_foldl {α : Type} {push : Container → α → Container} {rec : α → LineRec} {po : Nat → Bool}
    (h : ∀ c l, finish po (push c l) = addRow (finish po c) (rec l)) (h0 : po 0 = false) (ls : List α) :
    finish po (ls.foldl push {}) = build (ls.map rec) := by
  have : ∀ c, finish po (ls.foldl push c) = (ls.map rec).foldl addRow (finish po c) := by
    induction ls with
    | nil => intro c; rfl
    | cons l ls ih => intro c; simp only [List.foldl_cons, List.map_cons, ih, h]
  rw [this, build]; simp [finish, h0]

def decRecIdx (iw : Nat) (r : LineRec) : LineRec := { r with idx := r.idx.map (decIdx iw) }

def decRecBoth (iw : Nat) (r : LineRec) : LineRec :=
  { r with idx := r.idx.map (decIdx iw), fields := r.fields.map (decIdx iw) }

theorem sums_map (g : LineRec → LineRec) (hg : ∀ r, (g r).idx.length = r.idx.length) (n : Nat) (recs : List LineRec) :
    sums n (recs.map g) = sums n recs := by
  induction recs generalizing n with
  | nil => rfl
  | cons r rs ih => simp [sums, hg, ih]

theorem build_decIdx (iw : Nat) (recs : List LineRec) :
    { build recs with index := (build recs).index.map (decIdx iw) } = build (recs.map (decRecIdx iw)) := by
  rw [build_eq, build_eq, sums_map _ (by simp [decRecIdx])]
  simp [decRecIdx, List.flatMap_map, List.map_flatMap]

theorem build_decBoth (iw : Nat) (recs : List LineRec) :
    { build recs with index := (build recs).index.map (decIdx iw), field := (build recs).field.map (decIdx iw) }
      = build (recs.map (decRecBoth iw)) := by
  rw [build_eq, build_eq, sums_map _ (by simp [decRecBoth])]
  simp [decRecBoth, List.flatMap_map, List.map_flatMap]

theorem build_label_length {α : Type} (rec : α → LineRec) (ls : List α) (h : ∀ l, (rec l).label.isSome = true) :
    (build (ls.map rec)).label.length = ls.length ∧ (build (ls.map rec)).offset.length = ls.length + 1 := by
  rw [build_eq]
  exact ⟨by simpa using flatMap_toList_some_length (·.label) (ls.map rec) (by simpa using fun l _ => h l),
    by simp [sums_length]⟩

end DmlcModel.Parse
