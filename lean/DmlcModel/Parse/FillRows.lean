/-
FillData + ParserImpl::Next on a chunk: the rows of the thread slices, in thread order, are the rows of ParseBlock on the whole
chunk (for every `BlockFormat`), by `fillData_slices` and `LineFormat.split`.
-/
import DmlcModel.Parse.Concat
import DmlcModel.Parse.Slices

namespace DmlcModel.Parse
open DmlcModel

theorem At.sub {mem : Bytes} {size : Nat} {t : Bytes} (h : At mem 0 size t) (a b : Nat) (hab : a ≤ b) (hb : b ≤ size) :
    At mem a b ((t.drop a).take (b - a)) := by
  have hl := h.2
  have h1 := h.drop a (by omega)
  have h2 := h1.drop (b - a) (by simp; omega)
  rw [Nat.zero_add] at h1
  rw [show 0 + a + (b - a) = b by omega] at h2
  rw [← List.take_append_drop (b - a) (t.drop a)] at h1
  exact h1.unappend h2

theorem At.getElem {mem : Bytes} {size : Nat} {t : Bytes} (h : At mem 0 size t) (c : Nat) (hc : c < size) :
    mem[c]? = t[c]? := by
  have hl : size = t.length := by have := h.2; omega
  have hm : mem = t ++ mem.drop size := by simpa using h.1
  rw [hm, List.getElem?_append_left (by omega)]

theorem rowsOf_size0 (c : Container) (r : List Row) (hs : c.size = 0) (h : rowsOf c = .ok r) : r = [] := by
  unfold rowsOf at h
  by_cases hg : getBlockOk c = true
  · rw [if_pos hg, hs] at h
    exact (Except.ok.inj h).symm
  · rw [if_neg hg] at h; cases h

theorem blocksOf_flatten (cs : List Container) (rs : List (List Row)) (h : cs.mapM rowsOf = .ok rs) :
    (blocksOf cs).map List.flatten = .ok rs.flatten := by
  induction cs generalizing rs with
  | nil => cases mapM_nil_ok_iff.mp h; rfl
  | cons c cs ih =>
    obtain ⟨r, rs', hr, hrs, rfl⟩ := mapM_cons_ok_iff.mp h
    have := ih rs' hrs
    unfold blocksOf at this ⊢
    by_cases hs : c.size = 0
    · have hr0 := rowsOf_size0 c r hs hr
      subst hr0
      simp only [List.filter_cons, hs, bne_self_eq_false, Bool.false_eq_true, if_false]
      simpa using this
    · have hs' : (c.size != 0) = true := by simpa using hs
      simp only [List.filter_cons, hs', if_true, List.mapM_cons, hr, bind, Except.bind]
      cases hm : (cs.filter fun c => c.size != 0).mapM rowsOf with
      | error e => rw [hm] at this; simp [Except.map] at this
      | ok bs => rw [hm] at this; simp [Except.map, pure, Except.pure] at this ⊢; exact this

theorem fillData_rows {good : UInt8 → Bool} {parse : Bytes → Nat → Nat → Res Container}
    {recS : Bytes → Res (Option LineRec)} (B : BlockFormat good parse recS)
    (mem : Bytes) (size nthread : Nat) (t : Bytes) (hAt : At mem 0 size t) (hT : TermOr mem size t)
    (hpos : 0 < size) (h1 : 1 ≤ nthread) (hn : nthread < 4294967296) (hs : size + nthread < 9223372036854775808)
    (hr : size < mem.length) (hg : ∀ x ∈ t, good x = true) (rss : List (List Row))
    (hl : (eolSplit t).mapM (textRows parse) = .ok rss) (ha : AgreeRows rss.flatten) :
    ((fillData parse mem size nthread).bind blocksOf).map List.flatten = .ok rss.flatten := by
  have F := B.lineFormat
  have hlen : size = t.length := by have := hAt.2; omega
  have C := fillData_slices mem size nthread h1 hn hs hr
  generalize cutAt mem size nthread = cut at C
  obtain ⟨recs, hp, hrows⟩ := F.parses_of_lines t hg (by omega) rss hl ha
  have cle : ∀ i, i ≤ nthread → cut i ≤ size := by
    intro i hi
    induction hd : nthread - i generalizing i with
    | zero => rw [show i = nthread by omega, C.last]; exact Nat.le_refl _
    | succ d ih => have := ih (i + 1) (by omega) (by omega); have := C.mono i (by omega); omega
  -- every cut is at the start of the chunk, or in front of an end-of-line byte, or at the end of the chunk
  have cshape : ∀ i, i ≤ nthread → cut i = 0 ∨ ∀ e, (t.drop (cut i)).head? = some e → isEolB e = true := by
    intro i hi
    by_cases h0 : cut i = 0
    · exact Or.inl h0
    · refine Or.inr fun e he => ?_
      rw [List.head?_drop] at he
      have hlt : cut i < size := by
        rcases Nat.lt_or_ge (cut i) size with h | h
        · exact h
        · rw [List.getElem?_eq_none (by omega)] at he; cases he
      rcases C.atEol i (Nat.lt_of_le_of_ne hi fun e0 => by rw [e0, C.last] at hlt; omega) with h | ⟨e', hme, hee⟩
      · exact absurd h h0
      · rw [hAt.getElem _ hlt, he] at hme; cases hme; exact hee
  -- induction over the threads: the slices parsed so far, and what is left of the chunk
  have key : ∀ k, k ≤ nthread → ∃ cs rs post,
      (List.range k).mapM (fun tid => do
        let ab ← threadSlice mem size nthread tid
        parse mem ab.1 ab.2) = .ok cs ∧ cs.mapM rowsOf = .ok rs ∧
      Parses good recS (t.drop (cut k)) post ∧ recs.map toRow = rs.flatten ++ post.map toRow := by
    intro k
    induction k with
    | zero => intro _; exact ⟨[], [], recs, rfl, rfl, by simpa [C.first] using hp, rfl⟩
    | succ k ih =>
      intro hk
      obtain ⟨cs, rs, post, hcs, hrs, hpost, hrec⟩ := ih (by omega)
      have hab := C.mono k (by omega)
      have hbs := cle (k + 1) hk
      have hsh := cshape (k + 1) hk
      have hdrop := List.take_append_drop (cut (k + 1) - cut k) (t.drop (cut k))
      rw [List.drop_drop, show cut k + (cut (k + 1) - cut k) = cut (k + 1) by omega] at hdrop
      obtain ⟨rx, ry, rfl, hx, hy⟩ := F.split
        (hsh.imp_left fun h0 => by rw [h0]; simp) (hdrop.symm ▸ hpost)
      have hTp : TermOr mem (cut (k + 1)) ((t.drop (cut k)).take (cut (k + 1) - cut k)) := by
        rcases hsh with h | h
        · exact Or.inr (Or.inl (by rw [h]; simp))
        · rcases Nat.lt_or_ge (cut (k + 1)) size with hlt | hge
          · refine Or.inl fun b hb => ?_
            rw [hAt.getElem _ hlt, ← List.head?_drop] at hb
            simp [isStopB, h b hb]
          · rw [show cut (k + 1) = size by omega, List.take_of_length_le (by simp; omega)]
            exact hT.suffix (List.drop_suffix _ _)
      have heq := B.at_rows (hAt.sub _ _ hab hbs) hTp (by omega) (by omega) hx.ok hx.bound
      rw [F.rows_of_parses hx] at heq
      obtain ⟨ck, hpc, hck⟩ := bind_ok_iff.mp heq
      refine ⟨cs ++ [ck], rs ++ [rx.map toRow], ry, ?_, ?_, hy, by simp [hrec]⟩
      · have hk1 : (do let ab ← threadSlice mem size nthread k
                       parse mem ab.1 ab.2 : Res Container) = .ok ck := by
          rw [C.slice k (by omega)]; exact hpc
        rw [List.range_succ, List.mapM_append, hcs, List.mapM_cons, hk1]
        rfl
      · rw [List.mapM_append, hrs]
        simp [List.mapM_cons, hck, bind, Except.bind, pure, Except.pure]
  obtain ⟨cs, rs, post, hcs, hrs, hpost, hrec⟩ := key nthread (Nat.le_refl _)
  rw [C.last, hlen, List.drop_length] at hpost
  cases hpost.eq
  have hfill : fillData parse mem size nthread = .ok cs := by
    unfold fillData
    have : Gen.Parse.fillNonEmpty size = true := by simp [Gen.Parse.fillNonEmpty]; omega
    simp only [this, Bool.not_true, Bool.false_eq_true, if_false]
    rw [← hcs]
  rw [hfill]
  simp only [Except.bind]
  rw [blocksOf_flatten cs rs hrs, hrows, hrec]; simp

end DmlcModel.Parse
