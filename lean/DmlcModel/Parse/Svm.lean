/-
LibSVMParser::ParseBlock as a `BlockFormat`: the block is the container built from the records of its code lines.
-/
import DmlcModel.Parse.Spec
import DmlcModel.Parse.Concat

namespace DmlcModel.Parse
open DmlcModel

def svmRec (l : SvmLine) : LineRec :=
  { label := some l.label, weight := l.weight, qid := l.qid, fields := [],
    idx := l.feats.map (·.1), vals := l.feats.filterMap (·.2) }

theorem finish_svmPush (c : Container) (l : SvmLine) :
    finish Gen.Parse.svmPushOffset (svmPush c l) = addRow (finish Gen.Parse.svmPushOffset c) (svmRec l) := by
  cases hw : l.weight <;> cases hq : l.qid <;> by_cases hc : c.label.length = 0 <;>
    simp [finish, svmPush, addRow, svmRec, svmPushOffset_eq, hw, hq, hc]

theorem svmDecrement_eq (mode : Nat) (b : Bool) (m : Nat) : Gen.Parse.svmDecrement mode b m = decide (mode > 0) := by
  simp [Gen.Parse.svmDecrement]

theorem endCheck_ok (n : Nat) (hb : n + 1 < 2 ^ 64) : Gen.Parse.svmEndCheck n (n + 1) = true := by
  simp [Gen.Parse.svmEndCheck, u64_of_lt hb]

/-! a line that is nothing but an end-of-line byte: the last line of a block that ends with one -/

theorem svmLine_lone {conv : Conv} {mem : Bytes} {lbegin lend stop : Nat} {e : UInt8}
    (h : At mem lbegin lend [e]) (he : isEolB e = true) (gR gI gQ : Bytes → Res Nat) :
    svmLine Fixes.repaired conv mem lbegin lend stop = svmLineS gR gI gQ [e] := by
  obtain ⟨p1, e1, a1⟩ := scan_at (pred := isEolB) h
  have hd : ([e] : Bytes).dropWhile isEolB = [] := by simp [List.dropWhile, he]
  rw [hd] at a1
  obtain ⟨p2, e2, a2⟩ := icb_at a1
  have hfx1 : Fixes.repaired.svmEolSkip = true := rfl
  unfold svmLine svmLineS
  simp [hfx1, e1, e2, parsePair_r0 Fixes.repaired conv.real conv.real a2 rfl, hd, icbS, pairS, bind, Except.bind,
    pure, Except.pure, svmEmptyLine_spec]

def svmRecS (gR gI gQ : Bytes → Res Nat) (iw mode : Nat) (L : Bytes) : Res (Option LineRec) :=
  (svmLineS gR gI gQ L).map (Option.map fun l => if mode > 0 then decRecIdx iw (svmRec l) else svmRec l)

theorem svmLineS_nil (gR gI gQ : Bytes → Res Nat) : svmLineS gR gI gQ [] = .ok none := by
  simp [svmLineS, icbS, pairS, bind, Except.bind, pure, Except.pure, svmEmptyLine_spec]

/-- a line on which `IgnoreCommentAndBlank` leaves nothing (blanks, a comment) has no record -/
theorem svmRecS_none (gR gI gQ : Bytes → Res Nat) (iw mode : Nat) {s : Bytes} (hs : ∀ b ∈ s, isEolB b = false)
    (hi : icbS s = []) : svmRecS gR gI gQ iw mode s = .ok none := by
  simp [svmRecS, svmLineS, dropWhile_eol_self s hs, hi, pairS, bind, Except.bind, pure, Except.pure, Except.map,
    svmEmptyLine_spec]

section
variable {conv : Conv} {gR gI gQ : Bytes → Res Nat} {gC : Bytes → Res (Nat × Nat)}
  (hL : conv.LocalWith gR gI gQ gC)
include hL

theorem svm_block_eq_at (iw mode : Nat) {mem : Bytes} {a b : Nat} {t : Bytes}
    (hAt : At mem a b t) (hT : TermOr mem b t) (hb : t.length + 2 < 2 ^ 64) :
    (svmBlock Fixes.repaired conv iw mode mem a b).bind rowsOf =
      (recsOf (svmRecS gR gI gQ iw mode) t).bind fun recs => rowsOf (build recs) := by
  have hloop := lineLoop_spec (line := fun lbegin lend => svmLine Fixes.repaired conv mem lbegin lend b)
    (lineS := svmLineS gR gI gQ) (push := svmPush)
    (fun p q L R hL' hR hRh hT => by
      rcases hT with hT | ⟨e, rfl, he⟩
      · exact svmLine_at hL hT hL' hR hRh
      · exact svmLine_lone hL' he gR gI gQ)
    (b + 1 - a) a t {} hAt (by rw [hAt.fuel]; omega) hT
  unfold svmBlock svmLoop
  rw [svmNotEol_fun, hloop]
  delta svmRecS
  rw [recsOf_map]
  cases hm : recsOf (svmLineS gR gI gQ) t with
  | error e => rfl
  | ok ls =>
    have hlen := recsOf_length hm
    have hfin := finish_foldl finish_svmPush rfl ls
    unfold finish at hfin
    have hlab := build_label_length svmRec ls fun _ => rfl
    simp only [Except.map, bind, Except.bind, hfin, hlab.1, hlab.2,
      endCheck_ok _ (show ls.length + 1 < 2 ^ 64 by omega), svmDecrement_eq]
    by_cases hmode : mode > 0
    · simp only [hmode, decide_true, Bool.not_true, Bool.false_eq_true, if_false, if_true, pure, Except.pure]
      rw [build_decIdx, List.map_map]; rfl
    · simp only [hmode, decide_false, Bool.not_true, Bool.false_eq_true, if_false, pure, Except.pure]

theorem svm_blockFormat (iw mode : Nat) :
    BlockFormat (fun _ => true) (svmBlock Fixes.repaired conv iw mode) (svmRecS gR gI gQ iw mode) where
  at_eq := fun hAt hT _ _ _ hlen => svm_block_eq_at hL iw mode hAt hT hlen
  strip := fun L => by simp [svmRecS, svmLineS, dropWhile_stripEol isEolB fun _ h => h]
  nil := by simp [svmRecS, svmLineS_nil, Except.map]
  fields := Or.inl fun L r h => by
    obtain ⟨l, rfl⟩ := map_some_elim h
    by_cases hm : mode > 0 <;> simp [hm, decRecIdx, svmRec]

end

end DmlcModel.Parse
