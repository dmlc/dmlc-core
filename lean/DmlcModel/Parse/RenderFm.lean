/-
ParseTriple and the libfm line parser on rendered tokens: `tripleS_two` / `tripleS_three` (the analogues of the two cases of
`pairS_render`), the libfm entry syntax as an `EntryFormat`, a rendered libfm line.
-/
import DmlcModel.Parse.RenderTable
import DmlcModel.Parse.Fm

namespace DmlcModel.Parse
open DmlcModel DmlcModel.Props.C12

theorem tripleS_dropBlank (g1 g2 g3 : Bytes → Res Nat) (s : Bytes) :
    tripleS g1 g2 g3 (s.dropWhile isBlankB) = tripleS g1 g2 g3 s := by
  unfold tripleS; rw [dropWhile_blank_notDigit]

/-- `ParseTriple` on `lexeme₁ : lexeme₂ : lexeme₃ tail`: three values, stops exactly at `tail` -/
theorem tripleS_three (g1 g2 g3 : Bytes → Res Nat) (h1 : Exact g1) (h2 : Exact g2) (h3 : Exact g3)
    (lex1 lex2 lex3 tail : Bytes) (v1 v2 v3 : Nat)
    (hl1 : IsLexeme lex1) (hl2 : IsLexeme lex2) (hl3 : IsLexeme lex3) (hc : Clean tail)
    (ht : ∀ b, tail.head? = some b → isDelimB b = true)
    (hv1 : g1 lex1 = .ok v1) (hv2 : g2 lex2 = .ok v2) (hv3 : g3 lex3 = .ok v3) :
    tripleS g1 g2 g3 (lex1 ++ 58 :: (lex2 ++ 58 :: (lex3 ++ tail)))
      = .ok { r := 3, rest := tail, v1 := v1, v2 := v2, v3 := v3 } := by
  obtain ⟨d3, s3, e3, a1, a2, a3⟩ := lex_scan h3 hl3 hc ht hv3
  have T2 := colon_tail ((lexeme_clean hl3).append hc)
  obtain ⟨d2, s2, e2, b1, b2, b3⟩ := lex_scan h2 hl2 T2.1 T2.2 hv2
  have T1 := colon_tail ((lexeme_clean hl2).append T2.1)
  obtain ⟨d1, s1, e1, c1, c2, c3⟩ := lex_scan h1 hl1 T1.1 T1.2 hv1
  rw [e1]; unfold tripleS
  simp only [c1, c2, c3, bind, Except.bind, colon_dropBlank]
  simp only [e2, b1, b2, b3, colon_dropBlank]
  simp only [e3, a1, a2, a3]
  simp

/-- `ParseTriple` on `lexeme₁ : lexeme₂ tail` where the next non-blank byte is not ':': two values, blanks consumed -/
theorem tripleS_two (g1 g2 g3 : Bytes → Res Nat) (h1 : Exact g1) (h2 : Exact g2)
    (lex1 lex2 tail : Bytes) (v1 v2 : Nat)
    (hl1 : IsLexeme lex1) (hl2 : IsLexeme lex2) (hc : Clean tail)
    (ht : ∀ b, tail.head? = some b → isDelimB b = true)
    (hnc : ∀ b, (tail.dropWhile isBlankB).head? = some b → b ≠ 58)
    (hv1 : g1 lex1 = .ok v1) (hv2 : g2 lex2 = .ok v2) :
    tripleS g1 g2 g3 (lex1 ++ 58 :: (lex2 ++ tail))
      = .ok { r := 2, rest := tail.dropWhile isBlankB, v1 := v1, v2 := v2 } := by
  obtain ⟨d2, s2, e2, b1, b2, b3⟩ := lex_scan h2 hl2 hc ht hv2
  have T1 := colon_tail ((lexeme_clean hl2).append hc)
  obtain ⟨d1, s1, e1, c1, c2, c3⟩ := lex_scan h1 hl1 T1.1 T1.2 hv1
  rw [e1]; unfold tripleS
  simp only [c1, c2, c3, bind, Except.bind, colon_dropBlank, e2, b1, b2, b3]
  cases hd3 : tail.dropWhile isBlankB with
  | nil => simp
  | cons b s7 => simp [hnc b (by rw [hd3]; rfl)]

def fmEnts : List (Bytes × Entry) → Bytes → Bytes
  | [], fin => fin
  | se :: rest, fin => se.1 ++ (fmEntryBytes se.2 ++ fmEnts rest fin)

/-- … without the separator of the first entry -/
def fmCore : List (Bytes × Entry) → Bytes → Bytes
  | [], fin => fin
  | se :: rest, fin => fmEntryBytes se.2 ++ fmEnts rest fin

theorem fmEnts_eq (ses : List (Bytes × Entry)) (fin : Bytes) : fmEnts ses fin = ents fmEntryBytes ses fin := by
  induction ses with
  | nil => rfl
  | cons se rest ih => simp [fmEnts, ents, ih]

structure WfFmEntry (e : Entry) : Prop where
  wf : WfEntry e
  field : IsDigits e.field

def expFmEntry (gI gR : Bytes → Res Nat) (e : Entry) : Res (Nat × Nat × Option Nat) := do
  let f ← gI e.field
  let i ← gI e.index
  let v ← (match e.value with | some v => (gR v).map some | none => pure none : Res (Option Nat))
  pure (f, i, v)

theorem expFmEntry_ok {gI gR : Bytes → Res Nat} {e : Entry} {x : Nat × Nat × Option Nat}
    (h : expFmEntry gI gR e = .ok x) :
    ∃ f i v, gI e.field = .ok f ∧ gI e.index = .ok i ∧ optVal gR e.value = .ok v ∧ x = (f, i, v) := by
  obtain ⟨f, hf, h⟩ := bind_ok_iff.mp h
  obtain ⟨i, hi, h⟩ := bind_ok_iff.mp h
  obtain ⟨v, hv, h⟩ := bind_ok_iff.mp h
  cases h
  exact ⟨f, i, v, hf, hi, hv, rfl⟩

theorem fmEntryBytes_clean {e : Entry} (h : WfFmEntry e) : Clean (fmEntryBytes e) :=
  (lexeme_clean (digits_lexeme h.field)).append (Clean.cons (by decide) (entryBytes_clean h.wf))

def fmEntries (gI gR : Bytes → Res Nat) (hI : Exact gI) (hR : Exact gR) : EntryFormat (Nat × Nat × Option Nat) where
  bytes := fmEntryBytes
  Wf := WfFmEntry
  exp := expFmEntry gI gR
  End := blanksOnly
  loop := fmFeatsS gI gR
  tok := tripleS gI gI gR
  noF := Gen.Parse.fmNoFeature
  feat := fun o => (o.v1, o.v2, if Gen.Parse.fmHasValue o.r then some o.v3 else none)
  loop_nil := fun _ _ => rfl
  loop_cons := fun _ s _ hs => by
    cases s with
    | nil => exact absurd rfl hs
    | cons _ _ => rfl
  skip := tripleS_dropBlank gI gI gR
  lead := fun e h => ⟨fmEntryBytes_clean h, (lex_head (digits_lexeme h.field)).append _⟩
  entry := fun e tail x hw ht hx => by
    obtain ⟨f, i, v, hf, hi, hv, rfl⟩ := expFmEntry_ok hx
    have hfl := digits_lexeme hw.field
    have hil := digits_lexeme hw.wf.index
    unfold fmEntryBytes
    cases hval : e.value with
    | none =>
      rw [hval] at hv; cases hv
      have := tripleS_two gI gI gR hI hI e.field e.index tail f i hfl hil ht.clean ht.head ht.next hf hi
      exact ⟨_, by simpa [valPart] using this, rfl, rfl, List.dropWhile_suffix _, dropWhile_idem _ _⟩
    | some w =>
      rw [hval] at hv
      obtain ⟨y, hy, rfl⟩ := optVal_some hv
      have := tripleS_three gI gI gR hI hI hR e.field e.index w tail f i y hfl hil (hw.wf.value w hval) ht.clean
        ht.head hf hi hy
      exact ⟨_, by simpa [valPart] using this, rfl, rfl, List.suffix_refl _, rfl⟩
  endPart := fun _ => blanks_endPart
  stop := fun fin h => ⟨_, by
    unfold tripleS; rw [dropWhile_all _ _ (fun b hb => blank_notDigit b (h b hb))], rfl, rfl⟩

theorem fmFeats_render (gI gR : Bytes → Res Nat) (hI : Exact gI) (hR : Exact gR) (fin : Bytes) (hfin : blanksOnly fin) :
    ∀ (ses : List (Bytes × Entry)) (bl : Bytes) (acc fs : List (Nat × Nat × Option Nat)) (fuel : Nat),
      blanksOnly bl → (∀ se ∈ ses, WfFmEntry se.2) → (∀ se ∈ ses.tail, isSep se.1) →
      (ses.map (·.2)).mapM (expFmEntry gI gR) = .ok fs → (bl ++ fmCore ses fin).length + 1 ≤ fuel →
      fmFeatsS gI gR fuel (bl ++ fmCore ses fin) acc = .ok (acc.reverse ++ fs) := by
  -- `fmCore` is `fmEnts` with nothing in front of the first entry
  intro ses bl acc fs fuel hb hw hsep hexp hf
  cases ses with
  | nil =>
    exact (fmEntries gI gR hI hR).feats_render hfin [] _ acc fs fuel (List.dropWhile_append_of_pos hb)
      (fun _ h => nomatch h) (fun _ h => nomatch h) hexp hf
  | cons se rest =>
    refine (fmEntries gI gR hI hR).feats_render hfin (([], se.2) :: rest) _ acc fs fuel
      (by rw [List.dropWhile_append_of_pos hb]; simp [fmCore, ents, fmEnts_eq]; rfl) (fun x hx => ?_)
      (fun x hx => (hsep x hx).1) hexp hf
    rcases List.mem_cons.mp hx with rfl | hx
    · exact ⟨fun _ h => (nomatch h), hw se (by simp)⟩
    · exact ⟨(hsep x hx).2, hw x (by simp [hx])⟩

theorem fmContent_eq (σ : LineStyle) (r : TRow) :
    fmContent σ r = σ.lead ++ (r.label ++ (valPart r.weight ++ ents fmEntryBytes (σ.seps.zip r.entries) σ.trail)) := by
  unfold fmContent
  congr 3
  induction σ.seps.zip r.entries with
  | nil => rfl
  | cons se rest ih => simp [ents, ← ih]

theorem fm_ses {σ : LineStyle} {r : TRow} (h : WfLine σ r) (hfd : ∀ e ∈ r.entries, IsDigits e.field) :
    (∀ se ∈ σ.seps.zip r.entries, isSep se.1 ∧ WfFmEntry se.2) ∧ (σ.seps.zip r.entries).map (·.2) = r.entries :=
  ⟨fun se hse => ⟨(h.ses.1 se hse).1, (h.ses.1 se hse).2, hfd _ (List.of_mem_zip hse).2⟩, h.ses.2⟩

theorem expLineFm_ok (gR gI : Bytes → Res Nat) (r : TRow) (L : FmLine) (h : expLineFm gR gI r = .ok L) :
    ∃ lv wv fs, gR r.label = .ok lv ∧ optVal gR r.weight = .ok wv ∧
      r.entries.mapM (expFmEntry gI gR) = .ok fs ∧ L = { label := lv, weight := wv, feats := fs } := by
  obtain ⟨lv, hlv, h⟩ := bind_ok_iff.mp h
  obtain ⟨wv, hwv, h⟩ := bind_ok_iff.mp h
  obtain ⟨fs, hfs, h⟩ := bind_ok_iff.mp h
  cases h
  exact ⟨lv, wv, fs, hlv, hwv, hfs, rfl⟩

theorem fmContent_clean {σ : LineStyle} {r : TRow} (hwf : WfLine σ r) (hfd : ∀ e ∈ r.entries, IsDigits e.field) :
    Clean (fmContent σ r) := by
  rw [fmContent_eq]
  exact (blanks_clean hwf.lead).append ((lexeme_clean hwf.label).append ((valPart_clean hwf.weight).append
    (ents_clean _ _ _ (blanks_clean hwf.trail)
      (fun se h => ⟨((fm_ses hwf hfd).1 se h).1.2, fmEntryBytes_clean ((fm_ses hwf hfd).1 se h).2⟩))))

theorem fmLineS_render (gR gI : Bytes → Res Nat) (hR : Exact gR) (hI : Exact gI)
    (σ : LineStyle) (r : TRow) (hwf : WfLine σ r) (hfd : ∀ e ∈ r.entries, IsDigits e.field)
    (L : FmLine) (hexp : expLineFm gR gI r = .ok L) :
    fmLineS gR gI (fmContent σ r) = .ok (some L) := by
  obtain ⟨lv, wv, fs, hlv, hwv, hfs, rfl⟩ := expLineFm_ok gR gI r L hexp
  obtain ⟨hses, hmap⟩ := fm_ses hwf hfd
  have hE : TokTail (ents fmEntryBytes (σ.seps.zip r.entries) σ.trail) :=
    (fmEntries gI gR hI hR).ents_tail hwf.trail _ hses
  have hfeat : ∀ X : Bytes, _ → fmFeatsS gI gR (X.length + 1) X [] = .ok fs :=
    (fmEntries gI gR hI hR).feats_ents hwf.trail _ hses fs (by rw [hmap]; exact hfs)
  obtain ⟨o, ho, h1, hv1, hv2, _, hdrop⟩ := pairS_render hR hR hwf.label hwf.weight hE hlv hwv
  have hem : Gen.Parse.fmEmptyLine o.r = false := by simp [fmEmptyLine_spec]; omega
  rw [fmContent_eq, fmLineS, ← pairS_dropBlank, List.dropWhile_append_of_pos hwf.lead, pairS_dropBlank, ho]
  simp only [bind, Except.bind, hem, hfeat o.rest hdrop, Bool.false_eq_true, if_false, pure, Except.pure]
  rw [hv1, show (if Gen.Parse.fmHasWeight o.r = true then some o.v2 else none) = wv from hv2]

theorem fm_rowRec {gR gI : Bytes → Res Nat} {r : TRow} {L : FmLine} (h : expLineFm gR gI r = .ok L)
    (iw mode : Nat) (rec : LineRec) (e : rec = if mode > 0 then decRecBoth iw (fmRec L) else fmRec L) :
    RecOfRow none r rec := by
  obtain ⟨lv, wv, fs, _, hwv, hfs, rfl⟩ := expLineFm_ok gR gI r L h
  have hu := feats_vals (·.2.2) _ (fun e x hx => by
    obtain ⟨f, i, v, _, _, hv, rfl⟩ := expFmEntry_ok hx
    exact optVal_isSome hv) _ _ hfs
  subst e
  by_cases hm : mode > 0 <;> simp only [hm, if_true, if_false] <;>
    exact ⟨rfl, optVal_isSome hwv, rfl, fun h => by simpa [decRecBoth, fmRec] using hu.1 h, hu.2⟩

end DmlcModel.Parse
