/-
Bridge between the text InputSplit model (C03, DmlcModel/Split) and the parsers (C11): the canonical lines of C03
are the non-empty lines of `eolSplit`; regrouping of rows by chunks and parts.
-/
import DmlcModel.Split.Spec
import DmlcModel.Parse.Concat

namespace DmlcModel.Parse
open DmlcModel

theorem split_isEol_eq (b : UInt8) : Split.isEol b = isEolB b := by
  rw [Bool.eq_iff_iff, isEolB_iff]
  simp [Split.isEol]

/-- C03's `lines` (non-empty runs between end-of-line bytes) are the non-empty lines of `eolSplit` -/
theorem fieldsGo_eq (s cur : Bytes) :
    Split.fieldsGo Split.isEol s cur = (eolSplitGo s cur.reverse).filter fun l => !l.isEmpty := by
  induction s generalizing cur with
  | nil => cases cur <;> simp [Split.fieldsGo, eolSplitGo]
  | cons b s ih =>
    by_cases hb : isEolB b = true
    · have hb' : Split.isEol b = true := by rw [split_isEol_eq]; exact hb
      have := ih []
      cases cur with
      | nil => simp [Split.fieldsGo, eolSplitGo, hb, hb', this]
      | cons c cur => simp [Split.fieldsGo, eolSplitGo, hb, hb', this]
    · have hb' : Split.isEol b = false := by rw [split_isEol_eq]; simpa using hb
      have := ih (cur ++ [b])
      simp [Split.fieldsGo, eolSplitGo, hb, hb', this]

theorem split_lines_eq (s : Bytes) : Split.lines s = (eolSplit s).filter fun l => !l.isEmpty := by
  simpa [Split.lines, Split.fields, eolSplit] using fieldsGo_eq s []

theorem mapM_unfilter (f : Bytes → Res (List Row)) (hnil : f [] = .ok []) (xs : List Bytes) (r : List (List Row))
    (h : (xs.filter fun l => !l.isEmpty).mapM f = .ok r) :
    ∃ r', xs.mapM f = .ok r' ∧ r'.flatten = r.flatten := by
  induction xs generalizing r with
  | nil => cases mapM_nil_ok_iff.mp h; exact ⟨[], rfl, rfl⟩
  | cons x xs ih =>
    cases x with
    | nil =>
      simp only [List.filter_cons, List.isEmpty_nil, Bool.not_true, Bool.false_eq_true, if_false] at h
      obtain ⟨r', h1, h2⟩ := ih r h
      exact ⟨[] :: r', mapM_cons_ok_iff.mpr ⟨_, _, hnil, h1, rfl⟩, by simp [h2]⟩
    | cons c x =>
      simp only [List.filter_cons, List.isEmpty_cons, Bool.not_false, if_true] at h
      obtain ⟨y, ys, hy, hys, rfl⟩ := mapM_cons_ok_iff.mp h
      obtain ⟨r', h1, h2⟩ := ih ys hys
      exact ⟨y :: r', mapM_cons_ok_iff.mpr ⟨_, _, hy, h1, rfl⟩, by simp [h2]⟩

/-- two-level regrouping: if every group `x` computes, by `F x`, the concatenated rows of its lines `g x`,
then the groups together compute the concatenated rows of all lines -/
theorem regroup {α : Type} (rws : Bytes → Res (List Row)) (g : α → List Bytes) (F : α → Res (List Row)) (xs : List α)
    (hF : ∀ x ∈ xs, ∀ rb, (g x).mapM rws = .ok rb → AgreeRows rb.flatten → F x = .ok rb.flatten)
    (rss : List (List Row)) (h : (xs.flatMap g).mapM rws = .ok rss) (ha : AgreeRows rss.flatten) :
    (xs.mapM F).map List.flatten = .ok rss.flatten := by
  induction xs generalizing rss with
  | nil => simp [pure, Except.pure] at h; subst h; rfl
  | cons x xs ih =>
    rw [List.flatMap_cons] at h
    obtain ⟨r1, r2, h1, h2, rfl⟩ := mapM_append_ok_iff.mp h
    rw [List.flatten_append] at ha ⊢
    have hx := hF x (by simp) r1 h1 ha.left
    have hxs := ih (fun y hy => hF y (by simp [hy])) r2 h2 ha.right
    obtain ⟨ys, hm, hys⟩ := map_ok_iff.mp hxs
    simp [List.mapM_cons, hx, hm, bind, Except.bind, pure, Except.pure, Except.map, hys]

end DmlcModel.Parse
