/-
The chunks of a text InputSplit part are non-empty, NUL-free, end with an end-of-line byte and are no longer than
`2 * totalSize files + 1`: a fact of Split (`Split.part_text`, restated for the list of chunks) that only `C11_pipeline` uses.
-/
import DmlcModel.Split.CoverText

namespace DmlcModel.Parse
open DmlcModel

open DmlcModel.Split in
theorem part_chunks {files : List Bytes} {n w : Nat} (h : TextSplitOk files n w) (k dw : Nat) (hk : k < n)
    (bs : List Bytes) (hbs : partBlobs Fmt.text files k n w dw (fun _ => false) = .ok bs) :
    ∀ b ∈ bs, (b ≠ [] ∧ EndsEol b ∧ NulFree b) ∧ b.length ≤ 2 * totalSize files + 1 := by
  obtain ⟨bs', h1, -, h3⟩ := part_text h k dw hk (fun _ => false)
  obtain rfl : bs' = bs := Except.ok.inj (h1.symm.trans hbs)
  intro b hb
  obtain ⟨i, hi⟩ := List.getElem?_of_mem hb
  obtain ⟨g1, g2, g3⟩ := h3 i b hi
  exact ⟨⟨g1, g3 rfl⟩, g2⟩

open DmlcModel.Split in
theorem part_chunks_length {files : List Bytes} {n w : Nat} (h : TextSplitOk files n w) (k dw : Nat) (hk : k < n)
    (bs : List Bytes) (hbs : partBlobs Fmt.text files k n w dw (fun _ => false) = .ok bs) :
    ∀ b ∈ bs, b.length ≤ 2 * totalSize files + 1 :=
  fun b hb => (part_chunks h k dw hk bs hbs b hb).2

end DmlcModel.Parse
