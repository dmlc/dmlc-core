/-
Rendered documents, for every `LineFormat` of C11: a table whose items are rendered to terminated lines, one with a record each,
is parsed to the rows of the records (`LineFormat.table_recs`); libsvm / libfm tables in any line syntax (`styled_rows`).
-/
import DmlcModel.Parse.Render
import DmlcModel.Parse.Concat

namespace DmlcModel.Parse
open DmlcModel

theorem piece_length_le (ps : List (Bytes × Bytes)) (p : Bytes × Bytes) (hp : p ∈ ps) :
    p.1.length ≤ (joinPieces ps).length := by
  have := (List.sublist_flatten_of_mem (List.mem_map_of_mem (f := fun p : Bytes × Bytes => p.1 ++ p.2) hp)).length_le
  rw [List.length_append] at this
  exact Nat.le_trans (Nat.le_add_right _ _) this

theorem flatten_replicate_nil {β : Type} (n : Nat) : (List.replicate n ([] : List β)).flatten = [] :=
  List.flatten_replicate_nil

theorem recsOf_line {β : Type} (g : Bytes → Res (Option β)) (h0 : g [] = .ok none) (l : Bytes)
    (hl : ∀ b ∈ l, isEolB b = false) : recsOf g l = (g l).map Option.toList := by
  cases l with
  | nil => rw [h0]; rfl
  | cons b s =>
    rw [recsOf, codeLines_single b s fun x hx => hl x (by simp [hx]), List.mapM_cons]
    cases g (b :: s) with
    | error e => rfl
    | ok o => cases o <;> rfl

theorem recsOf_pieces (recS : Bytes → Res (Option LineRec)) (hs : ∀ L, recS (stripEol L) = recS L)
    (hnil : recS [] = .ok none) (ps : List (Bytes × Bytes)) (outs : List (Option LineRec))
    (h : ps.mapM (fun p => recS p.1) = .ok outs)
    (hwf : ∀ p ∈ ps, (∀ b ∈ p.1, isEolB b = false) ∧ isEolStr p.2) :
    recsOf recS (joinPieces ps) = .ok (outs.filterMap id) := by
  induction ps generalizing outs with
  | nil => cases h; rfl
  | cons p ps ih =>
    obtain ⟨o, outs', h0, hR', rfl⟩ := mapM_cons_ok_iff.mp h
    obtain ⟨hc, hne, he⟩ := hwf p (by simp)
    obtain ⟨e, es, hp2⟩ := List.exists_cons_of_ne_nil hne
    rw [hp2] at he
    -- behind the line: its end-of-line string is skipped, then come the other pieces
    have hrest : recsOf recS (e :: (es ++ joinPieces ps)) = .ok (outs'.filterMap id) := by
      rw [← recsOf_dropEol hs hnil, ← List.cons_append, List.dropWhile_append_of_pos he, recsOf_dropEol hs hnil]
      exact ih outs' hR' (fun q hq => hwf q (by simp [hq]))
    rw [show joinPieces (p :: ps) = p.1 ++ e :: (es ++ joinPieces ps) by simp [joinPieces, hp2]]
    exact (recsOf_append_eol (he e (by simp))).mpr
      ⟨o.toList, _, by rw [recsOf_line recS hnil p.1 hc, h0]; rfl, hrest, by cases o <;> rfl⟩

theorem mapM_fillers {α : Type} (g : α → Res (Option LineRec)) (fs : List α) (c : α) (r : LineRec)
    (hf : ∀ x ∈ fs, g x = .ok none) (hc : g c = .ok (some r)) :
    ∃ os, (fs ++ [c]).mapM g = .ok os ∧ os.filterMap id = [r] := by
  induction fs with
  | nil => exact ⟨[some r], by simp [List.mapM_cons, hc, bind, Except.bind, pure, Except.pure], rfl⟩
  | cons x fs ih =>
    obtain ⟨os, hR, hfl⟩ := ih (fun y hy => hf y (by simp [hy]))
    exact ⟨none :: os, by simp [List.mapM_cons, hf x (by simp), hR, bind, Except.bind, pure, Except.pure], by simpa using hfl⟩

/-- **a rendered table**: every item `z` of `Z` is rendered to the terminated lines `pieces z`, of which one has a
record, `rec L`, for what the item means (`exp z = L`), and the others have none; the records agree on their optional
parts: the block parser returns the rows of the records, in order -/
theorem LineFormat.table_recs {good : UInt8 → Bool} {rws : Bytes → Res (List Row)} {recS : Bytes → Res (Option LineRec)}
    (F : LineFormat good rws recS) {ζ κ : Type} (pieces : ζ → List (Bytes × Bytes)) (exp : ζ → Res κ)
    (rec : κ → LineRec) (Z : List ζ) (Ls : List κ) (hexp : Z.mapM exp = .ok Ls)
    (hpw : ∀ z ∈ Z, ∀ p ∈ pieces z, (∀ b ∈ p.1, isEolB b = false) ∧ isEolStr p.2)
    (hg : ∀ z ∈ Z, ∀ p ∈ pieces z, ∀ b ∈ p.1, good b = true) (hge : ∀ b, isEolB b = true → good b = true)
    (hrec : ∀ z ∈ Z, ∀ L, exp z = .ok L →
      ∃ os, (pieces z).mapM (fun p => recS p.1) = .ok os ∧ os.filterMap id = [rec L])
    (ha : AgreeRecs (Ls.map rec)) (hb : (joinPieces (Z.flatMap pieces)).length + 2 < 2 ^ 64) :
    rws (joinPieces (Z.flatMap pieces)) = .ok (Ls.map fun L => toRow (rec L)) := by
  have hpw' : ∀ p ∈ Z.flatMap pieces, (∀ b ∈ p.1, isEolB b = false) ∧ isEolStr p.2 := fun p hp => by
    obtain ⟨z, hz, hpz⟩ := List.mem_flatMap.mp hp
    exact hpw z hz p hpz
  have hg' : ∀ b ∈ joinPieces (Z.flatMap pieces), good b = true := fun b hb' => by
    obtain ⟨p, hp, hbp⟩ := List.mem_flatMap.mp hb'
    obtain ⟨z, hz, hpz⟩ := List.mem_flatMap.mp hp
    rcases List.mem_append.mp hbp with h | h
    · exact hg z hz p hpz b h
    · exact hge b ((hpw z hz p hpz).2.2 b h)
  obtain ⟨outs, hR, hfl⟩ : ∃ outs, (Z.flatMap pieces).mapM (fun p => recS p.1) = .ok outs ∧
      outs.filterMap id = Ls.map rec := by
    clear hg hg' ha hb hpw' hpw
    induction Z generalizing Ls with
    | nil => cases hexp; exact ⟨[], rfl, rfl⟩
    | cons z Z ih =>
      obtain ⟨L, Ls', hL, hLs', rfl⟩ := mapM_cons_ok_iff.mp hexp
      obtain ⟨R1, h1, f1⟩ := hrec z (by simp) L hL
      obtain ⟨R2, h2, f2⟩ := ih Ls' hLs' (fun x hx => hrec x (by simp [hx]))
      exact ⟨R1 ++ R2, by rw [List.flatMap_cons, List.mapM_append, h1, h2]; rfl, by simp [f1, f2]⟩
  rw [F.rows_of_parses ⟨hg', hb, hfl ▸ recsOf_pieces recS F.strip F.nil _ outs hR hpw', ha⟩, List.map_map]; rfl

theorem uniform_of_items {ζ ρ : Type} (Z : List ζ) (a : ζ → Option Bytes) (xs : List ρ) (g : ρ → Option Nat)
    (h : ∀ x ∈ xs, ∃ z ∈ Z, (g x).isSome = (a z).isSome)
    (hu : (∀ z ∈ Z, (a z).isSome = true) ∨ (∀ z ∈ Z, a z = none)) :
    (∀ x ∈ xs, (g x).isSome = true) ∨ (∀ x ∈ xs, g x = none) := by
  refine hu.imp (fun hu x hx => ?_) (fun hu x hx => ?_) <;> obtain ⟨z, hz, e⟩ := h x hx
  · rw [e]; exact hu z hz
  · rw [hu z hz] at e; exact Option.not_isSome_iff_eq_none.mp (by simp [e])

/-- the record of the line a table row means takes the presence of its optional parts from the row (`q`: the qid of
the row, where the format has one) -/
structure RecOfRow (q : Option Bytes) (r : TRow) (rec : LineRec) : Prop where
  label : rec.label.isSome = true
  weight : rec.weight.isSome = r.weight.isSome
  qid : rec.qid.isSome = q.isSome
  vals : (∀ e ∈ r.entries, e.value.isSome = true) → rec.vals.length = rec.idx.length
  novals : (∀ e ∈ r.entries, e.value = none) → rec.vals = []

theorem feats_vals {α : Type} (p : α → Option Nat) (exp : Entry → Res α)
    (hp : ∀ e x, exp e = .ok x → (p x).isSome = e.value.isSome) (es : List Entry) (fs : List α)
    (h : es.mapM exp = .ok fs) :
    ((∀ e ∈ es, e.value.isSome = true) → (fs.filterMap p).length = fs.length) ∧
      ((∀ e ∈ es, e.value = none) → fs.filterMap p = []) := by
  have hx : ∀ x ∈ fs, ∃ e ∈ es, (p x).isSome = e.value.isSome := fun x hx => by
    obtain ⟨e, he, hex⟩ := mapM_mem _ _ _ h x hx
    exact ⟨e, he, hp e x hex⟩
  refine ⟨fun hv => List.filterMap_length_eq_length.mpr fun x hxm => ?_,
    fun hv => List.filterMap_eq_nil_iff.mpr fun x hxm => ?_⟩ <;> obtain ⟨e, he, heq⟩ := hx x hxm
  · rw [heq]; exact hv e he
  · rw [hv e he] at heq; exact Option.not_isSome_iff_eq_none.mp (by simp [heq])

open DmlcModel.Props.C12 in
/-- **a styled table, any line syntax.**  Row `i` of `T` is rendered in style `σ[i]`: filler lines `fill f`, then the
content line `content σ[i].line T[i]`, each with its end-of-line string.  If a filler line has no record, the content
line has the record `recOf L` of what the row means (`exp r = L`), and the rows of the table agree on the presence of
weights / qids (`q`: where the syntax has one) / values, then `ParseBlock` returns the rows of the table, in order. -/
theorem styled_rows {rws : Bytes → Res (List Row)} {recS : Bytes → Res (Option LineRec)}
    (F : LineFormat (fun _ => true) rws recS) {κ : Type} (fill : Filler → Bytes) (content : LineStyle → TRow → Bytes)
    (exp : TRow → Res κ) (recOf : κ → LineRec) (q : TRow → Option Bytes) (σ : List RowStyle) (T : List TRow)
    (hlen : σ.length = T.length)
    (hfill : ∀ z ∈ σ.zip T, ∀ f ∈ z.1.filler, Clean (fill f) ∧ isEolStr f.eol ∧ recS (fill f) = .ok none)
    (hline : ∀ z ∈ σ.zip T, Clean (content z.1.line z.2) ∧ isEolStr z.1.eol ∧
      ∀ L, exp z.2 = .ok L → recS (content z.1.line z.2) = .ok (some (recOf L)))
    (hrow : ∀ r ∈ T, ∀ L, exp r = .ok L → RecOfRow (q r) r (recOf L))
    (hW : (∀ r ∈ T, r.weight.isSome = true) ∨ (∀ r ∈ T, r.weight = none))
    (hQ : (∀ r ∈ T, (q r).isSome = true) ∨ (∀ r ∈ T, q r = none))
    (hV : (∀ r ∈ T, ∀ e ∈ r.entries, e.value.isSome = true) ∨ (∀ r ∈ T, ∀ e ∈ r.entries, e.value = none))
    (Ls : List κ) (hLs : T.mapM exp = .ok Ls)
    (hb : (joinPieces ((σ.zip T).flatMap fun z =>
      z.1.filler.map (fun f => (fill f, f.eol)) ++ [(content z.1.line z.2, z.1.eol)])).length + 2 < 2 ^ 64) :
    rws (joinPieces ((σ.zip T).flatMap fun z =>
      z.1.filler.map (fun f => (fill f, f.eol)) ++ [(content z.1.line z.2, z.1.eol)]))
      = .ok (Ls.map fun L => toRow (recOf L)) := by
  have hLz : (σ.zip T).mapM (fun z => exp z.2) = .ok Ls := by
    rw [zip_mapM_snd _ _ _ (Nat.le_of_eq hlen.symm)]; exact hLs
  have hsrc : ∀ x ∈ Ls.map recOf, ∃ r ∈ T, RecOfRow (q r) r x ∧ ∃ l, recS l = .ok (some x) := fun x hx => by
    obtain ⟨L, hL, rfl⟩ := List.mem_map.mp hx
    obtain ⟨z, hz, hzL⟩ := mapM_mem _ _ _ hLz L hL
    exact ⟨z.2, (List.of_mem_zip hz).2, hrow _ (List.of_mem_zip hz).2 L hzL, _, (hline z hz).2.2 L hzL⟩
  -- so the records agree as the table does; their fields are as the line format has them
  have ha : AgreeRecs (Ls.map recOf) :=
    { label := Or.inl fun x hx => let ⟨_, _, hR, _⟩ := hsrc x hx; hR.label
      weight := uniform_of_items T (·.weight) _ LineRec.weight
        (fun x hx => let ⟨r, hr, hR, _⟩ := hsrc x hx; ⟨r, hr, hR.weight⟩) hW
      qid := uniform_of_items T q _ LineRec.qid (fun x hx => let ⟨r, hr, hR, _⟩ := hsrc x hx; ⟨r, hr, hR.qid⟩) hQ
      fields := F.fields.symm.imp (fun h x hx => let ⟨_, _, _, l, hl⟩ := hsrc x hx; h l x hl)
        (fun h x hx => let ⟨_, _, _, l, hl⟩ := hsrc x hx; h l x hl)
      vals := hV.imp (fun hv x hx => let ⟨r, hr, hR, _⟩ := hsrc x hx; hR.vals (hv r hr))
        (fun hv x hx => let ⟨r, hr, hR, _⟩ := hsrc x hx; hR.novals (hv r hr)) }
  refine F.table_recs _ (fun z => exp z.2) recOf (σ.zip T) Ls hLz ?_ (fun _ _ _ _ _ _ => rfl) (fun _ _ => rfl) ?_ ha hb
  · intro z hz p hp
    simp only [List.mem_append, List.mem_map, List.mem_singleton] at hp
    rcases hp with ⟨f, hf, rfl⟩ | rfl
    · exact ⟨clean_noEol (hfill z hz f hf).1, (hfill z hz f hf).2.1⟩
    · exact ⟨clean_noEol (hline z hz).1, (hline z hz).2.1⟩
  · intro z hz L hL
    refine mapM_fillers _ _ _ _ (fun p hp => ?_) ((hline z hz).2.2 L hL)
    obtain ⟨f, hf, rfl⟩ := List.mem_map.mp hp
    exact (hfill z hz f hf).2.2

end DmlcModel.Parse
