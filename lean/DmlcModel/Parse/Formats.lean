/-
The three text parsers as one family: for every `Format` the `ParseBlock` of the repaired source is a
`BlockFormat`, with the line records of that parser.
-/
import DmlcModel.Parse.Fm
import DmlcModel.Parse.Csv

namespace DmlcModel.Parse
open DmlcModel

/-- the bytes a text may hold for parser `f`: csv wants no NUL inside -/
def Format.goodB : Format → UInt8 → Bool
  | .csv _ => nonNulB
  | _ => fun _ => true

def Format.recS (gR gI gQ : Bytes → Res Nat) (gC : Bytes → Res (Nat × Nat)) : Format → Bytes → Res (Option LineRec)
  | .libsvm iw mode => svmRecS gR gI gQ iw mode
  | .libfm iw mode => fmRecS gR gI iw mode
  | .csv prm => csvRecS gC prm

theorem Format.blockFormat {conv : Conv} {gR gI gQ : Bytes → Res Nat} {gC : Bytes → Res (Nat × Nat)}
    (hL : conv.LocalWith gR gI gQ gC) (f : Format) :
    BlockFormat f.goodB (f.parseBlock Fixes.repaired conv) (f.recS gR gI gQ gC) :=
  match f with
  | .libsvm iw mode => svm_blockFormat hL iw mode
  | .libfm iw mode => fm_blockFormat hL iw mode
  | .csv prm => csv_blockFormat hL prm

end DmlcModel.Parse
