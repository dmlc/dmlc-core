/-
`ParserImpl::Next` and `ThreadedParser::Next` (src/data/parser.h) statement by statement: the `data_ptr_` / `data_end_` cursor,
the scan for a non-empty container, `ParseNext` resp. `iter_.Recycle(&tmp_)` then `iter_.Next(&tmp_)`.  The iterator is the list
of cells it will deliver, in order (C07_order).  The lifetime of a block handed out is explicit: it lies in the cell `tmp_`, which
goes back to the iterator only at the start of a later `Next`; with `C07_lent_exclusive` that makes `Value()` stable until then.
-/
import DmlcModel.Parse.Model

namespace DmlcModel.Parse.PNext
open DmlcModel DmlcModel.Parse

/-- the inner loop of both `Next`s:
`while (data_ptr_ < data_end_) { data_ptr_ += 1; if (data[data_ptr_ - 1].Size() != 0) return true; }`.
Result: the new `data_ptr_` and the container whose block is handed out (`none`: loop ran to the end).
Indexing `data` at or beyond its size is undefined behaviour in C++ (`.oob`). -/
def scan (data : List Container) (ptr end_ : Nat) : Res (Nat × Option Container) :=
  if ptr < end_ then
    match data[ptr]? with
    | some c => if c.size != 0 then .ok (ptr + 1, some c) else scan data (ptr + 1) end_
    | none => .error .oob
  else .ok (ptr, none)
termination_by end_ - ptr

/-- `ParserImpl` state: `data_`, `data_ptr_`, `data_end_` -/
structure PI where
  data : List Container := []
  ptr : Nat := 0
  end_ : Nat := 0
  deriving Repr, DecidableEq

/-- `ParserImpl::Next`.  `src` = the container vectors the following `ParseNext` calls fill in (`[]`: `ParseNext`
returns false).  Returns the container whose block `Value()` now shows (`none` = `Next` returned false), the new
state and the rest of the source. -/
def piNext (s : PI) (src : List (List Container)) : Res (Option Container × PI × List (List Container)) :=
  match scan s.data s.ptr s.end_ with
  | .error e => .error e
  | .ok (p, some c) => .ok (some c, { s with ptr := p }, src)
  | .ok (p, none) =>
    match src with
    | [] => .ok (none, { s with ptr := p }, [])
    | d :: rest => piNext { data := d, ptr := 0, end_ := d.length } rest
termination_by src.length

/-- `ThreadedParser` state: `tmp_` (the cell lent by the iterator, `none` = NULL), the cursor, and two ghost
counters: cells taken from / given back to the iterator -/
structure TP where
  tmp : Option (List Container) := none
  ptr : Nat := 0
  end_ : Nat := 0
  taken : Nat := 0
  recycled : Nat := 0
  deriving Repr, DecidableEq

/-- the inner loop of `ThreadedParser::Next` reads `(*tmp_)[…]`: with `tmp_ == NULL` that is a null dereference -/
def tpScan (s : TP) : Res (Nat × Option Container) :=
  match s.tmp with
  | some d => scan d s.ptr s.end_
  | none => if s.ptr < s.end_ then .error .oob else .ok (s.ptr, none)

/-- `if (tmp_ != NULL) iter_.Recycle(&tmp_);` (Recycle nulls the pointer) -/
def tpRecycle (s : TP) : TP :=
  match s.tmp with
  | some _ => { s with tmp := none, recycled := s.recycled + 1 }
  | none => s

/-- `ThreadedParser::Next`.  `cells` = what the following `iter_.Next(&tmp_)` calls deliver (`[]`: returns false,
`tmp_` stays NULL). -/
def tpNext (s : TP) (cells : List (List Container)) : Res (Option Container × TP × List (List Container)) :=
  match tpScan s with
  | .error e => .error e
  | .ok (p, some c) => .ok (some c, { s with ptr := p }, cells)
  | .ok (p, none) =>
    let s1 := tpRecycle { s with ptr := p }
    match cells with
    | [] => .ok (none, s1, [])
    | d :: rest => tpNext { s1 with tmp := some d, ptr := 0, end_ := d.length, taken := s1.taken + 1 } rest
termination_by cells.length

theorem scan_some {data : List Container} {ptr end_ p : Nat} {c : Container}
    (h : scan data ptr end_ = .ok (p, some c)) :
    ptr < p ∧ p ≤ end_ ∧ data[p - 1]? = some c ∧ c.size ≠ 0 := by
  fun_induction scan data ptr end_ with
  | case1 ptr hlt c' hc hs =>
    cases h
    refine ⟨by omega, by omega, by simpa using hc, by simpa using hs⟩
  | case2 ptr hlt c' hc hs ih =>
    have := ih h
    exact ⟨by omega, this.2.1, this.2.2.1, this.2.2.2⟩
  | case3 ptr hlt hc => cases h
  | case4 ptr hge => simp at h

theorem scan_none {data : List Container} {ptr end_ p : Nat}
    (h : scan data ptr end_ = .ok (p, none)) : p = max ptr end_ := by
  fun_induction scan data ptr end_ with
  | case1 ptr hlt c' hc hs => simp at h
  | case2 ptr hlt c' hc hs ih => have := ih h; omega
  | case3 ptr hlt hc => cases h
  | case4 ptr hge =>
    simp only [Except.ok.injEq, Prod.mk.injEq, and_true] at h
    omega

/-! ### `ParserImpl::Next` -/

theorem piNext_some {s : PI} {src : List (List Container)} {c : Container} {s' : PI}
    {src' : List (List Container)} (h : piNext s src = .ok (some c, s', src')) :
    (src'.length < src.length ∨ (src' = src ∧ s'.end_ = s.end_ ∧ s.ptr < s'.ptr)) ∧
      s'.ptr ≤ s'.end_ ∧ 1 ≤ s'.ptr ∧ s'.data[s'.ptr - 1]? = some c ∧ c.size ≠ 0 := by
  fun_induction piNext s src with
  | case1 s src e he => cases h
  | case2 s src p c' hs =>
    cases h
    have := scan_some hs
    exact ⟨Or.inr ⟨rfl, rfl, this.1⟩, this.2.1, by have := this.1; simp only; omega, this.2.2.1, this.2.2.2⟩
  | case3 s p hs => simp at h
  | case4 s p hs d rest ih =>
    have := ih h
    refine ⟨Or.inl ?_, this.2⟩
    rcases this.1 with h1 | ⟨rfl, _, _⟩ <;> simp <;> omega

/-- call `Next` until it returns false.  Fuel-free: every call that returns a container advances the cursor inside the
current vector or consumes the source. -/
def piDrain (s : PI) (src : List (List Container)) : Res (List Container) :=
  match _h : piNext s src with
  | .error e => .error e
  | .ok (none, _, _) => .ok []
  | .ok (some c, s', src') => (piDrain s' src').map (c :: ·)
termination_by (src.length, s.end_ - s.ptr)
decreasing_by
  have := piNext_some _h
  rcases this.1 with h1 | ⟨rfl, h2, h3⟩
  · exact Prod.Lex.left _ _ h1
  · have := this.2.1
    exact Prod.Lex.right _ (by omega)

def nonEmpty (cs : List Container) : List Container := cs.filter fun c => c.size != 0

theorem scan_spec (data : List Container) (ptr : Nat) (hp : ptr ≤ data.length) :
    ∃ p o, scan data ptr data.length = .ok (p, o) ∧ p ≤ data.length ∧
      nonEmpty (data.drop ptr) = o.toList ++ (if o.isSome then nonEmpty (data.drop p) else []) := by
  fun_induction scan data ptr data.length with
  | case1 ptr hlt c hc hs =>
    refine ⟨ptr + 1, some c, rfl, by omega, ?_⟩
    have : data.drop ptr = c :: data.drop (ptr + 1) := by
      rw [List.drop_eq_getElem_cons hlt]; congr 1
      exact (List.getElem?_eq_some_iff.mp hc).2
    simp [this, nonEmpty, hs]
  | case2 ptr hlt c hc hs ih =>
    obtain ⟨p, o, h1, h2, h3⟩ := ih (by omega)
    refine ⟨p, o, h1, h2, ?_⟩
    have : data.drop ptr = c :: data.drop (ptr + 1) := by
      rw [List.drop_eq_getElem_cons hlt]; congr 1
      exact (List.getElem?_eq_some_iff.mp hc).2
    have hs' : (c.size != 0) = false := by simpa using hs
    rw [this, nonEmpty, List.filter_cons, hs']
    simpa [nonEmpty] using h3
  | case3 ptr hlt hc =>
    exact absurd hc (by simp; omega)
  | case4 ptr hge =>
    refine ⟨ptr, none, rfl, hp, ?_⟩
    have : data.drop ptr = [] := List.drop_eq_nil_of_le (by omega)
    simp [this, nonEmpty]

/-! ### `ThreadedParser::Next` -/

def TP.cur (s : TP) : List Container :=
  match s.tmp with
  | some d => d.drop s.ptr
  | none => []

/-- invariant of `ThreadedParser`: with a cell held the cursor is inside it (`data_end_ == tmp_->size()`); without
one the cursor is exhausted (so the scan never dereferences NULL); every cell taken from the iterator has been
given back, except the one held -/
def TP.Wf (s : TP) : Prop :=
  (match s.tmp with
   | some d => s.end_ = d.length ∧ s.ptr ≤ s.end_
   | none => s.end_ ≤ s.ptr) ∧
  s.taken = s.recycled + (if s.tmp.isSome then 1 else 0)

theorem TP.wf_init : ({} : TP).Wf := by simp [TP.Wf]

theorem tpScan_spec (s : TP) (hw : s.Wf) :
    ∃ p o, tpScan s = .ok (p, o) ∧ ({ s with ptr := p } : TP).Wf ∧ (o = none → s.end_ ≤ p) ∧
      nonEmpty s.cur = o.toList ++ (if o.isSome then nonEmpty ({ s with ptr := p } : TP).cur else []) ∧
      (∀ c, o = some c → ∃ d, s.tmp = some d ∧ 1 ≤ p ∧ d[p - 1]? = some c) := by
  have hw1 := hw.1
  have hw2 := hw.2
  unfold tpScan
  cases ht : s.tmp with
  | none =>
    rw [ht] at hw1 hw2
    exact ⟨s.ptr, none, by simp only; rw [if_neg (by omega)], ⟨by simpa [TP.Wf, ht] using hw1, by simpa [ht] using hw2⟩,
      fun _ => hw1, by simp [TP.cur, ht, nonEmpty], by simp⟩
  | some d =>
    rw [ht] at hw1 hw2
    obtain ⟨p, o, h1, h2, h3⟩ := scan_spec d s.ptr (by omega)
    refine ⟨p, o, by simp only; rw [hw1.1, h1], ⟨by simpa [TP.Wf, ht] using ⟨hw1.1, by omega⟩, by simpa [ht] using hw2⟩,
      fun ho => ?_, by simpa [TP.cur, ht] using h3, fun c hc => ?_⟩
    · subst ho; have := scan_none h1; omega
    · subst hc
      have hf := scan_some h1
      exact ⟨d, rfl, by have := hf.1; omega, hf.2.2.1⟩

theorem tpRecycle_spec (s : TP) (hw : s.Wf) (he : s.end_ ≤ s.ptr) :
    (tpRecycle s).tmp = none ∧ (tpRecycle s).taken = (tpRecycle s).recycled ∧ (tpRecycle s).Wf := by
  have hw2 := hw.2
  unfold tpRecycle
  cases ht : s.tmp <;> rw [ht] at hw2 <;> simp [TP.Wf, ht] at hw2 ⊢ <;> omega

theorem tpNext_spec (s : TP) (cells : List (List Container)) (hw : s.Wf) :
    ∃ o s' cells', tpNext s cells = .ok (o, s', cells') ∧ s'.Wf ∧
      nonEmpty (s.cur ++ cells.flatten) =
        o.toList ++ (if o.isSome then nonEmpty (s'.cur ++ cells'.flatten) else []) ∧
      (∀ c, o = some c → ∃ d, s'.tmp = some d ∧ 1 ≤ s'.ptr ∧ d[s'.ptr - 1]? = some c) ∧
      (o = none → s'.tmp = none ∧ cells' = []) := by
  fun_induction tpNext s cells with
  | case1 s cells e he =>
    obtain ⟨p', o, h1, _⟩ := tpScan_spec s hw
    rw [he] at h1; cases h1
  | case2 s cells p c hs =>
    obtain ⟨p', o, h1, h2, _, h3, h4⟩ := tpScan_spec s hw
    rw [hs] at h1; cases h1
    refine ⟨some c, { s with ptr := p }, cells, rfl, h2, ?_, fun c' hc' => h4 c' hc', by simp⟩
    simp only [nonEmpty, List.filter_append] at h3 ⊢
    simp [h3]
  | case3 s p hs s1 =>
    obtain ⟨p', o, h1, h2, he, h3, _⟩ := tpScan_spec s hw
    rw [hs] at h1; cases h1
    obtain ⟨r1, _, r3⟩ := tpRecycle_spec { s with ptr := p } h2 (he rfl)
    exact ⟨none, s1, [], rfl, r3, by simpa [nonEmpty] using h3, by simp, fun _ => ⟨r1, rfl⟩⟩
  | case4 s p hs s1 d rest ih =>
    obtain ⟨p', o, h1, h2, he, h3, _⟩ := tpScan_spec s hw
    rw [hs] at h1; cases h1
    obtain ⟨_, r2, _⟩ := tpRecycle_spec { s with ptr := p } h2 (he rfl)
    have r2' : s1.taken = s1.recycled := r2
    obtain ⟨o, s', cells', e1, e2, e3, e4, e5⟩ := ih ⟨by simp, by simp [r2']⟩
    refine ⟨o, s', cells', e1, e2, ?_, e4, e5⟩
    simp only [nonEmpty, List.filter_append, List.flatten_cons, TP.cur, List.drop_zero] at h3 e3 ⊢
    have h3' : List.filter (fun c => c.size != 0) (match s.tmp with | some d => List.drop s.ptr d | none => []) = [] := by
      simpa using h3
    rw [h3']; exact e3

theorem tpNext_some {s : TP} {cells : List (List Container)} {c : Container} {s' : TP}
    {cells' : List (List Container)} (h : tpNext s cells = .ok (some c, s', cells')) :
    (cells'.length < cells.length ∨ (cells' = cells ∧ s'.end_ = s.end_ ∧ s.ptr < s'.ptr)) ∧ s'.ptr ≤ s'.end_ := by
  fun_induction tpNext s cells with
  | case1 s cells e he => cases h
  | case2 s cells p c' hs =>
    cases h
    unfold tpScan at hs
    cases ht : s.tmp with
    | none => rw [ht] at hs; simp only at hs; split at hs <;> simp at hs
    | some d =>
      rw [ht] at hs
      have := scan_some hs
      exact ⟨Or.inr ⟨rfl, rfl, this.1⟩, this.2.1⟩
  | case3 s p hs s1 => simp at h
  | case4 s p hs s1 d rest ih =>
    have := ih h
    refine ⟨Or.inl ?_, this.2⟩
    rcases this.1 with h1 | ⟨rfl, _, _⟩ <;> simp <;> omega

/-- is the block of `c`, just handed out, inside the cell the parser holds?  (`block_.offset` points into
`(*tmp_)[data_ptr_ - 1]`) – the observation the harness makes on the real object after every `Next` -/
def TP.owns (s : TP) (c : Container) : Bool :=
  match s.tmp with
  | some d => decide (1 ≤ s.ptr) && (d[s.ptr - 1]? == some c)
  | none => false

/-- … each container with the ownership observation made right after the call -/
def tpDrain (s : TP) (cells : List (List Container)) : Res (List (Container × Bool)) :=
  match _h : tpNext s cells with
  | .error e => .error e
  | .ok (none, _, _) => .ok []
  | .ok (some c, s', cells') => (tpDrain s' cells').map ((c, s'.owns c) :: ·)
termination_by (cells.length, s.end_ - s.ptr)
decreasing_by
  have := tpNext_some _h
  rcases this.1 with h1 | ⟨rfl, h2, h3⟩
  · exact Prod.Lex.left _ _ h1
  · have := this.2
    exact Prod.Lex.right _ (by omega)

theorem tpDrain_eq (s : TP) (cells : List (List Container)) (hw : s.Wf) :
    tpDrain s cells = .ok ((nonEmpty (s.cur ++ cells.flatten)).map fun c => (c, true)) := by
  fun_induction tpDrain s cells with
  | case1 s cells e he =>
    obtain ⟨o, s', cells', h1, _⟩ := tpNext_spec s cells hw
    rw [he] at h1; cases h1
  | case2 s cells s' cells' he =>
    obtain ⟨o, s2, c2, h1, _, h3, _⟩ := tpNext_spec s cells hw
    rw [he] at h1
    cases h1
    simp [h3]
  | case3 s cells c s' cells' he ih =>
    obtain ⟨o, s2, c2, h1, h2, h3, h4, _⟩ := tpNext_spec s cells hw
    rw [he] at h1
    cases h1
    obtain ⟨d, hd, hp, hc⟩ := h4 c rfl
    have hown : s'.owns c = true := by simp [TP.owns, hd, hp, hc]
    rw [ih h2, h3, hown]; simp [Except.map]

/-! ### the wrapper simulates the bare parser: a `ThreadedParser` in any state, well formed or not, is a `ParserImpl` whose
`data_` is the held cell (nothing, if none is held) -/

def TP.toPI (s : TP) : PI := { data := s.tmp.getD [], ptr := s.ptr, end_ := s.end_ }

theorem tpScan_eq (s : TP) : tpScan s = scan s.toPI.data s.toPI.ptr s.toPI.end_ := by
  unfold tpScan TP.toPI
  cases s.tmp with
  | some d => rfl
  | none => rw [scan]; simp

/-- the states differ only after the last `Next`, where the wrapper has given its cell back and `ParserImpl` keeps `data_` -/
theorem tpNext_sim (s : TP) (cells : List (List Container)) :
    match tpNext s cells with
    | .error e => piNext s.toPI cells = .error e
    | .ok (some c, s', cells') => piNext s.toPI cells = .ok (some c, s'.toPI, cells')
    | .ok (none, _, _) => ∃ s', piNext s.toPI cells = .ok (none, s', []) := by
  fun_induction tpNext s cells with
  | case1 s cells e he => rw [piNext, ← tpScan_eq, he]
  | case2 s cells p c hs => rw [piNext, ← tpScan_eq, hs]; rfl
  | case3 s p hs s1 => rw [piNext, ← tpScan_eq, hs]; exact ⟨_, rfl⟩
  | case4 s p hs s1 d rest ih => rw [piNext, ← tpScan_eq, hs]; exact ih

theorem piDrain_step (s : PI) (src : List (List Container)) :
    piDrain s src = match piNext s src with
      | .error e => .error e
      | .ok (none, _, _) => .ok []
      | .ok (some c, s', src') => (piDrain s' src').map (c :: ·) := by
  rw [piDrain]; split <;> rename_i h <;> rw [h]

theorem tpDrain_sim (s : TP) (cells : List (List Container)) :
    (tpDrain s cells).map (·.map (·.1)) = piDrain s.toPI cells := by
  fun_induction tpDrain s cells with
  | case1 s cells e he =>
    have h := tpNext_sim s cells
    simp only [he] at h
    rw [piDrain_step, h]; rfl
  | case2 s cells s' cells' he =>
    have h := tpNext_sim s cells
    simp only [he] at h
    obtain ⟨s2, h⟩ := h
    rw [piDrain_step, h]; rfl
  | case3 s cells c s' cells' he ih =>
    have h := tpNext_sim s cells
    simp only [he] at h
    rw [piDrain_step, h]; simp only [← ih]
    cases tpDrain s' cells' <;> rfl

theorem tpDrain_eq_piDrain (src : List (List Container)) :
    (tpDrain {} src).map (·.map (·.1)) = piDrain {} src :=
  tpDrain_sim {} src

theorem piDrain_fresh (src : List (List Container)) : piDrain {} src = .ok (nonEmpty src.flatten) := by
  rw [← tpDrain_eq_piDrain, tpDrain_eq {} src TP.wf_init]
  simp [TP.cur, Except.map, Function.comp_def]

/-- in the form the driver prints -/
theorem tpDrain_owned (src : List (List Container)) (r : List (Container × Bool)) (h : tpDrain {} src = .ok r) :
    ∀ x ∈ r, x.2 = true := by
  rw [tpDrain_eq {} src TP.wf_init] at h
  cases h
  simp

/-! ### the pipelines over the loop models -/

/-- the pipeline with `ParserImpl::Next` as the loop it is: `ParseNext` per chunk (FillData), then `Next` until
false, reading the rows of each block handed out -/
def pipelineLoop (f : Format) (fx : Fixes) (conv : Conv) (nthread : Nat) (chunks : List (Bytes × Nat)) :
    Res (List (List Row)) := do
  let css ← chunks.mapM fun (mem, size) => fillData (f.parseBlock fx conv) mem size nthread
  let cs ← piDrain {} css
  cs.mapM rowsOf

/-- the same through `ThreadedParser`: the iterator delivers the `ParseNext` results in order; each block with the
ownership observation made when `Next` returned -/
def pipelineThreaded (f : Format) (fx : Fixes) (conv : Conv) (nthread : Nat) (chunks : List (Bytes × Nat)) :
    Res (List (List Row × Bool)) := do
  let css ← chunks.mapM fun (mem, size) => fillData (f.parseBlock fx conv) mem size nthread
  let cs ← tpDrain {} css
  cs.mapM fun cb => (rowsOf cb.1).map fun r => (r, cb.2)

end DmlcModel.Parse.PNext
