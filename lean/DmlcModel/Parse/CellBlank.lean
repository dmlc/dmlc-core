/-
A witness for C12_csv: a strtof-like cell conversion (skip blanks, consume the number characters) that meets the two contracts
the theorem asks of the cell conversion (`SkipsBlanks`, `CellExact`).
-/
import DmlcModel.Parse.Render

namespace DmlcModel.Parse
open DmlcModel

def isDecB (b : UInt8) : Bool := 48 ≤ b.toNat && b.toNat ≤ 57
def decVal (s : Bytes) : Nat := (s.takeWhile isDecB).foldl (fun a b => a * 10 + (b.toNat - 48)) 0
def numTok (r : Bytes) : Bytes := (r.dropWhile isBlankB).takeWhile isDigitCharB
/-- nothing consumed when there are no number characters -/
def gCBlank (r : Bytes) : Res (Nat × Nat) :=
  .ok (decVal (numTok r), if (numTok r).isEmpty then 0 else (r.takeWhile isBlankB).length + (numTok r).length)
/-- … as a pointer-level conversion (local by construction) -/
def cellBlank (mem : Bytes) (p : Nat) : Res (Nat × Nat) := (gCBlank (runAt mem p)).map fun vk => (vk.1, p + vk.2)

theorem numTok_lex (bl lex tail : Bytes) (hbl : blanksOnly bl) (hlex : IsLexeme lex)
    (ht : ∀ b, tail.head? = some b → isDelimB b = true) :
    numTok (bl ++ (lex ++ tail)) = lex ∧ (bl ++ (lex ++ tail)).takeWhile isBlankB = bl := by
  obtain ⟨y, r, hy, hyd⟩ := lex_head hlex
  have hnb : ∀ b, (lex ++ tail).head? = some b → isBlankB b = false := by
    intro b hb; rw [hy] at hb; simp at hb; subst hb; exact digit_notBlank _ hyd
  constructor
  · unfold numTok
    rw [dropWhile_append_all _ bl _ hbl hnb, takeWhile_append_stop _ _ _ (fun b hb => delim_notDigit b (ht b hb))]
    exact takeWhile_all _ _ hlex.2
  · rw [takeWhile_append_stop _ _ _ hnb]
    exact takeWhile_all _ _ hbl

theorem gCBlank_skips : SkipsBlanks gCBlank := by
  intro bl lex tail hbl hlex ht
  obtain ⟨h1, h2⟩ := numTok_lex bl lex tail hbl hlex ht
  obtain ⟨h3, h4⟩ := numTok_lex [] lex [] (by intro b hb; simp at hb) hlex (by simp)
  simp only [List.nil_append, List.append_nil] at h3 h4
  have hne : lex.isEmpty = false := by cases lex with | nil => exact absurd rfl hlex.1 | cons _ _ => rfl
  simp [gCBlank, h1, h2, h3, h4, hne, Except.map]

theorem gCBlank_exact : CellExact gCBlank := by
  intro lex tail hlex ht
  obtain ⟨h1, h2⟩ := numTok_lex [] lex tail (by intro b hb; simp at hb) hlex ht
  obtain ⟨h3, h4⟩ := numTok_lex [] lex [] (by intro b hb; simp at hb) hlex (by simp)
  simp only [List.nil_append, List.append_nil] at h1 h2 h3 h4
  have hne : lex.isEmpty = false := by cases lex with | nil => exact absurd rfl hlex.1 | cons _ _ => rfl
  constructor
  · simp [gCBlank, h1, h2, h3, h4]
  · intro v k hk
    simp [gCBlank, h3, h4, hne] at hk
    exact hk.2.symm

end DmlcModel.Parse
