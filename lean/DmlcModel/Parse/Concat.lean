/-
The generic step from "a block is the container built from the records of its code lines" (`BlockFormat`,
`LineFormat`) to "the rows of a block are the concatenation of the rows of its lines parsed alone", shared by the
three parsers.
-/
import DmlcModel.Parse.Block
import DmlcModel.Parse.Rows

namespace DmlcModel.Parse
open DmlcModel

theorem gbWeight_ok (nw no : Nat) (h : nw = 0 ∨ nw + 1 = no) (hb : no < 2 ^ 64) :
    Gen.Parse.gbWeightCheck nw no = true := by
  unfold Gen.Parse.gbWeightCheck
  rcases h with h | h <;> simp [u64, h] <;> omega

theorem gbQid_ok (nw no : Nat) (h : nw = 0 ∨ nw + 1 = no) (hb : no < 2 ^ 64) :
    Gen.Parse.gbQidCheck nw no = true := by
  unfold Gen.Parse.gbQidCheck
  rcases h with h | h <;> simp [u64, h] <;> omega

theorem gbField_ok (nf ni : Nat) (h : nf = 0 ∨ nf = ni) : Gen.Parse.gbFieldCheck nf ni = true := by
  unfold Gen.Parse.gbFieldCheck
  rcases h with h | h <;> simp [h]

theorem gbValue_ok (last nv : Nat) (h : last = nv ∨ nv = 0) : Gen.Parse.gbValueCheck last nv = true := by
  unfold Gen.Parse.gbValueCheck
  rcases h with h | h <;> simp [h]

theorem uniform_length (g : LineRec → Option Nat) (recs : List LineRec) (h : Uniform g recs) :
    (recs.flatMap (fun r => (g r).toList)).length = 0 ∨ (recs.flatMap (fun r => (g r).toList)).length = recs.length := by
  rcases h with h | h
  · exact Or.inr (flatMap_toList_some_length g recs h)
  · exact Or.inl (by rw [List.flatMap_eq_nil_iff.mpr fun r hr => by rw [h r hr]; rfl]; rfl)

theorem uniformL_length (f : LineRec → List Nat) (recs : List LineRec) (h : UniformL f recs) :
    (recs.flatMap f).length = 0 ∨ (recs.flatMap f).length = (recs.flatMap (·.idx)).length :=
  h.symm.imp (fun h => by simp [List.flatMap_eq_nil_iff.mpr h]) (flatMap_length_eq f recs)

theorem getLast_sums (n : Nat) (recs : List LineRec) :
    (n :: sums n recs).getLast? = some (n + (recs.flatMap (·.idx)).length) := by
  induction recs generalizing n with
  | nil => simp [sums]
  | cons r rs ih =>
    have := ih (n + r.idx.length)
    simp only [sums, List.getLast?_cons_cons, this, List.flatMap_cons, List.length_append]
    congr 1; omega

theorem getBlockOk_build_iff (recs : List LineRec) :
    getBlockOk (build recs) = true ↔
      ((build recs).label.length = 0 ∨ (build recs).label.length = recs.length) ∧
      Gen.Parse.gbValueCheck (recs.flatMap (·.idx)).length (build recs).value.length = true ∧
      Gen.Parse.gbWeightCheck (build recs).weight.length (recs.length + 1) = true ∧
      Gen.Parse.gbQidCheck (build recs).qid.length (recs.length + 1) = true ∧
      Gen.Parse.gbFieldCheck (build recs).field.length (recs.flatMap (·.idx)).length = true := by
  -- the last offset is the number of entries, so the CHECK `offset.back() == index.size()` holds
  have hlast := getLast_sums 0 recs
  simp only [Nat.zero_add] at hlast
  simp only [getBlockOk, build_eq, hlast, List.length_cons, sums_length, beq_self_eq_true, Bool.and_true,
    Bool.and_eq_true, Bool.or_eq_true, beq_iff_eq, Nat.add_right_cancel_iff, and_assoc]

theorem getBlockOk_build (recs : List LineRec) (h : AgreeRecs recs) (hb : recs.length + 1 < 2 ^ 64) :
    getBlockOk (build recs) = true := by
  have hl := uniform_length _ recs h.label
  have hw := uniform_length _ recs h.weight
  have hq := uniform_length _ recs h.qid
  have hf := uniformL_length _ recs h.fields
  have hv := uniformL_length _ recs h.vals
  rw [getBlockOk_build_iff]; simp only [build_eq]
  exact ⟨hl, gbValue_ok _ _ (hv.symm.imp_left Eq.symm), gbWeight_ok _ _ (hw.imp_right (by omega)) (by omega),
    gbQid_ok _ _ (hq.imp_right (by omega)) (by omega), gbField_ok _ _ hf⟩

theorem rowsOf_build (recs : List LineRec) (h : AgreeRecs recs) (hb : recs.length + 1 < 2 ^ 64) :
    rowsOf (build recs) = .ok (recs.map toRow) := by
  unfold rowsOf
  rw [getBlockOk_build recs h hb, if_pos rfl, build_size, List.range_eq_range']
  simpa using mapM_range' (rowAt (build recs)) (recs.map toRow) 0 fun i hi => by
    simpa using rowAt_build recs h i (by simpa using hi)

theorem rowsOf_build_nil : rowsOf (build []) = .ok [] :=
  rowsOf_build [] ⟨Or.inr (by simp), Or.inr (by simp), Or.inr (by simp), Or.inr (by simp), Or.inr (by simp)⟩ (by simp)

theorem eolSplitGo_mem (s cur : Bytes) :
    ∀ l ∈ eolSplitGo s cur, (∀ b ∈ l, b ∈ s ∧ isEolB b = false ∨ b ∈ cur) ∧ l.length ≤ s.length + cur.length := by
  induction s generalizing cur with
  | nil => intro l hl; simp [eolSplitGo] at hl; subst hl; simp
  | cons x s ih =>
    intro l hl
    by_cases hx : isEolB x = true
    · simp only [eolSplitGo, hx, if_true, List.mem_cons] at hl
      rcases hl with rfl | hl
      · exact ⟨fun b hb => Or.inr (by simpa using hb), by simp⟩
      · obtain ⟨h1, h2⟩ := ih [] l hl
        exact ⟨fun b hb => (h1 b hb).elim (fun h => Or.inl ⟨List.mem_cons_of_mem x h.1, h.2⟩) (by simp),
          by simp at h2 ⊢; omega⟩
    · simp only [eolSplitGo, hx, if_false, Bool.false_eq_true] at hl
      obtain ⟨h1, h2⟩ := ih (x :: cur) l hl
      refine ⟨fun b hb => ?_, by simp at h2 ⊢; omega⟩
      rcases h1 b hb with h | h
      · exact Or.inl ⟨List.mem_cons_of_mem x h.1, h.2⟩
      · rcases List.mem_cons.mp h with rfl | h
        · exact Or.inl ⟨by simp, by simpa using hx⟩
        · exact Or.inr h

theorem eolSplit_noEol (t : Bytes) : ∀ l ∈ eolSplit t, ∀ b ∈ l, isEolB b = false := fun l hl b hb =>
  ((eolSplitGo_mem t [] l hl).1 b hb).elim (·.2) (by simp)

theorem eolSplit_sub (t : Bytes) : ∀ l ∈ eolSplit t, (∀ b ∈ l, b ∈ t) ∧ l.length ≤ t.length := fun l hl =>
  ⟨fun b hb => ((eolSplitGo_mem t [] l hl).1 b hb).elim (·.1) (by simp), by simpa using (eolSplitGo_mem t [] l hl).2⟩

theorem eolSplit_noEolLine (l : Bytes) (h : ∀ b ∈ l, isEolB b = false) : eolSplit l = [l] := by
  have : ∀ cur, eolSplitGo l cur = [cur.reverse ++ l] := by
    induction l with
    | nil => intro cur; simp [eolSplitGo]
    | cons b l ih =>
      intro cur
      simp only [eolSplitGo, h b (by simp), Bool.false_eq_true, if_false]
      rw [ih (fun x hx => h x (by simp [hx]))]; simp
  simpa [eolSplit] using this []

theorem codeLines_single (b : UInt8) (s : Bytes) (h : ∀ x ∈ s, isEolB x = false) : codeLines (b :: s) = [b :: s] := by
  rw [codeLines_cons, takeWhile_all _ _ (fun x hx => by simp [notEolB, h x hx]),
    dropWhile_all _ _ (fun x hx => by simp [notEolB, h x hx])]; rfl

theorem codeLinesGo_length (s cur : Bytes) : (codeLinesGo s cur).length ≤ s.length + 1 := by
  induction s generalizing cur with
  | nil => simp [codeLinesGo]
  | cons b s ih =>
    by_cases hb : isEolB b = true
    · have := ih [b]; simp [codeLinesGo, hb]; omega
    · have := ih (b :: cur); simp [codeLinesGo, hb]; omega

theorem codeLines_length (t : Bytes) : (codeLines t).length ≤ t.length := by
  cases t with
  | nil => simp [codeLines]
  | cons b s => have := codeLinesGo_length s [b]; simpa [codeLines] using this

theorem recsOf_length {α : Type} {f : Bytes → Res (Option α)} {t : Bytes} {ls : List α}
    (h : recsOf f t = .ok ls) : ls.length ≤ t.length := by
  obtain ⟨outs, ho, rfl⟩ := recsOf_ok_iff.mp h
  have h1 := List.length_filterMap_le id outs
  have h2 := mapM_length _ _ _ ho
  have h3 := codeLines_length t
  omega

/-- rows agree on which optional parts they carry (values: among the rows that have entries) -/
structure AgreeRows (rows : List Row) : Prop where
  label : (∀ r ∈ rows, r.label.isSome = true) ∨ (∀ r ∈ rows, r.label = none)
  weight : (∀ r ∈ rows, r.weight.isSome = true) ∨ (∀ r ∈ rows, r.weight = none)
  qid : (∀ r ∈ rows, r.qid.isSome = true) ∨ (∀ r ∈ rows, r.qid = none)
  value : (∀ r ∈ rows, r.index ≠ [] → r.value.isSome = true) ∨ (∀ r ∈ rows, r.value = none)

theorem AgreeRows.sub {a b : List Row} (h : AgreeRows b) (hs : ∀ r ∈ a, r ∈ b) : AgreeRows a :=
  ⟨all_or_all_sub h.label hs, all_or_all_sub h.weight hs, all_or_all_sub h.qid hs, all_or_all_sub h.value hs⟩

theorem AgreeRows.left {a b : List Row} (h : AgreeRows (a ++ b)) : AgreeRows a :=
  h.sub fun _ hr => List.mem_append_left b hr

theorem AgreeRows.right {a b : List Row} (h : AgreeRows (a ++ b)) : AgreeRows b :=
  h.sub fun _ hr => List.mem_append_right a hr

def single (recS : Bytes → Res (Option LineRec)) (l : Bytes) : Res (List Row) :=
  (recS l).bind fun o => rowsOf (build o.toList)

/-- what the per-parser lemmas establish about `rows t` = rows of `ParseBlock` on the text `t`, for texts whose
bytes all satisfy `good` (csv: no NUL inside the text): when every code line has a record, the block is the
container built from the records; a line alone is parsed to (the container of) its record.
`t.length + 2 < 2 ^ 64`: the proofs use `+ 1` (`offset` has one entry more than there are rows, at most one row per byte, and
the closing CHECKs compare the sizes in 64 bits); the second unit is that of the fixed C11 statements, where the text stands in
`t ++ [0]`.  `pieces_at_eol` asks `+ 3` only because the fixed `C11_pieces_at_eol_statement` does. -/
structure LineFormat (good : UInt8 → Bool) (rows : Bytes → Res (List Row)) (recS : Bytes → Res (Option LineRec)) : Prop where
  block_ok : ∀ t outs, (∀ b ∈ t, good b = true) → t.length + 2 < 2 ^ 64 → (codeLines t).mapM recS = .ok outs →
    rows t = rowsOf (build (outs.filterMap id))
  rows_single : ∀ l, (∀ b ∈ l, good b = true) → l.length + 2 < 2 ^ 64 → (∀ b ∈ l, isEolB b = false) →
    rows l = single recS l
  strip : ∀ L, recS (stripEol L) = recS L
  nil : recS [] = .ok none
  fields : (∀ L r, recS L = .ok (some r) → r.fields = []) ∨
    (∀ L r, recS L = .ok (some r) → r.fields.length = r.idx.length)

theorem map_some_elim {α : Type} {x : Res (Option α)} {f : α → LineRec} {r : LineRec}
    (h : x.map (Option.map f) = .ok (some r)) : ∃ l, r = f l := by
  rcases x with _ | _ | l
  · cases h
  · cases h
  · exact ⟨l, by cases h; rfl⟩

/-- the rows of `ParseBlock` + `GetBlock` + `operator[]` on a NUL-terminated text -/
def textRows (parse : Bytes → Nat → Nat → Res Container) (t : Bytes) : Res (List Row) :=
  (parse (t ++ [0]) 0 t.length).bind rowsOf

/-- what the per-parser lemmas establish about a `ParseBlock`: on a block `[a, b)` of any memory whose end is
harmless (`TermOr`) and whose bytes satisfy `good` it builds the container of the records of the code lines -/
structure BlockFormat (good : UInt8 → Bool) (parse : Bytes → Nat → Nat → Res Container)
    (recS : Bytes → Res (Option LineRec)) : Prop where
  at_eq : ∀ {mem : Bytes} {a b : Nat} {t : Bytes}, At mem a b t → TermOr mem b t → b < mem.length → b < 2 ^ 64 →
    (∀ x ∈ t, good x = true) → t.length + 2 < 2 ^ 64 →
    (parse mem a b).bind rowsOf = (recsOf recS t).bind fun recs => rowsOf (build recs)
  strip : ∀ L, recS (stripEol L) = recS L
  nil : recS [] = .ok none
  fields : (∀ L r, recS L = .ok (some r) → r.fields = []) ∨
    (∀ L r, recS L = .ok (some r) → r.fields.length = r.idx.length)

section
variable {good : UInt8 → Bool} {parse : Bytes → Nat → Nat → Res Container} {recS : Bytes → Res (Option LineRec)}
  (B : BlockFormat good parse recS)
include B

theorem BlockFormat.text_eq (t : Bytes) (hg : ∀ b ∈ t, good b = true) (hb : t.length + 2 < 2 ^ 64) :
    textRows parse t = (recsOf recS t).bind fun recs => rowsOf (build recs) :=
  B.at_eq (At.whole t [0]) (Or.inl (term_whole t)) (by simp) (by simp; omega) hg hb

theorem BlockFormat.lineFormat : LineFormat good (textRows parse) recS := by
  refine ⟨fun t outs hg hb ho => by rw [B.text_eq t hg hb, recsOf_ok_iff.mpr ⟨outs, ho, rfl⟩]; rfl,
    fun l hg hb h => ?_, B.strip, B.nil, B.fields⟩
  cases l with
  | nil =>
    rw [B.text_eq [] (by simp) (by simp)]
    simp [recsOf, codeLines, single, B.nil, pure, Except.pure, Except.bind, Except.map]
  | cons b s =>
    rw [B.text_eq (b :: s) hg hb, recsOf, codeLines_single b s fun x hx => h x (by simp [hx])]
    simp only [List.mapM_cons, List.mapM_nil, single, bind, Except.bind, pure, Except.pure]
    cases recS (b :: s) with
    | error e => rfl
    | ok o => cases o <;> rfl

/-- the memory around a block does not matter -/
theorem BlockFormat.at_rows {mem : Bytes} {a b : Nat} {t : Bytes} (hAt : At mem a b t) (hT : TermOr mem b t)
    (hr : b < mem.length) (hb : b < 2 ^ 64) (hg : ∀ x ∈ t, good x = true) (hlen : t.length + 2 < 2 ^ 64) :
    (parse mem a b).bind rowsOf = textRows parse t := by
  rw [B.at_eq hAt hT hr hb hg hlen, B.text_eq t hg hlen]

end

theorem vals_of_single_ok (r : LineRec) (rs : List Row) (h : rowsOf (build [r]) = .ok rs) :
    r.vals.length = r.idx.length ∨ r.vals = [] := by
  unfold rowsOf at h
  by_cases hg : getBlockOk (build [r]) = true
  · have hv := ((getBlockOk_build_iff [r]).mp hg).2.1
    simp only [build_eq, Gen.Parse.gbValueCheck, List.flatMap_cons, List.flatMap_nil, List.append_nil, Bool.or_eq_true,
      beq_iff_eq] at hv
    exact hv.imp Eq.symm List.eq_nil_of_length_eq_zero
  · simp [hg] at h

theorem agreeRecs_single (r : LineRec) (hv : r.vals.length = r.idx.length ∨ r.vals = [])
    (hf : r.fields.length = r.idx.length ∨ r.fields = []) : AgreeRecs [r] := by
  refine ⟨?_, ?_, ?_, ?_, ?_⟩
  · cases h : r.label <;> simp [Uniform, h]
  · cases h : r.weight <;> simp [Uniform, h]
  · cases h : r.qid <;> simp [Uniform, h]
  · rcases hf with h | h <;> simp [UniformL, h]
  · rcases hv with h | h <;> simp [UniformL, h]

theorem outs_rows (outs : List (Option LineRec)) (rss : List (List Row))
    (hf : ∀ r, some r ∈ outs → (r.fields.length = r.idx.length ∨ r.fields = []))
    (h : outs.mapM (fun o => rowsOf (build o.toList)) = .ok rss) :
    rss.flatten = (outs.filterMap id).map toRow ∧
      ∀ r ∈ outs.filterMap id, r.vals.length = r.idx.length ∨ r.vals = [] := by
  induction outs generalizing rss with
  | nil => cases mapM_nil_ok_iff.mp h; simp
  | cons o outs ih =>
    obtain ⟨rs, rss', ho, hr, rfl⟩ := mapM_cons_ok_iff.mp h
    obtain ⟨i1, i2⟩ := ih rss' (fun r hr' => hf r (by simp [hr'])) hr
    cases o with
    | none =>
      simp only [Option.toList_none, rowsOf_build_nil] at ho
      cases ho
      exact ⟨by simpa using i1, fun r hr => i2 r (by simpa using hr)⟩
    | some r =>
      simp only [Option.toList_some] at ho
      have hv := vals_of_single_ok r rs ho
      rw [rowsOf_build [r] (agreeRecs_single r hv (hf r (by simp))) (by simp)] at ho
      cases ho
      refine ⟨by simp [i1], fun r' hr' => ?_⟩
      simp at hr'
      rcases hr' with rfl | hr'
      · exact hv
      · exact i2 r' (by simpa using hr')

theorem uniform_of_rows {recs : List LineRec} (g : LineRec → Option Nat) (g' : Row → Option Nat)
    (hg : ∀ r, g' (toRow r) = g r)
    (h : (∀ r ∈ recs.map toRow, (g' r).isSome = true) ∨ (∀ r ∈ recs.map toRow, g' r = none)) : Uniform g recs :=
  h.imp (fun h r hr => hg r ▸ h _ (List.mem_map_of_mem hr)) (fun h r hr => hg r ▸ h _ (List.mem_map_of_mem hr))

theorem agreeRecs_of_rows (recs : List LineRec) (ha : AgreeRows (recs.map toRow))
    (hv : ∀ r ∈ recs, r.vals.length = r.idx.length ∨ r.vals = [])
    (hf : UniformL (·.fields) recs) : AgreeRecs recs := by
  refine ⟨uniform_of_rows _ _ (fun _ => rfl) ha.label, uniform_of_rows _ _ (fun _ => rfl) ha.weight,
    uniform_of_rows _ _ (fun _ => rfl) ha.qid, hf, ?_⟩
  -- a record without entries has no values either way; one with entries shows its values in its row
  refine ha.value.imp (fun h r hr => ?_) (fun h r hr => ?_)
  · -- every row with entries shows values: the record has a value for each entry
    have h1 := h (toRow r) (List.mem_map_of_mem hr)
    rcases hv r hr with e | e
    · exact e
    · by_cases he : r.idx = []
      · simp [e, he]
      · simp [toRow, e] at h1; exact absurd h1 he
  · -- no row shows values: the record has none
    have h1 := h (toRow r) (List.mem_map_of_mem hr)
    rcases hv r hr with e | e
    · by_cases he : r.idx = []
      · rw [he] at e; exact List.eq_nil_of_length_eq_zero (by simpa using e)
      · by_cases hve : r.vals = []
        · exact hve
        · simp [toRow, he, hve] at h1
    · exact e

/-- what "every line parses alone and the rows agree" (the hypotheses of the C11 statements) says of a text
(`LineFormat.parses_of_lines`); cutting such a text at end-of-line bytes cuts `recs` (`LineFormat.cut`) -/
structure Parses (good : UInt8 → Bool) (recS : Bytes → Res (Option LineRec)) (t : Bytes) (recs : List LineRec) : Prop where
  ok : ∀ b ∈ t, good b = true
  bound : t.length + 2 < 2 ^ 64
  eq : recsOf recS t = .ok recs
  agree : AgreeRecs recs

theorem Parses.sub {good : UInt8 → Bool} {recS : Bytes → Res (Option LineRec)} {t s : Bytes} {recs rs : List LineRec}
    (h : Parses good recS t recs) (hs : s.Sublist t) (hr : recsOf recS s = .ok rs) (hm : ∀ r ∈ rs, r ∈ recs) :
    Parses good recS s rs :=
  ⟨fun b hb => h.ok b (hs.subset hb), by have := hs.length_le; have := h.bound; omega, hr, h.agree.sub hm⟩

section
variable {good : UInt8 → Bool} {rows : Bytes → Res (List Row)} {recS : Bytes → Res (Option LineRec)}
  (F : LineFormat good rows recS)
include F

theorem LineFormat.rows_none (l : Bytes) (hg : ∀ b ∈ l, good b = true) (hb : l.length + 2 < 2 ^ 64)
    (hl : ∀ b ∈ l, isEolB b = false) (h : recS l = .ok none) : rows l = .ok [] := by
  rw [F.rows_single l hg hb hl, single, h]; exact rowsOf_build_nil

theorem LineFormat.rows_empty : rows [] = .ok [] :=
  F.rows_none [] (by simp) (by simp) (by simp) F.nil

theorem LineFormat.rows_of_parses {t : Bytes} {recs : List LineRec} (h : Parses good recS t recs) :
    rows t = .ok (recs.map toRow) := by
  obtain ⟨outs, ho, rfl⟩ := recsOf_ok_iff.mp h.eq
  rw [F.block_ok t outs h.ok h.bound ho,
    rowsOf_build _ h.agree (by have := recsOf_length h.eq; have := h.bound; omega)]

/-- the pieces `x | e y` (thread slices) and `x e | y` (chunks, parts) -/
theorem LineFormat.cut {x y : Bytes} {e : UInt8} {recs : List LineRec} (he : isEolB e = true)
    (h : Parses good recS (x ++ e :: y) recs) :
    ∃ rx ry, recs = rx ++ ry ∧ Parses good recS x rx ∧ Parses good recS (e :: y) ry ∧
      Parses good recS (x ++ [e]) rx ∧ Parses good recS y ry := by
  obtain ⟨rx, ry, hx, hy, rfl⟩ := (recsOf_append_eol he).mp h.eq
  have hy' := recsOf_eol_cons F.strip F.nil he y ▸ hy
  have hxe : recsOf recS (x ++ [e]) = .ok rx :=
    (recsOf_append_eol he).mpr ⟨rx, [], hx, recsOf_eol_cons F.strip F.nil he [], by simp⟩
  exact ⟨rx, ry, rfl, h.sub (by simp) hx (by simp +contextual), h.sub (by simp) hy (by simp +contextual),
    h.sub (by simp) hxe (by simp +contextual), h.sub (by simp) hy' (by simp +contextual)⟩

/-- what `BackFindEndLine` returns: a cut in front of an end-of-line byte, or at either end of the text -/
theorem LineFormat.split {x y : Bytes} {recs : List LineRec}
    (hxy : x = [] ∨ ∀ e, y.head? = some e → isEolB e = true) (h : Parses good recS (x ++ y) recs) :
    ∃ rx ry, recs = rx ++ ry ∧ Parses good recS x rx ∧ Parses good recS y ry := by
  have hnil : Parses good recS [] [] := h.sub (List.nil_sublist _) (recsOf_nil recS) (by simp)
  rcases hxy with rfl | hy
  · exact ⟨[], recs, rfl, hnil, h⟩
  · cases y with
    | nil => exact ⟨recs, [], by simp, by simpa using h, hnil⟩
    | cons e y =>
      obtain ⟨rx, ry, e1, hx, hy', _, _⟩ := F.cut (hy e rfl) h
      exact ⟨rx, ry, e1, hx, hy'⟩

theorem LineFormat.parses_of_lines (t : Bytes) (hg : ∀ b ∈ t, good b = true) (hb : t.length + 2 < 2 ^ 64)
    (rss : List (List Row)) (hl : (eolSplit t).mapM rows = .ok rss) (ha : AgreeRows rss.flatten) :
    ∃ recs, Parses good recS t recs ∧ rss.flatten = recs.map toRow := by
  have hl1 : (eolSplit t).mapM (single recS) = .ok rss := by
    rw [← hl]; symm
    exact mapM_congr _ _ _ (fun l hl => F.rows_single l (fun b hb' => hg b ((eolSplit_sub t l hl).1 b hb'))
      (by have := (eolSplit_sub t l hl).2; omega) (eolSplit_noEol t l hl))
  have hnil : single recS [] = .ok [] := by simp [single, F.nil, Except.bind, rowsOf_build_nil]
  -- move to the code lines: a leading empty line gives no row, a leading end-of-line byte does not matter
  obtain ⟨pre, hpre, hsplit⟩ := codeLines_strip t
  rw [hsplit] at hl1
  obtain ⟨r1, rss', h1, hl2, rfl⟩ := mapM_append_ok_iff.mp hl1
  have hr1 : r1.flatten = [] := by
    rcases hpre with rfl | rfl
    · cases mapM_nil_ok_iff.mp h1; rfl
    · obtain ⟨y, ys, hy, hys, rfl⟩ := mapM_cons_ok_iff.mp h1
      cases mapM_nil_ok_iff.mp hys; rw [hnil] at hy; cases hy; rfl
  rw [List.mapM_map, mapM_congr _ (single recS) _ (fun L _ => by simp [single, F.strip])] at hl2
  rw [List.flatten_append, hr1] at ha ⊢
  obtain ⟨outs, ho1, ho2⟩ := mapM_bind_split recS (fun o => rowsOf (build o.toList)) _ _ hl2
  have hrec : ∀ r ∈ outs.filterMap id, ∃ L, recS L = .ok (some r) := fun r hr => by
    obtain ⟨L, _, hL⟩ := mapM_mem recS _ _ ho1 (some r) (by simpa using hr)
    exact ⟨L, hL⟩
  have hU : UniformL (·.fields) (outs.filterMap id) :=
    F.fields.symm.imp (fun h r hr => let ⟨L, hL⟩ := hrec r hr; h L r hL) (fun h r hr => let ⟨L, hL⟩ := hrec r hr; h L r hL)
  obtain ⟨hrows, hvals⟩ := outs_rows outs rss'
    (fun r hr => hU.imp (fun h => h r (by simpa using hr)) (fun h => h r (by simpa using hr))) ho2
  exact ⟨_, ⟨hg, hb, recsOf_ok_iff.mpr ⟨outs, ho1, rfl⟩, agreeRecs_of_rows _ (hrows ▸ ha) hvals hU⟩, hrows⟩

/-- **generic core of C11**: the rows of a block are the concatenation of the rows of its lines parsed alone -/
theorem LineFormat.concat_of_lines (t : Bytes) (hg : ∀ b ∈ t, good b = true) (hb : t.length + 2 < 2 ^ 64) (rss : List (List Row))
    (hl : (eolSplit t).mapM rows = .ok rss) (ha : AgreeRows rss.flatten) :
    rows t = .ok rss.flatten :=
  let ⟨_, hp, hr⟩ := F.parses_of_lines t hg hb rss hl ha
  hr ▸ F.rows_of_parses hp

end

end DmlcModel.Parse
