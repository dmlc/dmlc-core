/-
ParseTriple and LibFMParser::ParseBlock as a `BlockFormat`.
-/
import DmlcModel.Parse.Svm

namespace DmlcModel.Parse
open DmlcModel

/-- `ParseTriple` (repaired source) on the bytes `s` of the range -/
def tripleS (g1 g2 g3 : Bytes → Res Nat) (s : Bytes) : Res PairS :=
  match s.dropWhile notDigitCharB with
  | [] => .ok { r := 0, rest := [] }
  | d :: s1 => do
    let v1 ← g1 ((d :: s1).takeWhile nonStopB)
    match ((d :: s1).dropWhile isDigitCharB).dropWhile isBlankB with
    | [] => .ok { r := 1, rest := [], v1 := v1 }
    | b :: s4 =>
      if b != 58 then .ok { r := 1, rest := b :: s4, v1 := v1 } else
      match s4.dropWhile notDigitCharB with
      | [] => .ok { r := 1, rest := [], v1 := v1 }
      | d2 :: s5 => do
        let v2 ← g2 ((d2 :: s5).takeWhile nonStopB)
        match ((d2 :: s5).dropWhile isDigitCharB).dropWhile isBlankB with
        | [] => .ok { r := 2, rest := [], v1 := v1, v2 := v2 }
        | b2 :: s7 =>
          if b2 != 58 then .ok { r := 2, rest := b2 :: s7, v1 := v1, v2 := v2 } else
          match s7.dropWhile notDigitCharB with
          | [] => .ok { r := 2, rest := [], v1 := v1, v2 := v2 }
          | d3 :: s8 => do
            let v3 ← g3 ((d3 :: s8).takeWhile nonStopB)
            .ok { r := 3, rest := (d3 :: s8).dropWhile isDigitCharB, v1 := v1, v2 := v2, v3 := v3 }

/-- The twin of `parsePair_at` with one more `blank* ':' number` round, as ParseTriple copies ParsePair in strtonum.h; a shared
round would first have to be proved equal to both nested matches and both model functions, which is more text than this. -/
theorem parseTriple_at {c1 c2 c3 : Bytes → Nat → Res Nat} {g1 g2 g3 : Bytes → Res Nat}
    (hc1 : LocalFn c1 g1) (hc2 : LocalFn c2 g2) (hc3 : LocalFn c3 g3)
    {mem : Bytes} {p stop : Nat} {s : Bytes} (h : At mem p stop s) (ht : Term mem stop) :
    parseTriple Fixes.repaired c1 c2 c3 mem p stop = (tripleS g1 g2 g3 s).map (PairS.out stop) := by
  have hfx : Fixes.repaired.tripleGuard = true := rfl
  unfold parseTriple tripleS
  cases hs1 : s.dropWhile notDigitCharB with
  | nil => simp [scan_nil h hs1, PairS.out, Except.map, bind, Except.bind, pure, Except.pure]
  | cons d s1 =>
    obtain ⟨q1, e1, hne1, a1⟩ := scan_cons h hs1
    obtain ⟨q2, e2, a2⟩ := scan_at (pred := isDigitCharB) a1
    simp only [e1, hne1, if_false, e2, conv_at hc1 a1 ht (digit_of_dropWhile hs1), bind, Except.bind, hfx]
    cases g1 ((d :: s1).takeWhile nonStopB) with
    | error e => rfl
    | ok v1 =>
      cases hs3 : ((d :: s1).dropWhile isDigitCharB).dropWhile isBlankB with
      | nil => simp [scan_nil a2 hs3, PairS.out, Except.map, pure, Except.pure]
      | cons b s4 =>
        obtain ⟨q3, e3, hne3, a3⟩ := scan_cons a2 hs3
        simp only [e3, hne3, if_false, byteAt_at a3]
        by_cases hb : (b != 58) = true
        · simp [hb, PairS.out, Except.map, pure, Except.pure, a3.pos_eq]
        · simp only [hb]
          cases hs5 : s4.dropWhile notDigitCharB with
          | nil => simp [scan_nil a3.tail hs5, PairS.out, Except.map, pure, Except.pure]
          | cons d2 s5 =>
            obtain ⟨q4, e4, hne4, a4⟩ := scan_cons a3.tail hs5
            obtain ⟨q5, e5, a5⟩ := scan_at (pred := isDigitCharB) a4
            simp only [e4, hne4, e5, conv_at hc2 a4 ht (digit_of_dropWhile hs5), Bool.true_and, decide_false,
              Bool.false_eq_true, if_false]
            cases g2 ((d2 :: s5).takeWhile nonStopB) with
            | error e => simp [Except.map]
            | ok v2 =>
              cases hs6 : ((d2 :: s5).dropWhile isDigitCharB).dropWhile isBlankB with
              | nil => simp [scan_nil a5 hs6, PairS.out, Except.map, pure, Except.pure]
              | cons b2 s7 =>
                obtain ⟨q6, e6, hne6, a6⟩ := scan_cons a5 hs6
                simp only [e6, hne6, if_false, byteAt_at a6]
                by_cases hb2 : (b2 != 58) = true
                · simp [hb2, PairS.out, Except.map, pure, Except.pure, a6.pos_eq]
                · simp only [hb2]
                  cases hs8 : s7.dropWhile notDigitCharB with
                  | nil => simp [scan_nil a6.tail hs8, PairS.out, Except.map, pure, Except.pure]
                  | cons d3 s8 =>
                    obtain ⟨q7, e7, hne7, a7⟩ := scan_cons a6.tail hs8
                    obtain ⟨q8, e8, a8⟩ := scan_at (pred := isDigitCharB) a7
                    simp only [e7, hne7, e8, conv_at hc3 a7 ht (digit_of_dropWhile hs8), decide_false,
                      Bool.false_eq_true, if_false]
                    cases g3 ((d3 :: s8).takeWhile nonStopB) with
                    | error e => simp [Except.map]
                    | ok v3 => simp [PairS.out, Except.map, pure, Except.pure, a8.pos_eq]

theorem tripleS_suffix {g1 g2 g3 : Bytes → Res Nat} {s : Bytes} {o : PairS} (h : tripleS g1 g2 g3 s = .ok o) :
    o.rest <:+ s := by
  unfold tripleS at h
  split at h
  · cases h; exact List.nil_suffix
  · rename_i d s1 hs1
    have h1 : (d :: s1) <:+ s := hs1 ▸ List.dropWhile_suffix _
    obtain ⟨v1, -, h⟩ := bind_ok_iff.mp h
    split at h
    · cases h; exact List.nil_suffix
    · rename_i b s4 hs3
      have h3 : (b :: s4) <:+ s :=
        (hs3 ▸ List.dropWhile_suffix _).trans ((List.dropWhile_suffix _).trans h1)
      split at h
      · cases h; exact h3
      · split at h
        · cases h; exact List.nil_suffix
        · rename_i d2 s5 hs5
          have h5 : (d2 :: s5) <:+ s :=
            (hs5 ▸ List.dropWhile_suffix _).trans ((List.suffix_cons b s4).trans h3)
          obtain ⟨v2, -, h⟩ := bind_ok_iff.mp h
          split at h
          · cases h; exact List.nil_suffix
          · rename_i b2 s7 hs6
            have h6 : (b2 :: s7) <:+ s :=
              (hs6 ▸ List.dropWhile_suffix _).trans ((List.dropWhile_suffix _).trans h5)
            split at h
            · cases h; exact h6
            · split at h
              · cases h; exact List.nil_suffix
              · rename_i d3 s8 hs8
                have h8 : (d3 :: s8) <:+ s :=
                  (hs8 ▸ List.dropWhile_suffix _).trans ((List.suffix_cons b2 s7).trans h6)
                obtain ⟨v3, -, h⟩ := bind_ok_iff.mp h
                cases h
                exact (List.dropWhile_suffix _).trans h8

def fmFeatsS (gI gR : Bytes → Res Nat) : Nat → Bytes → List (Nat × Nat × Option Nat) → Res (List (Nat × Nat × Option Nat))
  | 0, _, _ => .error .oob
  | fuel + 1, s, acc =>
    match s with
    | [] => .ok acc.reverse
    | _ :: _ => do
      let o ← tripleS gI gI gR s
      if Gen.Parse.fmNoFeature o.r then fmFeatsS gI gR fuel o.rest acc
      else fmFeatsS gI gR fuel o.rest ((o.v1, o.v2, if Gen.Parse.fmHasValue o.r then some o.v3 else none) :: acc)

def fmLineS (gR gI : Bytes → Res Nat) (l : Bytes) : Res (Option FmLine) := do
  let o ← pairS gR gR l
  if Gen.Parse.fmEmptyLine o.r then return none
  let weight := if Gen.Parse.fmHasWeight o.r then some o.v2 else none
  let feats ← fmFeatsS gI gR (o.rest.length + 1) o.rest []
  return some { label := o.v1, weight, feats }

section
variable {conv : Conv} {gR gI gQ : Bytes → Res Nat} {gC : Bytes → Res (Nat × Nat)}
  (hL : conv.LocalWith gR gI gQ gC) {mem : Bytes} {lend : Nat} (ht : Term mem lend)
include hL ht

theorem fmFeats_at :
    ∀ (fuel p : Nat) (s : Bytes) (acc : List (Nat × Nat × Option Nat)), At mem p lend s →
      fmFeats Fixes.repaired conv mem lend fuel p acc = fmFeatsS gI gR fuel s acc := by
  intro fuel
  induction fuel with
  | zero => intro p s acc _; rfl
  | succ fuel ih =>
    intro p s acc h
    cases s with
    | nil => simp [fmFeats, fmFeatsS, h.eq_stop_iff.mpr rfl]
    | cons b s =>
      simp only [fmFeats, fmFeatsS, h.ne_stop, if_false, bind, Except.bind,
        parseTriple_at hL.index hL.index hL.real h ht]
      cases ho : tripleS gI gI gR (b :: s) with
      | error e => simp [Except.map]
      | ok o =>
        have ar := h.of_suffix (tripleS_suffix ho)
        simp only [Except.map, PairS.out]
        split <;> exact ih _ _ _ ar

theorem fmLine_at {lbegin : Nat} {l : Bytes} (h : At mem lbegin lend l) :
    fmLine Fixes.repaired conv mem lbegin lend = fmLineS gR gI l := by
  unfold fmLine fmLineS
  simp only [bind, Except.bind, parsePair_at hL.real hL.real h ht]
  cases ho : pairS gR gR l with
  | error e => simp [Except.map]
  | ok o =>
    simp only [Except.map, PairS.out]
    by_cases hem : Gen.Parse.fmEmptyLine o.r = true
    · simp [hem, pure, Except.pure]
    · have ar := h.of_suffix (pairS_suffix ho)
      simp only [hem, Bool.false_eq_true, if_false, ar.fuel, fmFeats_at hL ht _ _ _ _ ar]

end

theorem fmLine_lone {conv : Conv} {mem : Bytes} {lbegin lend : Nat} {e : UInt8}
    (h : At mem lbegin lend [e]) (he : isEolB e = true) (gR gI : Bytes → Res Nat) :
    fmLine Fixes.repaired conv mem lbegin lend = fmLineS gR gI [e] := by
  have hd : ([e] : Bytes).dropWhile notDigitCharB = [] := by simp [List.dropWhile, eol_notDigitChar e he]
  unfold fmLine fmLineS
  simp [parsePair_r0 Fixes.repaired conv.real conv.real h hd, hd, pairS, bind, Except.bind, pure, Except.pure,
    fmEmptyLine_spec]

def fmRec (l : FmLine) : LineRec :=
  { label := some l.label, weight := l.weight, qid := none, fields := l.feats.map (·.1),
    idx := l.feats.map (·.2.1), vals := l.feats.filterMap (·.2.2) }

theorem finish_fmPush (c : Container) (l : FmLine) :
    finish Gen.Parse.fmPushOffset (fmPush c l) = addRow (finish Gen.Parse.fmPushOffset c) (fmRec l) := by
  cases hw : l.weight <;> by_cases hc : c.label.length = 0 <;>
    simp [finish, fmPush, addRow, fmRec, fmPushOffset_eq, hw, hc]

def fmRecS (gR gI : Bytes → Res Nat) (iw mode : Nat) (L : Bytes) : Res (Option LineRec) :=
  (fmLineS gR gI L).map (Option.map fun l => if mode > 0 then decRecBoth iw (fmRec l) else fmRec l)

theorem pairS_strip (g1 g2 : Bytes → Res Nat) (L : Bytes) : pairS g1 g2 (stripEol L) = pairS g1 g2 L := by
  unfold pairS; rw [dropWhile_stripEol notDigitCharB eol_notDigitChar]

theorem fmDecrement_eq (mode : Nat) (b : Bool) (m : Nat) (b2 : Bool) (m2 : Nat) :
    Gen.Parse.fmDecrement mode b m b2 m2 = decide (mode > 0) := by
  simp [Gen.Parse.fmDecrement]

theorem fmEndCheck_ok (n : Nat) (hb : n + 1 < 2 ^ 64) : Gen.Parse.fmEndCheck n (n + 1) = true := by
  simp [Gen.Parse.fmEndCheck, u64_of_lt hb]

theorem fmLineS_nil (gR gI : Bytes → Res Nat) : fmLineS gR gI [] = .ok none := by
  simp [fmLineS, pairS, bind, Except.bind, pure, Except.pure, fmEmptyLine_spec]

theorem fmRecS_blank (gR gI : Bytes → Res Nat) (iw mode : Nat) {l : Bytes} (hl : ∀ b ∈ l, isBlankB b = true) :
    fmRecS gR gI iw mode l = .ok none := by
  have hnd : l.dropWhile notDigitCharB = [] := dropWhile_all _ _ fun b hb => blank_notDigit b (hl b hb)
  simp [fmRecS, fmLineS, pairS, hnd, bind, Except.bind, pure, Except.pure, Except.map, fmEmptyLine_spec]

section
variable {conv : Conv} {gR gI gQ : Bytes → Res Nat} {gC : Bytes → Res (Nat × Nat)}
  (hL : conv.LocalWith gR gI gQ gC)
include hL

theorem fm_block_eq_at (iw mode : Nat) {mem : Bytes} {a b : Nat} {t : Bytes}
    (hAt : At mem a b t) (hT : TermOr mem b t) (hb : t.length + 2 < 2 ^ 64) :
    (fmBlock Fixes.repaired conv iw mode mem a b).bind rowsOf =
      (recsOf (fmRecS gR gI iw mode) t).bind fun recs => rowsOf (build recs) := by
  have hloop := lineLoop_spec (line := fun lbegin lend => fmLine Fixes.repaired conv mem lbegin lend)
    (lineS := fmLineS gR gI) (push := fmPush)
    (fun p q L R hL' _ _ hT => by
      rcases hT with hT | ⟨e, rfl, he⟩
      · exact fmLine_at hL hT hL'
      · exact fmLine_lone hL' he gR gI)
    (b + 1 - a) a t {} hAt (by rw [hAt.fuel]; omega) hT
  unfold fmBlock fmLoop
  rw [fmNotEol_fun, hloop]
  delta fmRecS
  rw [recsOf_map]
  cases hm : recsOf (fmLineS gR gI) t with
  | error e => rfl
  | ok ls =>
    have hlen := recsOf_length hm
    have hfin := finish_foldl finish_fmPush rfl ls
    unfold finish at hfin
    have hlab := build_label_length fmRec ls fun _ => rfl
    have hfc : Gen.Parse.fmFieldCheck (build (ls.map fmRec)).field.length (build (ls.map fmRec)).index.length = true := by
      rw [build_eq]
      simp [Gen.Parse.fmFieldCheck, flatMap_length_eq (·.fields) (ls.map fmRec)
        (by intro r hr; simp at hr; obtain ⟨l, _, rfl⟩ := hr; simp [fmRec])]
    simp only [Except.map, bind, Except.bind, hfin, hfc, hlab.1, hlab.2,
      fmEndCheck_ok _ (show ls.length + 1 < 2 ^ 64 by omega), fmDecrement_eq]
    by_cases hmode : mode > 0
    · simp only [hmode, decide_true, Bool.not_true, Bool.false_eq_true, if_false, if_true, pure, Except.pure]
      rw [build_decBoth, List.map_map]; rfl
    · simp only [hmode, decide_false, Bool.not_true, Bool.false_eq_true, if_false, pure, Except.pure]

theorem fm_blockFormat (iw mode : Nat) :
    BlockFormat (fun _ => true) (fmBlock Fixes.repaired conv iw mode) (fmRecS gR gI iw mode) where
  at_eq := fun hAt hT _ _ _ hlen => fm_block_eq_at hL iw mode hAt hT hlen
  strip := fun L => by simp [fmRecS, fmLineS, pairS_strip]
  nil := by simp [fmRecS, fmLineS_nil, Except.map]
  fields := Or.inr fun L r h => by
    obtain ⟨l, rfl⟩ := map_some_elim h
    by_cases hm : mode > 0 <;> simp [hm, decRecBoth, fmRec]

end

end DmlcModel.Parse
