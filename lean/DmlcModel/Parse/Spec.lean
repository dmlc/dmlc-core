/-
ParsePair and the libsvm line on lists (`pairS`, `svmLineS`), the locality contract of the conversions, and the proofs that the
pointer model computes the list-level functions under it (`_at`).  Not a definitions-only file; Fm.lean and Csv.lean are built
the same way.
-/
import DmlcModel.Parse.Lemmas
import DmlcModel.ExceptLemmas

namespace DmlcModel.Parse
open DmlcModel

/-- locality of one conversion: on a token run that is not all white space it is a pure function `g` of the run -/
def LocalFn (c : Bytes → Nat → Res Nat) (g : Bytes → Res Nat) : Prop :=
  ∀ mem p, (runAt mem p).any (fun b => !isLineSpaceB b) = true → c mem p = g (runAt mem p)

/-- the conversions of a `Conv` are local, with pure functions `gR gI gQ` (and `gC` for csv cells) -/
structure Conv.LocalWith (conv : Conv) (gR gI gQ : Bytes → Res Nat) (gC : Bytes → Res (Nat × Nat)) : Prop where
  real : LocalFn conv.real gR
  index : LocalFn conv.index gI
  qid : LocalFn conv.qid gQ
  cell : ∀ mem p, (runAt mem p).any (fun b => !isLineSpaceB b) = true →
    conv.cell mem p = (gC (runAt mem p)).map fun vk => (vk.1, p + vk.2)

def Conv.Local (conv : Conv) : Prop := ∃ gR gI gQ gC, conv.LocalWith gR gI gQ gC

structure PairS where
  r : Nat
  rest : Bytes
  v1 : Nat := 0
  v2 : Nat := 0
  v3 : Nat := 0

def PairS.out (stop : Nat) (o : PairS) : PairOut :=
  { r := o.r, endp := stop - o.rest.length, v1 := o.v1, v2 := o.v2, v3 := o.v3 }

/-- `ParsePair` (repaired source) on the bytes `s` of the range -/
def pairS (g1 g2 : Bytes → Res Nat) (s : Bytes) : Res PairS :=
  match s.dropWhile notDigitCharB with
  | [] => .ok { r := 0, rest := [] }
  | d :: s1 => do
    let v1 ← g1 ((d :: s1).takeWhile nonStopB)
    match ((d :: s1).dropWhile isDigitCharB).dropWhile isBlankB with
    | [] => .ok { r := 1, rest := [], v1 := v1 }
    | b :: s4 =>
      if b != 58 then .ok { r := 1, rest := b :: s4, v1 := v1 } else
      match s4.dropWhile notDigitCharB with
      | [] => .ok { r := 1, rest := [], v1 := v1 }
      | d2 :: s5 => do
        let v2 ← g2 ((d2 :: s5).takeWhile nonStopB)
        .ok { r := 2, rest := (d2 :: s5).dropWhile isDigitCharB, v1 := v1, v2 := v2 }

section
variable {mem : Bytes} {p stop : Nat} {s : Bytes} {pred : UInt8 → Bool}

theorem scan_nil (h : At mem p stop s) (hs : s.dropWhile pred = []) : scan pred mem stop p = .ok stop := by
  obtain ⟨q, e, a⟩ := scan_at (pred := pred) h
  rw [hs] at a
  rw [e, a.eq_stop_iff.mpr rfl]

theorem scan_cons {d : UInt8} {r : Bytes} (h : At mem p stop s) (hs : s.dropWhile pred = d :: r) :
    ∃ q, scan pred mem stop p = .ok q ∧ q ≠ stop ∧ At mem q stop (d :: r) := by
  obtain ⟨q, e, a⟩ := scan_at (pred := pred) h
  rw [hs] at a
  exact ⟨q, e, a.ne_stop, a⟩

theorem digit_of_dropWhile {d : UInt8} {r : Bytes} (h : s.dropWhile notDigitCharB = d :: r) :
    isDigitCharB d = true := by
  simpa [notDigitCharB, isDigitCharB] using dropWhile_head_false _ _ _ _ h

theorem conv_at {c : Bytes → Nat → Res Nat} {g : Bytes → Res Nat} (hc : LocalFn c g)
    {d : UInt8} {r : Bytes} (h : At mem p stop (d :: r)) (ht : Term mem stop)
    (hd : isDigitCharB d = true) : c mem p = g ((d :: r).takeWhile nonStopB) := by
  have hr := runAt_at h ht
  rw [hc mem p (by simp [hr, List.takeWhile, digitChar_nonStop d hd, digitChar_nonSpace d hd]), hr]

theorem parsePair_at {c1 c2 : Bytes → Nat → Res Nat} {g1 g2 : Bytes → Res Nat}
    (hc1 : LocalFn c1 g1) (hc2 : LocalFn c2 g2) (h : At mem p stop s) (ht : Term mem stop) :
    parsePair Fixes.repaired c1 c2 mem p stop = (pairS g1 g2 s).map (PairS.out stop) := by
  unfold parsePair pairS
  cases hs1 : s.dropWhile notDigitCharB with
  | nil => simp [scan_nil h hs1, PairS.out, Except.map, bind, Except.bind, pure, Except.pure]
  | cons d s1 =>
    obtain ⟨q1, e1, hne1, a1⟩ := scan_cons h hs1
    obtain ⟨q2, e2, a2⟩ := scan_at (pred := isDigitCharB) a1
    simp only [e1, hne1, if_false, e2, conv_at hc1 a1 ht (digit_of_dropWhile hs1), bind, Except.bind]
    cases g1 ((d :: s1).takeWhile nonStopB) with
    | error e => rfl
    | ok v1 =>
      cases hs3 : ((d :: s1).dropWhile isDigitCharB).dropWhile isBlankB with
      | nil => simp [scan_nil a2 hs3, PairS.out, Except.map, pure, Except.pure]
      | cons b s4 =>
        obtain ⟨q3, e3, hne3, a3⟩ := scan_cons a2 hs3
        simp only [e3, hne3, if_false, byteAt_at a3]
        by_cases hb : (b != 58) = true
        · simp [hb, PairS.out, Except.map, pure, Except.pure, a3.pos_eq]
        · simp only [hb]
          cases hs5 : s4.dropWhile notDigitCharB with
          | nil => simp [scan_nil a3.tail hs5, Fixes.repaired, PairS.out, Except.map, pure, Except.pure]
          | cons d2 s5 =>
            obtain ⟨q4, e4, hne4, a4⟩ := scan_cons a3.tail hs5
            obtain ⟨q5, e5, a5⟩ := scan_at (pred := isDigitCharB) a4
            simp only [e4, hne4, e5, conv_at hc2 a4 ht (digit_of_dropWhile hs5)]
            cases g2 ((d2 :: s5).takeWhile nonStopB) with
            | error e => simp [Except.map]
            | ok v2 => simp [PairS.out, Except.map, pure, Except.pure, a5.pos_eq]

theorem parsePair_r0 (fx : Fixes) (c1 c2 : Bytes → Nat → Res Nat) {mem : Bytes} {p stop : Nat} {s : Bytes}
    (h : At mem p stop s) (hs : s.dropWhile notDigitCharB = []) :
    parsePair fx c1 c2 mem p stop = .ok { r := 0, endp := stop } := by
  simp [parsePair, scan_nil h hs, bind, Except.bind, pure, Except.pure]

end

theorem pairS_rest {g1 g2 : Bytes → Res Nat} {s : Bytes} {o : PairS} (h : pairS g1 g2 s = .ok o) :
    match s.dropWhile notDigitCharB with
    | [] => o.r = 0 ∧ o.rest = []
    | _ :: s1 => 1 ≤ o.r ∧ o.rest <:+ s1 := by
  unfold pairS at h
  cases hs1 : s.dropWhile notDigitCharB with
  | nil => simp only [hs1] at h; cases h; exact ⟨rfl, rfl⟩
  | cons d s1 =>
    have h2 : (d :: s1).dropWhile isDigitCharB <:+ s1 := by
      rw [List.dropWhile_cons_of_pos (digit_of_dropWhile hs1)]; exact List.dropWhile_suffix _
    simp only [hs1] at h
    obtain ⟨v1, -, h⟩ := bind_ok_iff.mp h
    split at h
    · cases h; exact ⟨Nat.le_refl _, List.nil_suffix⟩
    · rename_i b s4 hs3
      have h3 : (b :: s4) <:+ s1 := (hs3 ▸ List.dropWhile_suffix _).trans h2
      split at h
      · cases h; exact ⟨Nat.le_refl _, h3⟩
      · split at h
        · cases h; exact ⟨Nat.le_refl _, List.nil_suffix⟩
        · rename_i d2 s5 hs5
          obtain ⟨v2, -, h⟩ := bind_ok_iff.mp h
          cases h
          exact ⟨by simp, (List.dropWhile_suffix _).trans
            ((hs5 ▸ List.dropWhile_suffix _).trans ((List.suffix_cons b s4).trans h3))⟩

theorem pairS_suffix {g1 g2 : Bytes → Res Nat} {s : Bytes} {o : PairS} (h : pairS g1 g2 s = .ok o) :
    o.rest <:+ s := by
  have := pairS_rest h
  split at this
  · rw [this.2]; exact List.nil_suffix
  · rename_i d s1 hs1
    exact this.2.trans ((List.suffix_cons d s1).trans (hs1 ▸ List.dropWhile_suffix _))

theorem pairS_progress {g1 g2 : Bytes → Res Nat} {s : Bytes} {o : PairS} (h : pairS g1 g2 s = .ok o)
    (hr : 1 ≤ o.r) : o.rest.length < s.length := by
  have := pairS_rest h
  split at this
  · omega
  · rename_i d s1 hs1
    have h1 := this.2.length_le
    have h2 := (hs1 ▸ List.dropWhile_suffix (l := s) notDigitCharB).length_le
    simp at h2; omega

theorem pairS_r0_rest {g1 g2 : Bytes → Res Nat} {s : Bytes} {o : PairS} (h : pairS g1 g2 s = .ok o)
    (hr : o.r < 1) : o.rest = [] := by
  have := pairS_rest h
  split at this
  · exact this.2
  · omega

def svmFeatsS (gI gR : Bytes → Res Nat) : Nat → Bytes → List (Nat × Option Nat) → Res (List (Nat × Option Nat))
  | 0, _, _ => .error .oob
  | fuel + 1, s, acc =>
    match s with
    | [] => .ok acc.reverse
    | _ :: _ => do
      let o ← pairS gI gR (icbS s)
      if Gen.Parse.svmNoFeature o.r then svmFeatsS gI gR fuel o.rest acc
      else svmFeatsS gI gR fuel o.rest ((o.v1, if Gen.Parse.svmHasValue o.r then some o.v2 else none) :: acc)

def qidSkipB (b : UInt8) : Bool := Gen.Parse.svmQidSkips b.toNat
def qidDigitB (b : UInt8) : Bool := Gen.Parse.svmQidDigit b.toNat

/-- the per-line work of `LibSVMParser::ParseBlock` (repaired source) on the bytes `l` of the line -/
def svmLineS (gR gI gQ : Bytes → Res Nat) (l : Bytes) : Res (Option SvmLine) := do
  let o ← pairS gR gR (icbS (l.dropWhile isEolB))
  if Gen.Parse.svmEmptyLine o.r then return none
  let weight := if Gen.Parse.svmHasWeight o.r then some o.v2 else none
  let s2 := o.rest.dropWhile qidSkipB
  let (s3, qid) ←
    (if !s2.isEmpty && (s2.take Gen.Parse.qidPrefix.length).map UInt8.toNat == Gen.Parse.qidPrefix then do
      let s3 := s2.drop Gen.Parse.qidAdvance
      let q ← (match s3 with
        | [] => pure 0
        | b :: _ => if Gen.Parse.isdigitchars b.toNat then gQ (s3.takeWhile nonStopB) else pure 0)
      pure (s3.dropWhile qidDigitB, some q)
    else pure (s2, none) : Res (Bytes × Option Nat))
  let feats ← svmFeatsS gI gR (s3.length + 1) s3 []
  return some { label := o.v1, weight, qid, feats }

theorem eol_not_qidSkip (b : UInt8) (h : isEolB b = true) : qidSkipB b = false := by
  simp [qidSkipB, Gen.Parse.svmQidSkips, Gen.Parse.isblank, isEolB, Gen.Parse.backIsEol] at *
  omega

/-- comparing the bytes at the start of `s ++ rest` with `pre` does not look past `s` when the first byte of
`rest` cannot occur in `pre` (`strncmp(p, "qid:", 4)` in front of a NUL / end-of-line byte, the BOM test in front of
an end-of-line byte) -/
theorem take_append_beq (pre : List Nat) (s rest : Bytes) (h : ∀ b, rest.head? = some b → b.toNat ∉ pre) :
    (((s ++ rest).take pre.length).map UInt8.toNat == pre) = ((s.take pre.length).map UInt8.toNat == pre) := by
  induction pre generalizing s with
  | nil => simp
  | cons x pre ih =>
    cases s with
    | nil =>
      cases rest with
      | nil => rfl
      | cons y r => have := h y rfl; simp at this; simp [this.1]
    | cons a s =>
      have := ih s fun b hb => fun hm => h b hb (List.mem_cons_of_mem _ hm)
      simp only [List.cons_append, List.length_cons, List.take_succ_cons, List.map_cons, List.cons_beq_cons, this]

section
variable {conv : Conv} {gR gI gQ : Bytes → Res Nat} {gC : Bytes → Res (Nat × Nat)}
  (hL : conv.LocalWith gR gI gQ gC) {mem : Bytes} {lend : Nat} (ht : Term mem lend)
include hL ht

theorem svmFeats_at :
    ∀ (fuel p : Nat) (s : Bytes) (acc : List (Nat × Option Nat)), At mem p lend s →
      svmFeats Fixes.repaired conv mem lend fuel p acc = svmFeatsS gI gR fuel s acc := by
  intro fuel
  induction fuel with
  | zero => intro p s acc _; rfl
  | succ fuel ih =>
    intro p s acc h
    cases s with
    | nil => simp [svmFeats, svmFeatsS, h.eq_stop_iff.mpr rfl]
    | cons b s =>
      obtain ⟨q, eq, aq⟩ := icb_at h
      simp only [svmFeats, svmFeatsS, h.ne_stop, if_false, eq, bind, Except.bind, parsePair_at hL.index hL.real aq ht]
      cases ho : pairS gI gR (icbS (b :: s)) with
      | error e => simp [Except.map]
      | ok o =>
        have ar := aq.of_suffix (pairS_suffix ho)
        simp only [Except.map, PairS.out]
        split <;> exact ih _ _ _ ar

omit hL in
theorem hasPrefixAt_at {p : Nat} {s : Bytes} (h : At mem p lend s) :
    hasPrefixAt mem p Gen.Parse.qidPrefix
      = ((s.take Gen.Parse.qidPrefix.length).map UInt8.toNat == Gen.Parse.qidPrefix) := by
  unfold hasPrefixAt
  rw [h.1]
  refine take_append_beq _ _ _ fun b hb => ?_
  have := ht b (List.head?_drop ▸ hb)
  simp [isStopB, isEolB, Gen.Parse.backIsEol, ← UInt8.toNat_inj] at this
  have hp : Gen.Parse.qidPrefix = [113, 105, 100, 58] := rfl
  simp [hp]; omega

theorem svmLine_at {lbegin stop : Nat} {l r : Bytes}
    (h : At mem lbegin lend l) (hr : At mem lend stop r) (hrh : ∀ b, r.head? = some b → isEolB b = true) :
    svmLine Fixes.repaired conv mem lbegin lend stop = svmLineS gR gI gQ l := by
  -- walked statement by statement like `parsePair_at`: every loop one `scan_at` / `icb_at`, every conversion one `conv_at`
  unfold svmLine svmLineS
  obtain ⟨p1, e1, a1⟩ := scan_at (pred := isEolB) h
  obtain ⟨p2, e2, a2⟩ := icb_at a1
  have hfx1 : Fixes.repaired.svmEolSkip = true := rfl
  have hfx2 : Fixes.repaired.qidGuard = true := rfl
  simp only [hfx1, hfx2, if_true, e1, e2, bind, Except.bind, parsePair_at hL.real hL.real a2 ht]
  cases ho : pairS gR gR (icbS (l.dropWhile isEolB)) with
  | error e => simp [Except.map]
  | ok o =>
    simp only [Except.map, PairS.out]
    by_cases hem : Gen.Parse.svmEmptyLine o.r = true
    · simp [hem, pure, Except.pure]
    · simp only [hem, Bool.false_eq_true, if_false]
      -- the skip in front of `qid:` is bounded by the end of the block, not of the line: it stays inside the line because
      -- the byte behind the line is an end-of-line byte
      obtain ⟨p3, e3, a3⟩ := scan_at_far (pred := qidSkipB) (a2.of_suffix (pairS_suffix ho)) hr
        (fun b hb => eol_not_qidSkip b (hrh b hb))
      have e3' : scan (fun b => Gen.Parse.svmQidSkips b.toNat) mem stop (lend - o.rest.length) = .ok p3 := e3
      have hpe : (p3 != lend) = !(o.rest.dropWhile qidSkipB).isEmpty := by
        cases hl : o.rest.dropWhile qidSkipB <;> rw [hl] at a3
        · simp [a3.eq_stop_iff.mpr rfl]
        · simp [a3.ne_stop]
      simp only [e3']
      rw [hpe, hasPrefixAt_at ht a3]
      by_cases hq : (!(o.rest.dropWhile qidSkipB).isEmpty &&
          ((o.rest.dropWhile qidSkipB).take Gen.Parse.qidPrefix.length).map UInt8.toNat == Gen.Parse.qidPrefix) = true
      · -- `qid:` found; the conversion runs only at a number character (guard of C11-F2): three cases
        simp only [hq, if_true]
        have hlen : Gen.Parse.qidAdvance ≤ (o.rest.dropWhile qidSkipB).length := by
          simp only [Bool.and_eq_true, beq_iff_eq] at hq
          have := congrArg List.length hq.2
          rw [List.length_map, List.length_take] at this
          have h4 : Gen.Parse.qidPrefix.length = 4 := rfl
          have h5 : Gen.Parse.qidAdvance = 4 := rfl
          omega
        have a4 := a3.drop Gen.Parse.qidAdvance hlen
        obtain ⟨p5, e5, a5⟩ := scan_at (pred := qidDigitB) a4
        have e5' : scan (fun b => Gen.Parse.svmQidDigit b.toNat) mem lend (p3 + Gen.Parse.qidAdvance) = .ok p5 := e5
        cases hs3 : (o.rest.dropWhile qidSkipB).drop Gen.Parse.qidAdvance with
        | nil =>
          rw [hs3] at a4 a5
          have hp4 := a4.eq_stop_iff.mpr rfl
          rw [hp4] at e5'
          simp only [hp4, if_true, pure, Except.pure, Bool.false_eq_true, if_false, e5', a5.fuel,
            svmFeats_at hL ht _ _ _ _ a5]
        | cons b s3 =>
          rw [hs3] at a4 a5
          simp only [a4.ne_stop, if_false, byteAt_at a4, pure, Except.pure]
          by_cases hd : Gen.Parse.isdigitchars b.toNat = true
          · simp only [hd, if_true, conv_at hL.qid a4 ht hd]
            cases gQ ((b :: s3).takeWhile nonStopB) with
            | error e => rfl
            | ok q => simp only [e5', a5.fuel, svmFeats_at hL ht _ _ _ _ a5]
          · simp only [hd, if_false, e5', Bool.false_eq_true, a5.fuel, svmFeats_at hL ht _ _ _ _ a5]
      · -- no `qid:`: the feature loop from where the skip stopped
        simp only [hq, if_false, Bool.false_eq_true, pure, Except.pure, a3.fuel, svmFeats_at hL ht _ _ _ _ a3]

end

end DmlcModel.Parse
