/-
Pointer loops of the Parse model as list functions.  The segment invariant `At mem p stop s`: a position is always
`stop - r.length` for the suffix `r` of the segment that is still to be read (`At.of_suffix`), so a loop is specified by the
suffix it leaves (`scan_at`, `scanRd_at`, `icb_at`).
-/
import DmlcModel.Parse.Model
import DmlcModel.BasicLemmas

namespace DmlcModel.Parse
open DmlcModel

/-- bytes at which a conversion certainly stops: NUL and the end-of-line bytes -/
def isStopB (b : UInt8) : Bool := b == 0 || isEolB b
def nonStopB (b : UInt8) : Bool := !isStopB b
/-- white space a conversion may skip without leaving the line (space, \t, \v, \f) -/
def isLineSpaceB (b : UInt8) : Bool := b == 32 || b == 9 || b == 11 || b == 12
def notEolB (b : UInt8) : Bool := !isEolB b

theorem isEolB_iff (b : UInt8) : isEolB b = true ↔ b = 10 ∨ b = 13 := by
  simp [isEolB, Gen.Parse.backIsEol, ← UInt8.toNat_inj]

theorem svmNotEol_fun : (fun b : UInt8 => Gen.Parse.svmNotEol b.toNat) = notEolB := by
  funext b; simp [notEolB, isEolB, Gen.Parse.backIsEol, Gen.Parse.svmNotEol, bne]

theorem fmNotEol_fun : (fun b : UInt8 => Gen.Parse.fmNotEol b.toNat) = notEolB := by
  funext b; simp [notEolB, isEolB, Gen.Parse.backIsEol, Gen.Parse.fmNotEol, bne]

theorem csvNotEol_fun : (fun b : UInt8 => Gen.Parse.csvNotEol b.toNat) = notEolB := by
  funext b; simp [notEolB, isEolB, Gen.Parse.backIsEol, Gen.Parse.csvNotEol, bne]

theorem csvLeadIsEol_eq (b : UInt8) : Gen.Parse.csvLeadIsEol b.toNat = isEolB b := by
  simp [isEolB, Gen.Parse.backIsEol, Gen.Parse.csvLeadIsEol]

theorem leadIsEol_fun : (fun b : UInt8 => Gen.Parse.csvLeadIsEol b.toNat) = isEolB :=
  funext csvLeadIsEol_eq

theorem trailIsEol_fun : (fun b : UInt8 => Gen.Parse.csvTrailIsEol b.toNat) = isEolB := by
  funext b; simp [isEolB, Gen.Parse.backIsEol, Gen.Parse.csvTrailIsEol]

theorem svmEmptyLine_spec (r : Nat) : Gen.Parse.svmEmptyLine r = decide (r < 1) := rfl
theorem fmEmptyLine_spec (r : Nat) : Gen.Parse.fmEmptyLine r = decide (r < 1) := rfl

theorem digitChar_nonStop (b : UInt8) (h : isDigitCharB b = true) : nonStopB b = true := by
  simp [isDigitCharB, Gen.Parse.isdigitchars, nonStopB, isStopB, isEolB, Gen.Parse.backIsEol, ← UInt8.toNat_inj] at *
  omega

theorem digitChar_nonSpace (b : UInt8) (h : isDigitCharB b = true) : isLineSpaceB b = false := by
  simp [isDigitCharB, Gen.Parse.isdigitchars, isLineSpaceB, ← UInt8.toNat_inj] at *
  omega

theorem nonStop_notEol (b : UInt8) (h : nonStopB b = true) : isEolB b = false := by
  simp [nonStopB, isStopB] at h
  exact h.2

theorem digitChar_notEol (b : UInt8) (h : isDigitCharB b = true) : isEolB b = false :=
  nonStop_notEol b (digitChar_nonStop b h)

theorem blank_nonStop (b : UInt8) (h : isBlankB b = true) : nonStopB b = true := by
  simp [isBlankB, Gen.Parse.isblank, nonStopB, isStopB, isEolB, Gen.Parse.backIsEol, ← UInt8.toNat_inj] at *; omega

theorem blank_notDigit (b : UInt8) (h : isBlankB b = true) : notDigitCharB b = true := by
  simp [isBlankB, Gen.Parse.isblank, notDigitCharB, Gen.Parse.isdigitchars] at *; omega

theorem eol_notDigitChar (b : UInt8) (h : isEolB b = true) : notDigitCharB b = true := by
  simp [notDigitCharB, Gen.Parse.isdigitchars, isEolB, Gen.Parse.backIsEol] at *
  omega

theorem dropWhile_eol_self (s : Bytes) (h : ∀ b ∈ s, isEolB b = false) : s.dropWhile isEolB = s := by
  cases s with
  | nil => rfl
  | cons b s => simp [List.dropWhile, h b (by simp)]

/-- `s` is the segment `[p, stop)` of `mem` -/
def At (mem : Bytes) (p stop : Nat) (s : Bytes) : Prop :=
  mem.drop p = s ++ mem.drop stop ∧ stop = p + s.length

theorem At.eq_stop_iff {mem : Bytes} {p stop : Nat} {s : Bytes} (h : At mem p stop s) : p = stop ↔ s = [] := by
  have := h.2
  constructor
  · intro e; apply List.eq_nil_of_length_eq_zero; omega
  · intro e; subst e; simp at this; omega

theorem At.ne_stop {mem : Bytes} {p stop : Nat} {b : UInt8} {s : Bytes} (h : At mem p stop (b :: s)) : p ≠ stop :=
  fun e => List.cons_ne_nil _ _ (h.eq_stop_iff.mp e)

theorem At.le_length {mem : Bytes} {p stop : Nat} {s : Bytes} (h : At mem p stop s) (hs : stop ≤ mem.length) :
    p ≤ stop := by have := h.2; omega

theorem At.pos_eq {mem : Bytes} {p stop : Nat} {s : Bytes} (h : At mem p stop s) : p = stop - s.length := by
  have := h.2; omega

/-- the fuel the loops over `[p, stop)` are started with -/
theorem At.fuel {mem : Bytes} {p stop : Nat} {s : Bytes} (h : At mem p stop s) : stop + 1 - p = s.length + 1 := by
  have := h.2; omega

theorem At.drop {mem : Bytes} {p stop : Nat} {s : Bytes} (h : At mem p stop s) (k : Nat) (hk : k ≤ s.length) :
    At mem (p + k) stop (s.drop k) := by
  refine ⟨?_, ?_⟩
  · rw [← List.drop_drop, h.1, List.drop_append_of_le_length hk]
  · have := h.2; simp; omega

theorem At.tail {mem : Bytes} {p stop : Nat} {b : UInt8} {s : Bytes} (h : At mem p stop (b :: s)) :
    At mem (p + 1) stop s := by
  simpa using h.drop 1 (by simp)

theorem At.of_suffix {mem : Bytes} {p stop : Nat} {s r : Bytes} (h : At mem p stop s) (hr : r <:+ s) :
    At mem (stop - r.length) stop r := by
  obtain ⟨t, rfl⟩ := hr
  have h1 := h.drop t.length (by simp)
  have h2 := h.2
  rw [List.drop_left] at h1
  rw [List.length_append] at h2
  rwa [show stop - r.length = p + t.length by omega]

theorem At.suffix {mem : Bytes} {p stop : Nat} {s : Bytes} (h : At mem p stop s) (k : Nat) (hk : k ≤ s.length) :
    At mem (stop - (s.drop k).length) stop (s.drop k) :=
  h.of_suffix (List.drop_suffix k s)

theorem At.nil (mem : Bytes) (stop : Nat) : At mem stop stop [] := ⟨by simp, by simp⟩

theorem At.whole (t post : Bytes) : At (t ++ post) 0 t.length t := by
  refine ⟨?_, by simp⟩
  simp

theorem At.append {mem : Bytes} {p mid stop : Nat} {s r : Bytes} (h : At mem p mid s) (hr : At mem mid stop r) :
    At mem p stop (s ++ r) := by
  refine ⟨?_, ?_⟩
  · rw [h.1, hr.1, List.append_assoc]
  · have := h.2; have := hr.2; simp; omega

theorem At.unappend {mem : Bytes} {q mid stop : Nat} {s r : Bytes} (h : At mem q stop (s ++ r)) (hr : At mem mid stop r) :
    At mem q mid s := by
  refine ⟨?_, ?_⟩
  · rw [h.1, hr.1, List.append_assoc]
  · have := h.2; have := hr.2; simp at *; omega

theorem byteAt_at {mem : Bytes} {p stop : Nat} {b : UInt8} {s : Bytes} (h : At mem p stop (b :: s)) :
    byteAt mem p = .ok b := by
  have : mem[p]? = some b := by rw [← List.head?_drop, h.1]; rfl
  simp [byteAt, this]

theorem scanGo_spec (pred : UInt8 → Bool) (stop : Nat) (s rest : Bytes) (p : Nat) (hstop : stop = p + s.length) :
    scanGo pred stop (s ++ rest) p = .ok (stop - (s.dropWhile pred).length) := by
  induction s generalizing p with
  | nil =>
    have : p = stop := by simp at hstop; omega
    cases rest <;> simp [scanGo, this]
  | cons b s ih =>
    have hne : p ≠ stop := by simp at hstop; omega
    by_cases hb : pred b
    · simp only [List.cons_append, scanGo, hne, if_false, hb, if_true, List.dropWhile_cons_of_pos hb]
      exact ih (p + 1) (by simp at hstop; omega)
    · simp [scanGo, hne, hb, List.dropWhile]; simp at hstop; omega

theorem scan_at {pred : UInt8 → Bool} {mem : Bytes} {p stop : Nat} {s : Bytes} (h : At mem p stop s) :
    ∃ q, scan pred mem stop p = .ok q ∧ At mem q stop (s.dropWhile pred) :=
  ⟨_, by unfold scan; rw [h.1]; exact scanGo_spec pred stop s _ p h.2, h.of_suffix (List.dropWhile_suffix _)⟩

/-- a scan bounded by the end of the block stays inside the line when the byte after the line stops it -/
theorem scan_at_far {pred : UInt8 → Bool} {mem : Bytes} {p lend stop : Nat} {s r : Bytes}
    (h : At mem p lend s) (hr : At mem lend stop r) (hstop : ∀ b, r.head? = some b → pred b = false) :
    ∃ q, scan pred mem stop p = .ok q ∧ At mem q lend (s.dropWhile pred) := by
  obtain ⟨q, e, a⟩ := scan_at (pred := pred) (h.append hr)
  rw [dropWhile_append_stop pred s r hstop] at a
  exact ⟨q, e, a.unappend hr⟩

theorem scanRdGo_spec (pred : UInt8 → Bool) (stop : Nat) (s : Bytes) (t : UInt8) (rest : Bytes) (p : Nat)
    (hstop : stop = p + s.length) :
    scanRdGo pred stop (s ++ t :: rest) p = .ok (stop - (s.dropWhile pred).length) := by
  induction s generalizing p with
  | nil =>
    have : p = stop := by simp at hstop; omega
    simp [scanRdGo, this]
  | cons b s ih =>
    have hne : p ≠ stop := by simp at hstop; omega
    by_cases hb : pred b
    · simp only [List.cons_append, scanRdGo, hb, Bool.true_and, bne_iff_ne, ne_eq, hne, not_false_eq_true,
        if_true, List.dropWhile_cons_of_pos hb]
      exact ih (p + 1) (by simp at hstop; omega)
    · simp [scanRdGo, hb, List.dropWhile]; simp at hstop; omega

/-- `scanRd` needs the byte at `stop` to be readable -/
theorem scanRd_at {pred : UInt8 → Bool} {mem : Bytes} {p stop : Nat} {s : Bytes} (h : At mem p stop s)
    (hr : stop < mem.length) :
    ∃ q, scanRd pred mem stop p = .ok q ∧ At mem q stop (s.dropWhile pred) := by
  refine ⟨_, ?_, h.of_suffix (List.dropWhile_suffix _)⟩
  unfold scanRd; rw [h.1, List.drop_eq_getElem_cons hr]
  exact scanRdGo_spec pred stop s _ _ p h.2

/-- `mem[stop]` is a NUL or an end-of-line byte, or lies outside `mem` -/
def Term (mem : Bytes) (stop : Nat) : Prop := ∀ b, mem[stop]? = some b → isStopB b = true

def runAt (mem : Bytes) (p : Nat) : Bytes := (mem.drop p).takeWhile nonStopB

theorem runAt_at {mem : Bytes} {p stop : Nat} {s : Bytes} (h : At mem p stop s) (ht : Term mem stop) :
    runAt mem p = s.takeWhile nonStopB := by
  unfold runAt; rw [h.1]
  exact takeWhile_append_stop _ _ _ fun b hb => by simp [nonStopB, ht b (List.head?_drop ▸ hb)]

def isCommentB (b : UInt8) : Bool := Gen.Parse.icbIsComment b.toNat Gen.Parse.commentSymbol

/-- what is left of the line after `IgnoreCommentAndBlank` -/
def icbS : Bytes → Bytes
  | [] => []
  | b :: s => if isCommentB b then [] else if Gen.Parse.icbStops b.toNat then b :: s else icbS s

theorem icbGo_spec (stop : Nat) (s rest : Bytes) (p : Nat) (hstop : stop = p + s.length) :
    icbGo stop (s ++ rest) p = .ok (stop - (icbS s).length) := by
  induction s generalizing p with
  | nil =>
    have : p = stop := by simp at hstop; omega
    cases rest <;> simp [icbGo, icbS, this]
  | cons b s ih =>
    have hne : p ≠ stop := by simp at hstop; omega
    simp only [List.cons_append, icbGo, hne, if_false, icbS]
    by_cases hc : isCommentB b
    · simp [isCommentB] at hc; simp [hc, isCommentB]
    · simp [isCommentB] at hc
      by_cases hs : Gen.Parse.icbStops b.toNat
      · simp [hc, hs, isCommentB]; simp at hstop; omega
      · simp only [hc, hs, isCommentB]; exact ih (p + 1) (by simp at hstop; omega)

theorem icbS_suffix' (s : Bytes) : icbS s <:+ s := by
  induction s with
  | nil => exact List.nil_suffix
  | cons b s ih =>
    simp only [icbS]
    split
    · exact List.nil_suffix
    · split
      · exact List.suffix_refl _
      · exact ih.trans (List.suffix_cons b s)

theorem icbS_blank (b : UInt8) (s : Bytes) (hb : isBlankB b = true) : icbS (b :: s) = icbS s := by
  have hnc : isCommentB b = false := by
    simp [isCommentB, Gen.Parse.icbIsComment, Gen.Parse.commentSymbol, isBlankB, Gen.Parse.isblank] at hb ⊢
    omega
  have hns : Gen.Parse.icbStops b.toNat = false := by simp [Gen.Parse.icbStops]; exact hb
  simp [icbS, hnc, hns]

theorem icbS_dropBlank (s : Bytes) : icbS (s.dropWhile isBlankB) = icbS s := by
  induction s with
  | nil => rfl
  | cons b s ih =>
    by_cases hb : isBlankB b = true
    · rw [List.dropWhile_cons_of_pos hb, ih, icbS_blank b s hb]
    · rw [List.dropWhile_cons_of_neg hb]

theorem icbS_blanks_append {bl : Bytes} (hb : ∀ b ∈ bl, isBlankB b = true) (X : Bytes) : icbS (bl ++ X) = icbS X := by
  rw [← icbS_dropBlank, List.dropWhile_append_of_pos hb, icbS_dropBlank]

theorem icb_at {mem : Bytes} {p stop : Nat} {s : Bytes} (h : At mem p stop s) :
    ∃ q, ignoreCommentAndBlank mem p stop = .ok q ∧ At mem q stop (icbS s) :=
  ⟨_, by unfold ignoreCommentAndBlank; rw [h.1]; exact icbGo_spec stop s _ p h.2, h.of_suffix (icbS_suffix' s)⟩

end DmlcModel.Parse
