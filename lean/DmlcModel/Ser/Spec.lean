/-
What C15 is stated in, beside the model: well-formed values (`wf`) and the documented byte layout (`layout`), written
down independently of the handlers.  Definitions only.
-/
import DmlcModel.Ser.Model

namespace DmlcModel.Ser
open DmlcModel

/-- strictly increasing: what iterating a `std::set` / the keys of a `std::map` yields -/
def StrictSorted {α : Type} (lt : α → α → Bool) (xs : List α) : Prop :=
  xs.Pairwise (fun a b => lt a b = true ∧ lt b a = false)
/-- non-decreasing: what iterating a `std::multiset` / the keys of a `std::multimap` yields -/
def WeakSorted {α : Type} (lt : α → α → Bool) (xs : List α) : Prop :=
  xs.Pairwise (fun a b => lt b a = false)
/-- pairwise different: what iterating a `std::unordered_set` / the keys of an `unordered_map` yields -/
def Distinct {α : Type} (eq : α → α → Bool) (xs : List α) : Prop :=
  xs.Pairwise (fun a b => eq a b = false)

-- the two leaf clauses of `wf`: an arithmetic bit pattern of `n` bytes is below `256 ^ n`, a POD image has the struct's size
def natBelow (v b : Nat) : Prop := v < b
def lenIs (bs : Bytes) (n : Nat) : Prop := bs.length = n
/-- a container that exists in memory has fewer than 2^64 elements, each well formed -/
def wfList {α : Type} (P : α → Prop) (xs : List α) : Prop := xs.length < 2 ^ 64 ∧ ∀ x ∈ xs, P x

/-- well-formed value: bit patterns in range, lengths representable in the 64-bit count, POD images
of the right size, associative containers listed in an order their iteration can produce -/
def wf : (t : Ty) → Val t → Prop
  | .arith _ n, v => natBelow v (256 ^ n)
  | .str, bs => wfList (fun _ => True) bs
  | .pair a b, p => wf a p.1 ∧ wf b p.2
  | .vec t, xs => wfList (wf t) xs
  | .list t, xs => wfList (wf t) xs
  | .deque t, xs => wfList (wf t) xs
  | .set t, xs => wfList (wf t) xs ∧ StrictSorted (Ty.lt t) xs
  | .mset t, xs => wfList (wf t) xs ∧ WeakSorted (Ty.lt t) xs
  | .uset t, xs => wfList (wf t) xs ∧ Distinct (Ty.keyEq t) xs
  | .map k v, xs => wfList (fun p : Val k × Val v => wf k p.1 ∧ wf v p.2) xs ∧
      StrictSorted (fun p q : Val k × Val v => Ty.lt k p.1 q.1) xs
  | .mmap k v, xs => wfList (fun p : Val k × Val v => wf k p.1 ∧ wf v p.2) xs ∧
      WeakSorted (fun p q : Val k × Val v => Ty.lt k p.1 q.1) xs
  | .umap k v, xs => wfList (fun p : Val k × Val v => wf k p.1 ∧ wf v p.2) xs ∧
      Distinct (fun p q : Val k × Val v => Ty.keyEq k p.1 q.1) xs
  | .cnil, _ => True
  | .ccons f r, p => wf f p.1 ∧ wf r p.2
  | .pod s _, bs => lenIs bs s

/-- an `n`-byte scalar in the stream's byte order: least significant byte first iff `ioLE` -/
def scalar (ioLE : Bool) (n v : Nat) : Bytes :=
  let lsbFirst := (List.range n).map fun i => UInt8.ofNat (v / 256 ^ i % 256)
  if ioLE then lsbFirst else lsbFirst.reverse

def counted {α : Type} (ioLE : Bool) (f : α → Bytes) (xs : List α) : Bytes :=
  scalar ioLE 8 xs.length ++ xs.flatMap f

/-- the documented layout: scalars in the stream's byte order, 64-bit counts, elements in iteration
order, pair members (and the fields of a class) one after the other, strings as count + characters;
a plain POD struct is its memory image (outside the property) -/
def layout (ioLE : Bool) : (t : Ty) → Val t → Bytes
  | .arith _ n, v => scalar ioLE n v
  | .str, bs => scalar ioLE 8 (List.length bs) ++ bs
  | .pair a b, p => layout ioLE a p.1 ++ layout ioLE b p.2
  | .vec t, xs => counted ioLE (layout ioLE t) xs
  | .list t, xs => counted ioLE (layout ioLE t) xs
  | .deque t, xs => counted ioLE (layout ioLE t) xs
  | .set t, xs => counted ioLE (layout ioLE t) xs
  | .mset t, xs => counted ioLE (layout ioLE t) xs
  | .uset t, xs => counted ioLE (layout ioLE t) xs
  | .map k v, xs => counted ioLE (fun p : Val k × Val v => layout ioLE k p.1 ++ layout ioLE v p.2) xs
  | .mmap k v, xs => counted ioLE (fun p : Val k × Val v => layout ioLE k p.1 ++ layout ioLE v p.2) xs
  | .umap k v, xs => counted ioLE (fun p : Val k × Val v => layout ioLE k p.1 ++ layout ioLE v p.2) xs
  | .cnil, _ => []
  | .ccons f r, p => layout ioLE f p.1 ++ layout ioLE r p.2
  | .pod _ _, bs => bs

end DmlcModel.Ser
