/-
The handlers produce the documented byte layout (`encode_eq_layout`).  The last section (`Ty.rawTight`) is not part of
that proof.
-/
import DmlcModel.Ser.RoundTrip
import DmlcModel.BasicLemmas


namespace DmlcModel.Ser
open DmlcModel

theorem toLE_eq_range (n v : Nat) :
    toLE n v = (List.range n).map fun i => UInt8.ofNat (v / 256 ^ i % 256) := by
  induction n generalizing v with
  | zero => rfl
  | succ n ih =>
    rw [toLE, ih, List.range_succ_eq_map, List.map_cons, List.map_map]
    congr 1
    · simp
    · apply List.map_congr_left
      intro i _
      simp only [Function.comp, Nat.pow_succ]
      rw [Nat.div_div_eq_div_mul, Nat.mul_comm]

theorem image_eq_scalar (le : Bool) (n v : Nat) : image le n v = scalar le n v := by
  unfold image scalar
  rw [toLE_eq_range]

/-- under `DMLC_IO_NO_ENDIAN_SWAP` the memory image of a POD leaf is what its handler writes -/
theorem pod_raw_eq_encode (c : Cfg) (t : Ty) (hp : t.isPod = true) (hs : c.noSwap = true)
    (v : Val t) : nativeImg c t v = encode c t v := by
  cases t with
  | arith k n => simp only [encode_arith, nativeImg, arithWrite, arithSwapW_eq, hs, Bool.not_true, Bool.false_eq_true, if_false]
  | pod s a => exact (encode_pod c hs s a v).symm
  | _ => cases hp


theorem vecWrite_eq {α : Type} (c : Cfg) (podT : Bool) (raw enc : α → Bytes) (lay : α → Bytes) (xs : List α)
    (hlen : xs.length < 2 ^ 64)
    (hraw : (podT && c.noSwap) = true → ∀ x ∈ xs, raw x = enc x)
    (hl : ∀ x ∈ xs, enc x = lay x) :
    vecWrite c podT raw enc xs = counted c.ioLE lay xs := by
  rw [vecWrite_count c podT raw enc xs hlen, countWrite_eq c _ hlen, image_eq_scalar, counted]
  congr 1
  cases hp : (podT && c.noSwap)
  · exact flatMap_congr_mem hl
  · exact flatMap_congr_mem fun x hx => (hraw hp x hx).trans (hl x hx)

theorem strWrite_eq (c : Cfg) (bs : Bytes) (hlen : bs.length < 2 ^ 64) :
    strWrite c bs = scalar c.ioLE 8 bs.length ++ bs := by
  rw [strWrite_count c bs hlen, countWrite_eq c _ hlen, image_eq_scalar]

theorem pairWrite_eq {α β : Type} (c : Cfg) (a b : Ty) (rawA encA : α → Bytes) (rawB encB : β → Bytes)
    (p : α × β)
    (hraw : Gen.Ser.pairRawW a.isPod b.isPod c.noSwap a.size b.size (pairSize a b) = true →
      rawA p.1 = encA p.1 ∧ rawB p.2 = encB p.2 ∧ pairOffB a b = a.size ∧ pairSize a b = pairOffB a b + b.size) :
    pairWrite c a b rawA rawB encA encB p = encA p.1 ++ encB p.2 := by
  unfold pairWrite
  cases hp : Gen.Ser.pairRawW a.isPod b.isPod c.noSwap a.size b.size (pairSize a b)
  · simp [pairFirstW_eq]
  · obtain ⟨h1, h2, h3, h4⟩ := hraw hp
    simp [h1, h2, h3, h4, zeros]

section cases
variable (c : Cfg) (a b : Ty) (hoka : a.ok = true) (hokb : b.ok = true)
  (iha : ∀ v : Val a, wf a v → encode c a v = layout c.ioLE a v)
  (ihb : ∀ v : Val b, wf b v → encode c b v = layout c.ioLE b v)
include iha

theorem vec_layout_case (xs : List (Val a)) (hv : wfList (wf a) xs) :
    vecWrite c a.isPod (nativeImg c a) (encode c a) xs = counted c.ioLE (layout c.ioLE a) xs :=
  vecWrite_eq c _ _ _ _ xs hv.1
    (fun hp x _ => pod_raw_eq_encode c a (Bool.and_eq_true_iff.mp hp).1 (Bool.and_eq_true_iff.mp hp).2 x)
    fun x hx => iha x (hv.2 x hx)

include hoka hokb ihb

theorem pair_layout_case (p : Val a × Val b) (hv : wf a p.1 ∧ wf b p.2) :
    pairWrite c a b (nativeImg c a) (nativeImg c b) (encode c a) (encode c b) p =
      layout c.ioLE a p.1 ++ layout c.ioLE b p.2 := by
  rw [← iha p.1 hv.1, ← ihb p.2 hv.2]
  apply pairWrite_eq
  intro hraw
  have hp := Bool.and_eq_true_iff.mp (pairRaw_imp _ _ _ _ _ _ hraw)
  have hpp := Bool.and_eq_true_iff.mp hp.1
  exact ⟨pod_raw_eq_encode c a hpp.1 hp.2 p.1, pod_raw_eq_encode c b hpp.2 hp.2 p.2,
    pairTight_offsets a b (align_pos a hoka hpp.1) (align_pos b hokb hpp.2)
      (pairRaw_tight _ _ _ _ _ _ hraw)⟩

theorem map_layout_case (xs : List (Val a × Val b)) (hv : wfList (fun p : Val a × Val b => wf a p.1 ∧ wf b p.2) xs) :
    vecWrite c false (fun _ => []) (pairWrite c a b (nativeImg c a) (nativeImg c b) (encode c a) (encode c b)) xs =
      counted c.ioLE (fun p : Val a × Val b => layout c.ioLE a p.1 ++ layout c.ioLE b p.2) xs :=
  vecWrite_eq c _ _ _ _ xs hv.1 (fun hp => nomatch hp)
    fun p hp => pair_layout_case c a b hoka hokb iha ihb p (hv.2 p hp)

end cases

theorem encode_eq_layout (c : Cfg) (t : Ty) (hok : t.ok = true) (hpf : t.podFree = true) :
    ∀ v : Val t, wf t v → encode c t v = layout c.ioLE t v := by
  induction t with
  | arith k n =>
    intro v _
    rw [encode_arith, arithWrite_eq c n v (Or.inr (by have := (sizeOk_le hok).1; omega)), image_eq_scalar]
    rfl
  | pod s a => cases hpf
  | str => exact fun v hv => strWrite_eq c v hv.1
  | pair a b iha ihb =>
    exact pair_layout_case c a b (and_l hok) (and_r hok) (iha (and_l hok) (and_l hpf)) (ihb (and_r hok) (and_r hpf))
  | vec t ih | list t ih | deque t ih => exact vec_layout_case c t (ih hok hpf)
  | set t ih | mset t ih | uset t ih => exact fun v hv => vec_layout_case c t (ih (and_l hok) hpf) v hv.1
  | map k w ihk ihw | mmap k w ihk ihw | umap k w ihk ihw =>
    exact fun v hv => map_layout_case c k w (and_l (and_l hok)) (and_r (and_l hok))
      (ihk (and_l (and_l hok)) (and_l hpf)) (ihw (and_r (and_l hok)) (and_r hpf)) v hv.1
  | cnil => exact fun _ _ => rfl
  | ccons f r ihf ihr =>
    intro v hv
    rw [encode_ccons, ihf (and_l hok) (and_l hpf) v.1 hv.1, ihr (and_r hok) (and_r hpf) v.2 hv.2]
    rfl

/-! ### the raw `std::pair` path, for whole types

Results of their own, used by nothing (`encode_eq_layout` calls `pairRaw_tight` at each pair).  `Ty.padFree` / `pairTight`
(Ser/Model.lean) are what `rawTight_of_padFree` is stated in. -/

/-- where the raw `std::pair` path is taken, the pair object has no padding -/
def pairRawTight (c : Cfg) (a b : Ty) : Prop :=
  Gen.Ser.pairRawW a.isPod b.isPod c.noSwap a.size b.size (pairSize a b) = true → pairSize a b = a.size + b.size

def Ty.rawTight (c : Cfg) : Ty → Prop
  | .pair a b => pairRawTight c a b ∧ a.rawTight c ∧ b.rawTight c
  | .vec t => t.rawTight c
  | .list t => t.rawTight c
  | .deque t => t.rawTight c
  | .set t => t.rawTight c
  | .mset t => t.rawTight c
  | .uset t => t.rawTight c
  | .map k v => pairRawTight c k v ∧ k.rawTight c ∧ v.rawTight c
  | .mmap k v => pairRawTight c k v ∧ k.rawTight c ∧ v.rawTight c
  | .umap k v => pairRawTight c k v ∧ k.rawTight c ∧ v.rawTight c
  | .ccons f r => f.rawTight c ∧ r.rawTight c
  | _ => True

theorem rawTight_all (c : Cfg) (t : Ty) : t.rawTight c := by
  induction t with
  | pair a b iha ihb | map a b iha ihb | mmap a b iha ihb | umap a b iha ihb =>
    exact ⟨fun h => pairRaw_tight _ _ _ _ _ _ h, iha, ihb⟩
  | vec t ih | list t ih | deque t ih | set t ih | mset t ih | uset t ih => exact ih
  | ccons f r ihf ihr => exact ⟨ihf, ihr⟩
  | _ => trivial

set_option linter.unusedVariables false in
/-- `rawTight_all`; the hypothesis is not used -/
theorem rawTight_of_padFree (c : Cfg) (t : Ty) (h : c.noSwap = true → t.padFree = true) : t.rawTight c :=
  rawTight_all c t

end DmlcModel.Ser
