/-
A reader that looks at no more of the stream than it consumes (`Stable`).  Every handler combinator builds stable
readers from stable readers, so every `Handler<T>::Read` is one, with no hypothesis on type or bytes; and a stable
reader that reads `x` from `w` also refuses every strict prefix of `w` (`Stable.exact`).
-/
import DmlcModel.Ser.Lemmas

namespace DmlcModel.Ser
open DmlcModel

def Reads {α : Type} (P : Bytes → Option (α × Bytes)) (w : Bytes) (x : α) : Prop := ∀ r, P (w ++ r) = some (x, r)

structure Exact {α : Type} (P : Bytes → Option (α × Bytes)) (w : Bytes) (x : α) : Prop where
  rt : Reads P w x
  tr : ∀ k, k < w.length → P (w.take k) = none

def Stable {α : Type} (P : Bytes → Option (α × Bytes)) : Prop :=
  ∀ s x r, P s = some (x, r) → ∃ pre, s = pre ++ r ∧ ∀ t, P (pre ++ t) = some (x, t)

section combinators
variable {α β : Type} {P : Bytes → Option (α × Bytes)} {Q : α → Bytes → Option (β × Bytes)}
  {R : Bytes → Option (β × Bytes)}

/-- `h1`, `h2` say that `R` runs `P` and continues as `Q x` on what `P` left; each is an unfolding of `R` -/
theorem Stable.bind (hP : Stable P) (hQ : ∀ x, Stable (Q x)) (h1 : ∀ s, P s = none → R s = none)
    (h2 : ∀ s x s1, P s = some (x, s1) → R s = Q x s1) : Stable R := by
  intro s z r h
  cases hp : P s with
  | none => rw [h1 s hp] at h; cases h
  | some xs =>
    obtain ⟨x, s1⟩ := xs
    obtain ⟨p1, rfl, k1⟩ := hP s x s1 hp
    obtain ⟨p2, rfl, k2⟩ := hQ x s1 z r (h2 _ x s1 hp ▸ h)
    exact ⟨p1 ++ p2, (List.append_assoc ..).symm, fun t => by
      rw [List.append_assoc, h2 _ x _ (k1 _)]; exact k2 t⟩

theorem stable_pure (y : α) : Stable (fun s => some (y, s)) :=
  fun s _ _ h => ⟨[], by cases h; rfl, fun _ => by cases h; rfl⟩

theorem stable_fail : Stable (fun _ => (none : Option (α × Bytes))) := fun _ _ _ h => nomatch h

theorem Stable.conv (hP : Stable P) (f : α → β) (h1 : ∀ s, P s = none → R s = none)
    (h2 : ∀ s x r, P s = some (x, r) → R s = some (f x, r)) : Stable R :=
  hP.bind (fun x => stable_pure (f x)) h1 h2

/-- a success on a strict prefix of `w` would, by stability, be repeated on `w` itself and leave something -/
theorem Stable.exact (hP : Stable P) {w : Bytes} {x : α} (h : Reads P w x) : Exact P w x := by
  refine ⟨h, fun n hn => ?_⟩
  cases hk : P (w.take n) with
  | none => rfl
  | some yr =>
    obtain ⟨y, r⟩ := yr
    obtain ⟨p, e, k⟩ := hP _ y r hk
    have := k (r ++ w.drop n)
    rw [← List.append_assoc, ← e, List.take_append_drop, ← List.append_nil w, h []] at this
    have hl := congrArg List.length (Prod.mk.inj (Option.some.inj this)).2
    simp only [List.length_nil, List.length_append, List.length_drop] at hl
    omega

end combinators

theorem stable_readBytes (n : Nat) : Stable (readBytes n) := by
  intro s x r h
  unfold readBytes at h
  split at h
  · cases h
  · cases h
    have hl : (s.take n).length = n := List.length_take_of_le (by omega)
    refine ⟨s.take n, (List.take_append_drop n s).symm, fun t => ?_⟩
    have := readBytes_append (s.take n) t
    rwa [hl] at this

theorem Stable.map {α β : Type} {P : Bytes → Option (α × Bytes)} (hP : Stable P) (f : α → β) :
    Stable (fun s => (P s).map fun p => (f p.1, p.2)) :=
  hP.conv f (fun s h' => by simp only [h', Option.map_none]) (fun s x r h' => by simp only [h', Option.map_some])

theorem Stable.of_eq {α : Type} {P R : Bytes → Option (α × Bytes)} (hP : Stable P) (h : ∀ s, R s = P s) : Stable R :=
  (funext h : R = P) ▸ hP

theorem stable_arithRead (c : Cfg) (n : Nat) : Stable (arithRead c n) :=
  (stable_readBytes n).conv (fun img => unimage c.hostLE (if Gen.Ser.arithSwapR c.noSwap then byteSwap1 img else img))
    (fun s h => by simp only [arithRead, h]) (fun s x r h => by simp only [arithRead, h])

theorem stable_readN {α : Type} {rd : Bytes → Option (α × Bytes)} (h : Stable rd) : ∀ n, Stable (readN rd n)
  | 0 => stable_pure []
  | n + 1 =>
    h.bind (fun x => (stable_readN h n).map (x :: ·)) (fun s h' => by simp only [readN, h'])
      (fun s x s1 h' => by simp only [readN, h']; cases readN rd n s1 <;> rfl)

theorem stable_seqRead {α β : Type} {rdA : Bytes → Option (α × Bytes)} {rdB : Bytes → Option (β × Bytes)}
    (ha : Stable rdA) (hb : Stable rdB) : Stable (seqRead rdA rdB) :=
  ha.bind (fun x => hb.map (Prod.mk x)) (fun s h' => by simp only [seqRead, h'])
    (fun s x s1 h' => by simp only [seqRead, h']; cases rdB s1 <;> rfl)

theorem stable_counted {α : Type} (c : Cfg) {Q : Nat → Bytes → Option (α × Bytes)} (hQ : ∀ n, Stable (Q n))
    {R : Bytes → Option (α × Bytes)}
    (hR : ∀ s, R s = match countRead c s with | none => none | some (n, s1) => Q n s1) : Stable R :=
  (stable_arithRead c Gen.Ser.countBytes).bind hQ (fun s h' => by simp only [hR, countRead, h'])
    (fun s n s1 h' => by simp only [hR, countRead, h'])

theorem stable_nonzero {α : Type} {Q : Nat → Bytes → Option (List α × Bytes)} (hQ : ∀ n, Stable (Q n)) (n : Nat) :
    Stable fun s1 => if n != 0 then Q n s1 else some ([], s1) := by
  by_cases hn : (n != 0) = true
  · simp only [hn, if_true]; exact hQ n
  · simp only [hn]; exact stable_pure []

theorem stable_vecRead {α : Type} (c : Cfg) (podT : Bool) (sz : Nat) (unraw : Bytes → α)
    {rd : Bytes → Option (α × Bytes)} (h : Stable rd) : Stable (vecRead c podT sz unraw rd) := by
  cases hraw : Gen.Ser.vecRawR podT c.noSwap
  · exact stable_counted c (stable_readN h) fun s => by
      simp only [vecRead, hraw, Bool.false_eq_true, if_false]; rfl
  · exact stable_counted c
      (stable_nonzero fun n => (stable_readBytes (sz * n)).map fun blk => (splitN sz n blk).map unraw) fun s => by
        simp only [vecRead, hraw, if_true]
        cases countRead c s with
        | none => rfl
        | some p =>
          dsimp only
          split
          · cases readBytes (sz * p.1) p.2 <;> rfl
          · rfl

theorem stable_strRead (c : Cfg) : Stable (strRead c) :=
  stable_counted c (stable_nonzero stable_readBytes) fun s => by
    simp only [strRead, strRawR_char, if_true]; rfl

theorem stable_pairRead {α β : Type} (c : Cfg) (a b : Ty) (unrawA : Bytes → α) (unrawB : Bytes → β)
    {rdA : Bytes → Option (α × Bytes)} {rdB : Bytes → Option (β × Bytes)} (ha : Stable rdA) (hb : Stable rdB) :
    Stable (pairRead c a b unrawA unrawB rdA rdB) := by
  cases hr : Gen.Ser.pairRawR a.isPod b.isPod c.noSwap a.size b.size (pairSize a b)
  · exact (stable_seqRead ha hb).of_eq fun s => by
      simp only [pairRead, hr, pairFirstR_eq, Bool.false_eq_true, if_false, if_true]
  · exact ((stable_readBytes (pairSize a b)).map
        fun blk => (unrawA (blk.take a.size), unrawB ((blk.drop (pairOffB a b)).take b.size))).of_eq fun s => by
      simp only [pairRead, hr, if_true]
      cases readBytes (pairSize a b) s <;> rfl

theorem decode_stable (c : Cfg) (t : Ty) : Stable (decode c t) := by
  induction t with
  | arith k n =>
    rw [decode_arith]
    exact stable_arithRead c n
  | pod s a =>
    show Stable fun s' => decode c (.pod s a) s'
    simp only [decode]
    split
    · exact stable_readBytes s
    · exact stable_fail
  | str => exact stable_strRead c
  | pair a b iha ihb => exact stable_pairRead c a b _ _ iha ihb
  | vec t ih | list t ih | deque t ih => exact stable_vecRead c _ _ _ ih
  | set t ih | mset t ih | uset t ih => exact (stable_vecRead c _ _ _ ih).map _
  | map k w ihk ihw | mmap k w ihk ihw | umap k w ihk ihw =>
    exact (stable_vecRead c _ _ _ (stable_pairRead c k w _ _ ihk ihw)).map _
  | cnil => exact stable_pure ()
  | ccons f r ihf ihr =>
    rw [decode_ccons]
    exact stable_seqRead ihf ihr

end DmlcModel.Ser
