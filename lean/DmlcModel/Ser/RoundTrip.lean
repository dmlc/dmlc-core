/-
Round trip of a reader on the bytes a writer produced (`Reads`), kept by the handler combinators, then by induction
over the type universe for every type that is `Ty.sized`; every handler being `Stable`, it is `Exact` on the encoding.
-/
import DmlcModel.Ser.Stable
import DmlcModel.Ser.Spec


namespace DmlcModel.Ser
open DmlcModel

section combinators
variable {α β γ : Type} {P : Bytes → Option (α × Bytes)} {Q : Bytes → Option (β × Bytes)}
  {R : Bytes → Option (γ × Bytes)} {w v : Bytes} {x : α} {y : β}

/-- `h` says that `R` runs `P`, then `Q` on what `P` left, and returns `z`; it is an unfolding of `R` -/
theorem Reads.seq (hP : Reads P w x) (hQ : Reads Q v y) (z : γ)
    (h : ∀ s s1 s2, P s = some (x, s1) → Q s1 = some (y, s2) → R s = some (z, s2)) : Reads R (w ++ v) z :=
  fun r => h _ _ r (List.append_assoc w v r ▸ hP (v ++ r)) (hQ r)

theorem Reads.conv (hP : Reads P w x) (z : γ) (h : ∀ s r, P s = some (x, r) → R s = some (z, r)) : Reads R w z :=
  fun r => h _ r (hP r)

end combinators

theorem reads_readBytes {n : Nat} {w : Bytes} (h : w.length = n) : Reads (readBytes n) w w :=
  fun r => h ▸ readBytes_append w r

theorem reads_pure {α : Type} (y : α) : Reads (fun s => some (y, s)) [] y := fun _ => rfl

theorem readN_reads {α : Type} {P : Bytes → Option (α × Bytes)} {E : α → Bytes} (xs : List α)
    (h : ∀ x ∈ xs, Reads P (E x) x) : Reads (readN P xs.length) (xs.flatMap E) xs := by
  induction xs with
  | nil => exact reads_pure []
  | cons x xs ih =>
    exact (h x List.mem_cons_self).seq (ih fun y hy => h y (List.mem_cons_of_mem x hy)) (x :: xs)
      (fun s s1 s2 h h' => by simp only [List.length_cons, readN, h, h'])

theorem seq_reads {α β : Type} {Pa : Bytes → Option (α × Bytes)} {Pb : Bytes → Option (β × Bytes)}
    {w v : Bytes} {x : α} {y : β} (ha : Reads Pa w x) (hb : Reads Pb v y) :
    Reads (seqRead Pa Pb) (w ++ v) (x, y) :=
  ha.seq hb (x, y) (fun s s1 s2 h h' => by simp only [seqRead, h, h'])

theorem flatMap_length_const {α : Type} (raw : α → Bytes) (sz : Nat) (xs : List α)
    (h : ∀ x ∈ xs, (raw x).length = sz) : (xs.flatMap raw).length = sz * xs.length := by
  induction xs with
  | nil => simp
  | cons x xs ih =>
    simp only [List.flatMap_cons, List.length_append, List.length_cons, h x (by simp),
      ih (fun y hy => h y (by simp [hy])), Nat.mul_succ]
    omega

theorem splitN_flatMap {α : Type} (raw : α → Bytes) (sz : Nat) (xs : List α)
    (h : ∀ x ∈ xs, (raw x).length = sz) : splitN sz xs.length (xs.flatMap raw) = xs.map raw := by
  induction xs with
  | nil => simp [splitN]
  | cons x xs ih =>
    have hx := h x (by simp)
    simp only [List.flatMap_cons, List.length_cons, splitN, List.map_cons]
    rw [List.take_left' hx, List.drop_left' hx, ih (fun y hy => h y (by simp [hy]))]

section vec
variable {α : Type} (c : Cfg) (podT : Bool) (sz : Nat) (raw enc : α → Bytes) (unraw : Bytes → α)
  (rd : Bytes → Option (α × Bytes))

theorem vecWrite_count (xs : List α) (hlen : xs.length < 2 ^ 64) :
    vecWrite c podT raw enc xs =
      countWrite c xs.length ++ xs.flatMap (bif podT && c.noSwap then raw else enc) := by
  unfold vecWrite
  rw [vecRawW_eq, count_mod hlen]
  cases (podT && c.noSwap)
  · rfl
  · cases xs <;> rfl

theorem vec_reads (xs : List α) (hlen : xs.length < 2 ^ 64)
    (hraw : (podT && c.noSwap) = true → ∀ x ∈ xs, (raw x).length = sz ∧ unraw (raw x) = x)
    (helem : (podT && c.noSwap) = false → ∀ x ∈ xs, Reads rd (enc x) x) :
    Reads (vecRead c podT sz unraw rd) (vecWrite c podT raw enc xs) xs := by
  rw [vecWrite_count c podT raw enc xs hlen]
  have hc : Reads (countRead c) _ _ := countRead_countWrite c xs.length hlen
  cases hp : (podT && c.noSwap)
  · exact hc.seq (readN_reads xs (helem hp)) xs
      (fun s s1 s2 h h' => by simp only [vecRead, h, vecRawR_eq, hp, Bool.false_eq_true, if_false, h'])
  · have hl := fun y hy => (hraw hp y hy).1
    have hm : (xs.map raw).map unraw = xs := by
      rw [List.map_map]
      exact (List.map_congr_left fun y hy => (hraw hp y hy).2).trans (List.map_id xs)
    rcases xs.eq_nil_or_concat with rfl | hne
    · exact hc.seq (reads_pure ([] : List α)) [] (fun s s1 s2 h h' => by cases h'; simp [vecRead, h, vecRawR_eq, hp])
    · have hne : xs.length ≠ 0 := by obtain ⟨_, _, rfl⟩ := hne; simp
      exact hc.seq (reads_readBytes (flatMap_length_const raw sz _ hl)) xs
        (fun s s1 s2 h h' => by simp [vecRead, h, vecRawR_eq, hp, hne, h', splitN_flatMap raw sz _ hl, hm])

end vec

theorem strWrite_count (c : Cfg) (bs : Bytes) (hlen : bs.length < 2 ^ 64) :
    strWrite c bs = countWrite c bs.length ++ bs := by
  unfold strWrite
  rw [strRawW_char, count_mod hlen]
  cases bs <;> rfl

theorem str_reads (c : Cfg) (bs : Bytes) (hlen : bs.length < 2 ^ 64) : Reads (strRead c) (strWrite c bs) bs := by
  rw [strWrite_count c bs hlen]
  have hc : Reads (countRead c) _ _ := countRead_countWrite c bs.length hlen
  rcases bs.eq_nil_or_concat with rfl | hne
  · exact hc.seq (reads_pure ([] : Bytes)) [] (fun s s1 s2 h h' => by cases h'; simp [strRead, strRawR_char, h])
  · have hne : bs.length ≠ 0 := by obtain ⟨_, _, rfl⟩ := hne; simp
    exact hc.seq (reads_readBytes rfl) bs (fun s s1 s2 h h' => by simp [strRead, strRawR_char, h, hne, h'])

theorem pairTight_offsets (a b : Ty) (hal : 0 < a.align) (hbl : 0 < b.align)
    (ht : pairSize a b = a.size + b.size) :
    pairOffB a b = a.size ∧ pairSize a b = pairOffB a b + b.size := by
  have h1 : a.size ≤ pairOffB a b := roundUp_ge _ _ hbl
  have h2 : pairOffB a b + b.size ≤ pairSize a b :=
    roundUp_ge _ _ (Nat.lt_of_lt_of_le hal (Nat.le_max_left _ _))
  omega

section pair
variable {α β : Type} (c : Cfg) (a b : Ty) (rawA encA : α → Bytes) (rawB encB : β → Bytes)
  (unrawA : Bytes → α) (unrawB : Bytes → β)
  (rdA : Bytes → Option (α × Bytes)) (rdB : Bytes → Option (β × Bytes))

/-- the raw path is taken only for pair objects without padding (`pairRaw_tight`), so the block read is the two memory
images side by side; alignments not 0 because `pairOffB` is `a.size` rounded up to a multiple of `b.align` -/
theorem pair_reads (x : α) (y : β)
    (hraw : (a.isPod && b.isPod && c.noSwap) = true →
      (rawA x).length = a.size ∧ (rawB y).length = b.size ∧ unrawA (rawA x) = x ∧ unrawB (rawB y) = y ∧
      0 < a.align ∧ 0 < b.align)
    (hA : Reads rdA (encA x) x) (hB : Reads rdB (encB y) y) :
    Reads (pairRead c a b unrawA unrawB rdA rdB) (pairWrite c a b rawA rawB encA encB (x, y)) (x, y) := by
  unfold pairRead pairWrite
  rw [← pairRaw_WR]
  cases hp : Gen.Ser.pairRawW a.isPod b.isPod c.noSwap a.size b.size (pairSize a b)
  · simp only [Bool.false_eq_true, if_false, pairFirstW_eq, pairFirstR_eq, if_true]
    exact seq_reads hA hB
  · obtain ⟨ha, hb, hua, hub, hal, hbl⟩ := hraw (pairRaw_imp _ _ _ _ _ _ hp)
    obtain ⟨ho, hsz⟩ := pairTight_offsets a b hal hbl (pairRaw_tight _ _ _ _ _ _ hp)
    simp only [if_true, hsz, ho, Nat.sub_self, zeros, List.replicate_zero, List.append_nil]
    exact (reads_readBytes (by rw [List.length_append, ha, hb])).conv (x, y) (fun s r h => by
        simp only [h, List.take_left' ha, List.drop_left' ha, List.take_of_length_le (Nat.le_of_eq hb), hua, hub])

end pair
theorem insertAll_id {α : Type} (ins : α → List α → List α) (R : α → α → Prop)
    (hins : ∀ x acc, (∀ y ∈ acc, R y x) → ins x acc = acc ++ [x]) (xs : List α)
    (h : xs.Pairwise R) : insertAll ins xs = xs := by
  unfold insertAll
  have key : ∀ (ys acc : List α), (acc ++ ys).Pairwise R →
      ys.foldl (fun acc x => ins x acc) acc = acc ++ ys := by
    intro ys
    induction ys with
    | nil => intro acc _; simp
    | cons y ys ih =>
      intro acc hp
      simp only [List.foldl_cons]
      have hy : ∀ z ∈ acc, R z y := by
        intro z hz
        rw [List.pairwise_append] at hp
        exact hp.2.2 z hz y (by simp)
      rw [hins y acc hy, ih (acc ++ [y]) (by simpa [List.append_assoc] using hp)]
      simp [List.append_assoc]
  simpa using key xs [] (by simpa using h)

theorem insU_append {α : Type} (lt : α → α → Bool) (x : α) (acc : List α)
    (h : ∀ y ∈ acc, lt y x = true ∧ lt x y = false) : insU lt x acc = acc ++ [x] := by
  induction acc with
  | nil => rfl
  | cons y ys ih =>
    have hy := h y (by simp)
    simp [insU, hy.1, hy.2, ih (fun z hz => h z (by simp [hz]))]

theorem insM_append {α : Type} (lt : α → α → Bool) (x : α) (acc : List α)
    (h : ∀ y ∈ acc, lt x y = false) : insM lt x acc = acc ++ [x] := by
  induction acc with
  | nil => rfl
  | cons y ys ih =>
    simp [insM, h y (by simp), ih (fun z hz => h z (by simp [hz]))]

theorem insH_append {α : Type} (eq : α → α → Bool) (x : α) (acc : List α)
    (h : ∀ y ∈ acc, eq y x = false) : insH eq x acc = acc ++ [x] := by
  unfold insH
  have : acc.any (fun y => eq y x) = false := by
    rw [List.any_eq_false]; intro y hy; simp [h y hy]
  simp [this]

theorem insertAll_set {α : Type} (lt : α → α → Bool) (xs : List α) (h : StrictSorted lt xs) :
    insertAll (insU lt) xs = xs :=
  insertAll_id _ _ (fun x acc hy => insU_append lt x acc hy) xs h

theorem insertAll_mset {α : Type} (lt : α → α → Bool) (xs : List α) (h : WeakSorted lt xs) :
    insertAll (insM lt) xs = xs :=
  insertAll_id _ _ (fun x acc hy => insM_append lt x acc hy) xs h

theorem insertAll_uset {α : Type} (eq : α → α → Bool) (xs : List α) (h : Distinct eq xs) :
    insertAll (insH eq) xs = xs :=
  insertAll_id _ _ (fun x acc hy => insH_append eq x acc hy) xs h

theorem Reads.post {α : Type} {P : Bytes → Option (List α × Bytes)} {w : Bytes} {xs : List α}
    (h : Reads P w xs) {post : List α → List α} (hp : post xs = xs) :
    Reads (fun s => (P s).map fun (ys, r) => (post ys, r)) w xs :=
  h.conv xs (fun s r h => by simp only [h, Option.map_some, hp])

theorem sizeOk_le {n : Nat} (h : sizeOk n = true) : n ≤ 8 ∧ 0 < n := by
  simp [sizeOk] at h; omega

theorem pod_raw (c : Cfg) (t : Ty) (hp : t.isPod = true) (v : Val t) (hv : wf t v) :
    (nativeImg c t v).length = t.size ∧ nativeVal c t (nativeImg c t v) = v := by
  cases t with
  | arith k n => exact ⟨image_length _ _ _, unimage_image c.hostLE n v hv⟩
  | pod s a => exact ⟨hv, rfl⟩
  | _ => cases hp

theorem align_pos (t : Ty) (hok : t.ok = true) (hp : t.isPod = true) : 0 < t.align := by
  cases t with
  | arith k n => exact (sizeOk_le hok).2
  | pod s a => exact (sizeOk_le (Bool.and_eq_true_iff.mp (Bool.and_eq_true_iff.mp hok).1).1).2
  | _ => cases hp

/-- see `pair_reads` -/
def alignedRaw (c : Cfg) (a b : Ty) : Prop := (a.isPod && b.isPod && c.noSwap) = true → 0 < a.align ∧ 0 < b.align

/-- what the round trip needs of a type, much less than `Ty.ok`: where `ByteSwap` runs, a size that its `size_t` index
arithmetic can express, and `alignedRaw`.  Key types need nothing: the order of an associative container is in `wf` -/
def Ty.sized (c : Cfg) : Ty → Prop
  | .arith _ n => c.noSwap = true ∨ n < 2 ^ 64
  | .pair a b | .map a b | .mmap a b | .umap a b => alignedRaw c a b ∧ a.sized c ∧ b.sized c
  | .vec t | .list t | .deque t | .set t | .mset t | .uset t => t.sized c
  | .ccons f r => f.sized c ∧ r.sized c
  | _ => True

theorem sized_of_ok (c : Cfg) (t : Ty) (hok : t.ok = true) : t.sized c := by
  have raw {a b : Ty} (ha : a.ok = true) (hb : b.ok = true) : alignedRaw c a b := fun h =>
    ⟨align_pos a ha (and_l (and_l h)), align_pos b hb (and_r (and_l h))⟩
  induction t with
  | arith k n => exact Or.inr (by have := (sizeOk_le hok).1; omega)
  | pair a b iha ihb => exact ⟨raw (and_l hok) (and_r hok), iha (and_l hok), ihb (and_r hok)⟩
  | vec t ih | list t ih | deque t ih => exact ih hok
  | set t ih | mset t ih | uset t ih => exact ih (and_l hok)
  | map k w ihk ihw | mmap k w ihk ihw | umap k w ihk ihw =>
    exact ⟨raw (and_l (and_l hok)) (and_r (and_l hok)), ihk (and_l (and_l hok)), ihw (and_r (and_l hok))⟩
  | ccons f r ihf ihr => exact ⟨ihf (and_l hok), ihr (and_r hok)⟩
  | _ => trivial

section cases
variable (c : Cfg) (a b : Ty)
  (iha : ∀ v : Val a, wf a v → Reads (decode c a) (encode c a v) v)
  (ihb : ∀ v : Val b, wf b v → Reads (decode c b) (encode c b v) v)
include iha

theorem vec_case (xs : List (Val a)) (hv : wfList (wf a) xs) :
    Reads (vecRead c a.isPod a.size (nativeVal c a) (decode c a))
      (vecWrite c a.isPod (nativeImg c a) (encode c a) xs) xs :=
  vec_reads c _ _ _ _ _ _ xs hv.1
    (fun hp x hx => pod_raw c a (Bool.and_eq_true_iff.mp hp).1 x (hv.2 x hx))
    fun _ x hx => iha x (hv.2 x hx)

variable (hal : alignedRaw c a b)
include ihb hal

theorem pair_case (v : Val a × Val b) (hv : wf a v.1 ∧ wf b v.2) :
    Reads (pairRead c a b (nativeVal c a) (nativeVal c b) (decode c a) (decode c b))
      (pairWrite c a b (nativeImg c a) (nativeImg c b) (encode c a) (encode c b) v) v :=
  pair_reads c a b _ _ _ _ _ _ _ _ v.1 v.2
    (fun hp =>
      have hpod := Bool.and_eq_true_iff.mp (Bool.and_eq_true_iff.mp hp).1
      have ra := pod_raw c a hpod.1 v.1 hv.1
      have rb := pod_raw c b hpod.2 v.2 hv.2
      ⟨ra.1, rb.1, ra.2, rb.2, hal hp⟩)
    (iha v.1 hv.1) (ihb v.2 hv.2)

/-- the `std::vector<std::pair<K, V>>` through which the map-like containers are written and read -/
theorem map_case (xs : List (Val a × Val b)) (hv : wfList (fun p : Val a × Val b => wf a p.1 ∧ wf b p.2) xs) :
    Reads (vecRead c false 0 (fun _ => (Ty.dflt a, Ty.dflt b))
        (pairRead c a b (nativeVal c a) (nativeVal c b) (decode c a) (decode c b)))
      (vecWrite c false (fun _ => [])
        (pairWrite c a b (nativeImg c a) (nativeImg c b) (encode c a) (encode c b)) xs) xs :=
  vec_reads c _ _ _ _ _ _ xs hv.1 (fun hp => nomatch hp)
    fun _ p hp => pair_case c a b iha ihb hal p (hv.2 p hp)

end cases

theorem decode_reads (c : Cfg) (t : Ty) (hsz : t.sized c) (hs : c.noSwap = true ∨ t.podFree = true) :
    ∀ v : Val t, wf t v → Reads (decode c t) (encode c t v) v := by
  induction t with
  | arith k n =>
    intro v hv
    rw [decode_arith, encode_arith]
    exact arithRead_arithWrite c n v hsz hv
  | pod s a =>
    intro v hv
    have hns := hs.resolve_right (by simp [Ty.podFree])
    rw [decode_pod c hns, encode_pod c hns]
    exact reads_readBytes hv
  | str => exact fun v hv => str_reads c v hv.1
  | pair a b iha ihb =>
    exact pair_case c a b (iha hsz.2.1 (hs.imp_right and_l)) (ihb hsz.2.2 (hs.imp_right and_r)) hsz.1
  | vec t ih | list t ih | deque t ih => exact vec_case c t (ih hsz hs)
  | set t ih => exact fun v hv => (vec_case c t (ih hsz hs) v hv.1).post (insertAll_set _ v hv.2)
  | mset t ih => exact fun v hv => (vec_case c t (ih hsz hs) v hv.1).post (insertAll_mset _ v hv.2)
  | uset t ih => exact fun v hv => (vec_case c t (ih hsz hs) v hv.1).post (insertAll_uset _ v hv.2)
  | map k w ihk ihw =>
    exact fun v hv => (map_case c k w (ihk hsz.2.1 (hs.imp_right and_l)) (ihw hsz.2.2 (hs.imp_right and_r)) hsz.1 v
      hv.1).post (insertAll_set _ v hv.2)
  | mmap k w ihk ihw =>
    exact fun v hv => (map_case c k w (ihk hsz.2.1 (hs.imp_right and_l)) (ihw hsz.2.2 (hs.imp_right and_r)) hsz.1 v
      hv.1).post (insertAll_mset _ v hv.2)
  | umap k w ihk ihw =>
    exact fun v hv => (map_case c k w (ihk hsz.2.1 (hs.imp_right and_l)) (ihw hsz.2.2 (hs.imp_right and_r)) hsz.1 v
      hv.1).post (insertAll_uset _ v hv.2)
  | cnil => exact fun _ _ => reads_pure ()
  | ccons f r ihf ihr =>
    intro v hv
    rw [decode_ccons, encode_ccons]
    exact seq_reads (ihf hsz.1 (hs.imp_right and_l) v.1 hv.1) (ihr hsz.2 (hs.imp_right and_r) v.2 hv.2)

theorem decode_exact (c : Cfg) (t : Ty) (hok : t.ok = true) (hs : c.noSwap = true ∨ t.podFree = true)
    (v : Val t) (hv : wf t v) : Exact (decode c t) (encode c t v) v :=
  (decode_stable c t).exact (decode_reads c t (sized_of_ok c t hok) hs v hv)

end DmlcModel.Ser
