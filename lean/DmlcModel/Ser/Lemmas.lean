/-
What the generated serializer items (`Gen/Ser.lean`) mean (if a C++ expression or a handler-selection condition
changes, these lemmas stop compiling), `ByteSwap` of one element (it reverses it, by the invariant of its loop), the
arithmetic handler.
-/
import DmlcModel.Ser.Model


namespace DmlcModel.Ser
open DmlcModel

theorem and_l {p q : Bool} (h : (p && q) = true) : p = true := (Bool.and_eq_true_iff.mp h).1
theorem and_r {p q : Bool} (h : (p && q) = true) : q = true := (Bool.and_eq_true_iff.mp h).2

theorem countBytes_eq : Gen.Ser.countBytes = 8 := rfl

theorem noSwap_eq (c : Cfg) : c.noSwap = (c.hostLE == c.ioLE) := by
  cases c with
  | mk h i => cases h <;> cases i <;> rfl

theorem arithSwapW_eq (b : Bool) : Gen.Ser.arithSwapW b = !b := rfl
theorem arithSwapR_eq (b : Bool) : Gen.Ser.arithSwapR b = !b := rfl

/-- the generic `Handler<T>` chain picks the same handler for writing and reading -/
theorem generic_WR (a p s n : Bool) : Gen.Ser.genericW a p s n = Gen.Ser.genericR a p s n := rfl
theorem genericW_arith (n : Bool) : Gen.Ser.genericW true true false n = 0 := rfl
theorem genericW_pod (n : Bool) : Gen.Ser.genericW false true false n = if n then 1 else 3 := by cases n <;> rfl
theorem genericW_cls (n : Bool) : Gen.Ser.genericW false false true n = 2 := by cases n <;> rfl

theorem vecRawW_eq (p n : Bool) : Gen.Ser.vecRawW p n = (p && n) := rfl
theorem vecRawR_eq (p n : Bool) : Gen.Ser.vecRawR p n = (p && n) := rfl
theorem strRawW_char (n : Bool) : Gen.Ser.strRawW true n 1 = true := by cases n <;> rfl
theorem strRawR_char (n : Bool) : Gen.Ser.strRawR true n 1 = true := by cases n <;> rfl
/-- the raw `std::pair` path is selected by the same condition for writing and reading -/
theorem pairRaw_WR (pa pb n : Bool) (sa sb sp : Nat) :
    Gen.Ser.pairRawW pa pb n sa sb sp = Gen.Ser.pairRawR pa pb n sa sb sp := rfl
/-- … and only for two PODs without byte swapping -/
theorem pairRaw_imp (pa pb n : Bool) (sa sb sp : Nat) (h : Gen.Ser.pairRawW pa pb n sa sb sp = true) :
    (pa && pb && n) = true := by
  cases pa <;> cases pb <;> cases n <;> simp_all [Gen.Ser.pairRawW]
/-- the raw path is taken only for pair objects without padding (a padded one written raw is finding C15-F1) -/
theorem pairRaw_tight (pa pb n : Bool) (sa sb sp : Nat) (h : Gen.Ser.pairRawW pa pb n sa sb sp = true) :
    sp = sa + sb := by
  cases pa <;> cases pb <;> cases n <;> simp_all [Gen.Ser.pairRawW]
theorem pairFirstW_eq : Gen.Ser.pairFirstW = 0 := rfl
theorem pairFirstR_eq : Gen.Ser.pairFirstR = 0 := rfl

theorem swapBase_zero (eb : Nat) : Gen.Ser.swapBase eb 0 = 0 := by simp [Gen.Ser.swapBase, u64]
theorem swapHalf_eq (eb : Nat) : Gen.Ser.swapHalf eb = eb / 2 := rfl
theorem swapIdx_eq (eb j : Nat) (h : j < eb) (hb : eb < 2 ^ 64) : Gen.Ser.swapIdx eb j = eb - 1 - j := by
  unfold Gen.Ser.swapIdx sub64
  omega

@[simp] theorem toLE_length (n v : Nat) : (toLE n v).length = n := by
  induction n generalizing v with
  | zero => rfl
  | succ n ih => simp [toLE, ih]

theorem fromLE_toLE (n v : Nat) (h : v < 256 ^ n) : fromLE (toLE n v) = v := by
  induction n generalizing v with
  | zero => simp at h; simp [toLE, fromLE, h]
  | succ n ih =>
    have h2 : v / 256 < 256 ^ n := by
      rw [Nat.div_lt_iff_lt_mul (by decide)]; rw [Nat.pow_succ] at h; exact h
    simp only [toLE, fromLE, ih _ h2, UInt8.toNat_ofNat']
    omega

@[simp] theorem image_length (le : Bool) (n v : Nat) : (image le n v).length = n := by
  cases le <;> simp [image]

theorem unimage_image (le : Bool) (n v : Nat) (h : v < 256 ^ n) : unimage le (image le n v) = v := by
  cases le <;> simp [image, unimage, fromLE_toLE n v h]

theorem image_reverse (le : Bool) (n v : Nat) : (image le n v).reverse = image (!le) n v := by
  cases le <;> simp [image]

theorem swapLoop_length (eb : Nat) : ∀ (fuel j : Nat) (l : Bytes), (swapLoop eb fuel j l).length = l.length
  | 0, _, _ => rfl
  | fuel + 1, j, l => by
    unfold swapLoop
    split
    · split
      · rw [swapLoop_length eb fuel]; simp
      · rfl
    · rfl

/-- the loop's invariant (`n < 2 ^ 64`: the index `n - 1 - j` is computed in `size_t`) -/
theorem swapLoop_get {n : Nat} (hn : n < 2 ^ 64) : ∀ (fuel j : Nat) (l : Bytes), l.length = n → n / 2 ≤ j + fuel →
    ∀ i, i < n → (swapLoop n fuel j l)[i]? = if j ≤ i ∧ j ≤ n - 1 - i then l[n - 1 - i]? else l[i]?
  | 0, j, l, hl, hf, i, hi => by
    -- `n / 2 ≤ j`: only the middle byte of an odd length meets the condition, and it is its own mirror image
    simp only [swapLoop]
    split
    · rw [show n - 1 - i = i by omega]
    · rfl
  | fuel + 1, j, l, hl, hf, i, hi => by
    unfold swapLoop
    rw [swapHalf_eq]
    by_cases hj : j < n / 2
    · rw [if_pos hj, swapIdx_eq n j (by omega) hn, List.getElem?_eq_getElem (by omega : n - 1 - j < l.length),
        List.getElem?_eq_getElem (by omega : j < l.length)]
      simp only []
      rw [swapLoop_get hn fuel (j + 1) _ (by simp [hl]) (by omega) i hi]
      simp only [List.getElem?_set, List.length_set]
      -- what stands at `i` after the exchange of `j` and `n - 1 - j`: three cases, `i` one of the two or neither
      by_cases h1 : i = j
      · subst h1
        rw [if_neg (by omega), if_pos rfl, if_pos (by omega), if_pos (by omega), List.getElem?_eq_getElem]
      · by_cases h2 : n - 1 - j = i
        · rw [if_neg (by omega), if_neg (Ne.symm h1), if_pos h2, if_pos (by omega), if_pos (by omega),
            show n - 1 - i = j by omega, List.getElem?_eq_getElem]
        · rw [if_neg (Ne.symm h1), if_neg h2, if_neg (by omega : ¬j = n - 1 - i),
            if_neg (by omega : ¬n - 1 - j = n - 1 - i)]
          by_cases h3 : j ≤ i ∧ j ≤ n - 1 - i
          · rw [if_pos h3, if_pos (by omega)]
          · rw [if_neg h3, if_neg (by omega)]
    · rw [if_neg hj]
      split
      · rw [show n - 1 - i = i by omega]
      · rfl

theorem byteSwap1_length (bs : Bytes) : (byteSwap1 bs).length = bs.length := by
  unfold byteSwap1
  rw [swapLoop_length, swapBase_zero]
  rfl

theorem byteSwap1_eq_reverse (bs : Bytes) (h : bs.length < 2 ^ 64) : byteSwap1 bs = bs.reverse := by
  apply List.ext_getElem?
  intro i
  unfold byteSwap1
  rw [swapBase_zero, List.drop_zero]
  by_cases hi : i < bs.length
  · rw [swapLoop_get h _ _ _ rfl (by omega) i hi, if_pos ⟨Nat.zero_le _, Nat.zero_le _⟩, List.getElem?_reverse hi]
  · rw [List.getElem?_eq_none (by rw [swapLoop_length]; omega), List.getElem?_eq_none (by simp; omega)]

theorem hostLE_eq (c : Cfg) : c.hostLE = (c.noSwap == c.ioLE) := by
  rw [noSwap_eq]; cases c.hostLE <;> cases c.ioLE <;> rfl

/-- what `ArithmeticHandler::Write` puts on the stream does not depend on the byte order of the host -/
theorem arithWrite_eq (c : Cfg) (n v : Nat) (hn : c.noSwap = true ∨ n < 2 ^ 64) :
    arithWrite c n v = image c.ioLE n v := by
  unfold arithWrite
  rw [arithSwapW_eq, hostLE_eq c]
  cases hs : c.noSwap
  · rw [if_pos (by rfl), byteSwap1_eq_reverse _ (by simpa using hn.resolve_left (by simp [hs])), image_reverse]
    cases c.ioLE <;> rfl
  · cases c.ioLE <;> rfl

@[simp] theorem arithWrite_length (c : Cfg) (n v : Nat) : (arithWrite c n v).length = n := by
  unfold arithWrite
  split <;> simp [byteSwap1_length]

theorem readBytes_append (w r : Bytes) : readBytes w.length (w ++ r) = some (w, r) := by
  simp [readBytes]

theorem readBytes_none_iff (n : Nat) (s : Bytes) : readBytes n s = none ↔ s.length < n := by
  unfold readBytes; split <;> simp_all

theorem arithRead_arithWrite (c : Cfg) (n v : Nat) (hn : c.noSwap = true ∨ n < 2 ^ 64) (hv : v < 256 ^ n) (r : Bytes) :
    arithRead c n (arithWrite c n v ++ r) = some (v, r) := by
  have hr := readBytes_append (arithWrite c n v) r
  rw [arithWrite_length c n v] at hr
  unfold arithRead
  rw [hr, arithWrite_eq c n v hn, arithSwapR_eq, hostLE_eq c]
  cases hs : c.noSwap
  · simp only [Bool.not_false, if_true]
    rw [byteSwap1_eq_reverse _ (by simpa using hn.resolve_left (by simp [hs])), image_reverse]
    cases c.ioLE <;> exact congrArg (fun x => some (x, r)) (unimage_image _ n v hv)
  · cases c.ioLE <;> exact congrArg (fun x => some (x, r)) (unimage_image _ n v hv)

theorem count_mod {len : Nat} (h : len < 2 ^ 64) : len % 256 ^ Gen.Ser.countBytes = len := Nat.mod_eq_of_lt h

theorem countRead_countWrite (c : Cfg) (len : Nat) (h : len < 2 ^ 64) (r : Bytes) :
    countRead c (countWrite c len ++ r) = some (len, r) := by
  unfold countRead countWrite
  rw [count_mod h]
  exact arithRead_arithWrite c 8 len (Or.inr (by decide)) h r

theorem countWrite_eq (c : Cfg) (len : Nat) (h : len < 2 ^ 64) : countWrite c len = image c.ioLE 8 len := by
  unfold countWrite
  rw [count_mod h]
  exact arithWrite_eq c 8 len (Or.inr (by decide))

theorem encode_arith (c : Cfg) (k : AK) (n : Nat) (v : Val (.arith k n)) :
    encode c (.arith k n) v = arithWrite c n v := by
  simp only [encode, genericW_arith, if_true]

theorem decode_arith (c : Cfg) (k : AK) (n : Nat) : decode c (.arith k n) = arithRead c n := by
  funext s
  simp only [decode, ← generic_WR, genericW_arith, if_true]

theorem encode_pod (c : Cfg) (hs : c.noSwap = true) (sz a : Nat) (v : Val (.pod sz a)) :
    encode c (.pod sz a) v = v := by
  simp only [encode, genericW_pod, hs, if_true]

theorem decode_pod (c : Cfg) (hs : c.noSwap = true) (sz a : Nat) : decode c (.pod sz a) = readBytes sz := by
  funext s
  simp only [decode, ← generic_WR, genericW_pod, hs, if_true]

theorem encode_ccons (c : Cfg) (f r : Ty) (p : Val f × Val r) :
    encode c (.ccons f r) p = encode c f p.1 ++ encode c r p.2 := by
  simp only [encode, genericW_cls, if_true]

theorem decode_ccons (c : Cfg) (f r : Ty) : decode c (.ccons f r) = seqRead (decode c f) (decode c r) := by
  funext s
  simp only [decode, ← generic_WR, genericW_cls, if_true]

theorem roundUp_ge (x a : Nat) (ha : 0 < a) : x ≤ roundUp x a := by
  unfold roundUp
  have h1 := Nat.div_add_mod (x + a - 1) a
  have h2 := Nat.mod_lt (x + a - 1) ha
  have h3 : a * ((x + a - 1) / a) = (x + a - 1) / a * a := Nat.mul_comm _ _
  omega

end DmlcModel.Ser
