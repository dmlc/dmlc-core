import DmlcModel.Basic
import DmlcModel.BasicLemmas
import DmlcModel.CQueue.Event
import DmlcModel.CQueue.Invariant
import DmlcModel.CQueue.Lemmas
import DmlcModel.CQueue.Model
import DmlcModel.CQueue.Progress
import DmlcModel.CQueue.Trans
import DmlcModel.ExceptLemmas
import DmlcModel.Gen.CQueue
import DmlcModel.Gen.Indexed
import DmlcModel.Gen.Json
import DmlcModel.Gen.Param
import DmlcModel.Gen.Parse
import DmlcModel.Gen.RecordIO
import DmlcModel.Gen.RowBlock
import DmlcModel.Gen.Ser
import DmlcModel.Gen.Split
import DmlcModel.Gen.StrToNum
import DmlcModel.Gen.Streams
import DmlcModel.Gen.TIter
import DmlcModel.Gen.Tracker
import DmlcModel.Gen.Wrap
import DmlcModel.Indexed.Batch
import DmlcModel.Indexed.Defs
import DmlcModel.Indexed.Extract
import DmlcModel.Indexed.Index
import DmlcModel.Indexed.Lemmas
import DmlcModel.Indexed.Model
import DmlcModel.Indexed.Ops
import DmlcModel.Indexed.Run
import DmlcModel.Indexed.Wrap
import DmlcModel.Json.Canon
import DmlcModel.Json.IStreamInt
import DmlcModel.Json.IStreamIntLemmas
import DmlcModel.Json.Layout
import DmlcModel.Json.Lemmas
import DmlcModel.Json.Model
import DmlcModel.Json.ReaderSpec
import DmlcModel.Json.RoundTrip
import DmlcModel.Json.Total
import DmlcModel.Json.Typed
import DmlcModel.Json.WellFormed
import DmlcModel.Json.WriterSpec
import DmlcModel.Param.Dict
import DmlcModel.Param.EntryMap
import DmlcModel.Param.FloatC14
import DmlcModel.Param.FloatImpl
import DmlcModel.Param.FloatRoundTrip
import DmlcModel.Param.IStream
import DmlcModel.Param.Lemmas
import DmlcModel.Param.Literal
import DmlcModel.Param.Model
import DmlcModel.Param.Spec
import DmlcModel.Parse.Block
import DmlcModel.Parse.CellBlank
import DmlcModel.Parse.ChunkBound
import DmlcModel.Parse.Concat
import DmlcModel.Parse.ConvSimple
import DmlcModel.Parse.ConvStrToNum
import DmlcModel.Parse.Csv
import DmlcModel.Parse.Cuts
import DmlcModel.Parse.FillRows
import DmlcModel.Parse.Fm
import DmlcModel.Parse.Formats
import DmlcModel.Parse.Lemmas
import DmlcModel.Parse.Model
import DmlcModel.Parse.ParserNext
import DmlcModel.Parse.Render
import DmlcModel.Parse.RenderCsv
import DmlcModel.Parse.RenderFm
import DmlcModel.Parse.RenderTable
import DmlcModel.Parse.Rows
import DmlcModel.Parse.Slices
import DmlcModel.Parse.Spec
import DmlcModel.Parse.SplitBridge
import DmlcModel.Parse.Svm
import DmlcModel.Parse.Table
import DmlcModel.Props.C01
import DmlcModel.Props.C01Witness
import DmlcModel.Props.C02
import DmlcModel.Props.C02Witness
import DmlcModel.Props.C03
import DmlcModel.Props.C03Files
import DmlcModel.Props.C03Witness
import DmlcModel.Props.C04
import DmlcModel.Props.C04Chunk
import DmlcModel.Props.C04Files
import DmlcModel.Props.C04Witness
import DmlcModel.Props.C05
import DmlcModel.Props.C05Shuffle
import DmlcModel.Props.C05ShuffleRec
import DmlcModel.Props.C05ShuffleText
import DmlcModel.Props.C05Witness
import DmlcModel.Props.C06
import DmlcModel.Props.C06Witness
import DmlcModel.Props.C07
import DmlcModel.Props.C07Lifecycle
import DmlcModel.Props.C07Witness
import DmlcModel.Props.C08
import DmlcModel.Props.C08Witness
import DmlcModel.Props.C09
import DmlcModel.Props.C09Witness
import DmlcModel.Props.C10
import DmlcModel.Props.C10Witness
import DmlcModel.Props.C11
import DmlcModel.Props.C11Pipeline
import DmlcModel.Props.C11Threaded
import DmlcModel.Props.C11Witness
import DmlcModel.Props.C12
import DmlcModel.Props.C12Csv
import DmlcModel.Props.C12Fm
import DmlcModel.Props.C13
import DmlcModel.Props.C13Witness
import DmlcModel.Props.C14
import DmlcModel.Props.C14Witness
import DmlcModel.Props.C15
import DmlcModel.Props.C15RowBlock
import DmlcModel.Props.C15Witness
import DmlcModel.Props.C16
import DmlcModel.Props.C16Witness
import DmlcModel.Props.C17
import DmlcModel.Props.C17Witness
import DmlcModel.Props.C18
import DmlcModel.Props.C18Witness
import DmlcModel.Props.C19
import DmlcModel.Props.C19Witness
import DmlcModel.Props.C20
import DmlcModel.Props.C20Witness
import DmlcModel.RecordIO.ChunkRead
import DmlcModel.RecordIO.Image
import DmlcModel.RecordIO.Lemmas
import DmlcModel.RecordIO.Model
import DmlcModel.RecordIO.Resync
import DmlcModel.RecordIO.RoundTrip
import DmlcModel.RecordIO.Tiling
import DmlcModel.RecordIO.Words
import DmlcModel.RowBlock.Iter
import DmlcModel.RowBlock.Lemmas
import DmlcModel.RowBlock.Model
import DmlcModel.RowBlock.Parser
import DmlcModel.RowBlock.Push
import DmlcModel.RowBlock.SaveLoad
import DmlcModel.RowBlock.Spec
import DmlcModel.Ser.Layout
import DmlcModel.Ser.Lemmas
import DmlcModel.Ser.Model
import DmlcModel.Ser.RoundTrip
import DmlcModel.Ser.Spec
import DmlcModel.Ser.Stable
import DmlcModel.SortedMap
import DmlcModel.Split.ChunkLemmas
import DmlcModel.Split.CleanLemmas
import DmlcModel.Split.CoverRec
import DmlcModel.Split.CoverReset
import DmlcModel.Split.CoverText
import DmlcModel.Split.Defs
import DmlcModel.Split.Drain
import DmlcModel.Split.DrainLemmas
import DmlcModel.Split.Files
import DmlcModel.Split.FilesCanon
import DmlcModel.Split.FilesInit
import DmlcModel.Split.FilesListing
import DmlcModel.Split.FilesRecursive
import DmlcModel.Split.FilesSpec
import DmlcModel.Split.FixLemmas
import DmlcModel.Split.Footprint
import DmlcModel.Split.GroupKeys
import DmlcModel.Split.Model
import DmlcModel.Split.OffsetLemmas
import DmlcModel.Split.ReadLemmas
import DmlcModel.Split.RecDrain
import DmlcModel.Split.RecLemmas
import DmlcModel.Split.RecSnap
import DmlcModel.Split.Shuffle
import DmlcModel.Split.ShuffleLemmas
import DmlcModel.Split.SnapLemmas
import DmlcModel.Split.SnapText
import DmlcModel.Split.Spec
import DmlcModel.Split.StreamLemmas
import DmlcModel.Split.TextLemmas
import DmlcModel.Split.Unfold
import DmlcModel.Split.WrapView
import DmlcModel.StrToNum.Accuracy
import DmlcModel.StrToNum.Analysis
import DmlcModel.StrToNum.Calc
import DmlcModel.StrToNum.EndPtr
import DmlcModel.StrToNum.Int
import DmlcModel.StrToNum.Lemmas
import DmlcModel.StrToNum.Mantissa
import DmlcModel.StrToNum.Model
import DmlcModel.StrToNum.Round
import DmlcModel.StrToNum.ScaleTable
import DmlcModel.StrToNum.Scaling
import DmlcModel.StrToNum.Spec
import DmlcModel.StrToNum.Trunc
import DmlcModel.StrToNum.Value
import DmlcModel.Streams.IStream
import DmlcModel.Streams.IStreamSet
import DmlcModel.Streams.Lemmas
import DmlcModel.Streams.Mem
import DmlcModel.Streams.Model
import DmlcModel.Streams.OStream
import DmlcModel.Streams.Spec
import DmlcModel.TIter.Corollaries
import DmlcModel.TIter.Deadlock
import DmlcModel.TIter.Defs
import DmlcModel.TIter.InvA
import DmlcModel.TIter.InvB
import DmlcModel.TIter.InvC
import DmlcModel.TIter.InvD
import DmlcModel.TIter.InvE
import DmlcModel.TIter.Invariant
import DmlcModel.TIter.Lemmas
import DmlcModel.TIter.Lifecycle
import DmlcModel.TIter.Measure
import DmlcModel.TIter.Model
import DmlcModel.TIter.Progress
import DmlcModel.TIter.Runs
import DmlcModel.TIter.Trans
import DmlcModel.Tracker.Final
import DmlcModel.Tracker.Lemmas
import DmlcModel.Tracker.LinkMap
import DmlcModel.Tracker.Model
import DmlcModel.Tracker.Ring
import DmlcModel.Wrap.Base
import DmlcModel.Wrap.BaseLink
import DmlcModel.Wrap.Cached
import DmlcModel.Wrap.Defs
import DmlcModel.Wrap.Lemmas
import DmlcModel.Wrap.Model
import DmlcModel.Wrap.Name
import DmlcModel.Wrap.NameLemmas
import DmlcModel.Wrap.TIterLink
import DmlcModel.Wrap.Threaded
/-! Every module of the library, so that a plain `lake build` checks all of them (the checks build the modules they need by name). A new module is added here. -/
